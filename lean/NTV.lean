import NTV.Model.Algebraic
import NTV.Model.Draw
import NTV.Model.Ecm
import NTV.Model.Elementary
import NTV.Model.Hnf
import NTV.Model.Ideal
import NTV.Model.Inv
import NTV.Model.Kron
import NTV.Model.LinAlg
import NTV.Model.LllOps
import NTV.Model.Order
import NTV.Model.PolyG
import NTV.Model.PolyMod
import NTV.Model.PolyModFactor
import NTV.Model.PolyModHensel
import NTV.Model.PolyModLinear
import NTV.Model.PolyZ
import NTV.Model.Polynomial
import NTV.Model.Prime
import NTV.Model.Resultant
import NTV.Model.Round2
import NTV.Model.RowOps
import NTV.Model.Trial
import NTV.Proofs.C01
import NTV.Proofs.C02
import NTV.Proofs.C03
import NTV.Proofs.C04
import NTV.Proofs.C05
import NTV.Proofs.C06
import NTV.Proofs.C07
import NTV.Proofs.C08
import NTV.Proofs.C09
import NTV.Proofs.C10
import NTV.Proofs.C11
import NTV.Proofs.C12
import NTV.Proofs.C13
import NTV.Proofs.C14
import NTV.Proofs.C15
import NTV.Proofs.C16
import NTV.Proofs.C17
import NTV.Proofs.C18
import NTV.Proofs.C19
import NTV.Proofs.C20
import NTV.Proofs.Lemmas.AlgLaws
import NTV.Proofs.Lemmas.AlgProofs
import NTV.Proofs.Lemmas.ContPP
import NTV.Proofs.Lemmas.DecompProofsA
import NTV.Proofs.Lemmas.DecompProofsB
import NTV.Proofs.Lemmas.DecompProofsC
import NTV.Proofs.Lemmas.DetLemmas
import NTV.Proofs.Lemmas.DiscrTrace
import NTV.Proofs.Lemmas.DrawUniform
import NTV.Proofs.Lemmas.EcmDriverInv
import NTV.Proofs.Lemmas.EcmDriverRun
import NTV.Proofs.Lemmas.EcmDriverUnique
import NTV.Proofs.Lemmas.EcmDriverWrap
import NTV.Proofs.Lemmas.EcmProofs
import NTV.Proofs.Lemmas.ElemProofs
import NTV.Proofs.Lemmas.EnumCheckBasic
import NTV.Proofs.Lemmas.EnumCheckBox
import NTV.Proofs.Lemmas.EnumCheckCS
import NTV.Proofs.Lemmas.EnumCheckInv
import NTV.Proofs.Lemmas.EnumCheckMain
import NTV.Proofs.Lemmas.EnumCheckSylv
import NTV.Proofs.Lemmas.ErrProb
import NTV.Proofs.Lemmas.FactorModPBasics
import NTV.Proofs.Lemmas.FactorModPIrred
import NTV.Proofs.Lemmas.FactorModPMain
import NTV.Proofs.Lemmas.FactorModPMult
import NTV.Proofs.Lemmas.FactorModPSquarefree
import NTV.Proofs.Lemmas.FactorModPStages
import NTV.Proofs.Lemmas.FieldDiscA
import NTV.Proofs.Lemmas.FieldDiscC
import NTV.Proofs.Lemmas.FieldDiscD
import NTV.Proofs.Lemmas.FloorDivProofs
import NTV.Proofs.Lemmas.GcdDvd
import NTV.Proofs.Lemmas.GcdShape
import NTV.Proofs.Lemmas.HenselAlg
import NTV.Proofs.Lemmas.HenselBridge
import NTV.Proofs.Lemmas.HenselModel
import NTV.Proofs.Lemmas.HenselMulti
import NTV.Proofs.Lemmas.HenselTwo
import NTV.Proofs.Lemmas.HenselWitness
import NTV.Proofs.Lemmas.HnfCanon
import NTV.Proofs.Lemmas.HnfDet
import NTV.Proofs.Lemmas.HnfGlue
import NTV.Proofs.Lemmas.HnfKernel
import NTV.Proofs.Lemmas.HnfProofs
import NTV.Proofs.Lemmas.HnfShape
import NTV.Proofs.Lemmas.HnfTotal
import NTV.Proofs.Lemmas.HnfUnique
import NTV.Proofs.Lemmas.IdealInvA
import NTV.Proofs.Lemmas.IdealInvB
import NTV.Proofs.Lemmas.IdealInvC
import NTV.Proofs.Lemmas.IdealInvD
import NTV.Proofs.Lemmas.IdealInvE
import NTV.Proofs.Lemmas.IdealInvF
import NTV.Proofs.Lemmas.IdealNormA
import NTV.Proofs.Lemmas.IdealNormB
import NTV.Proofs.Lemmas.IdealNormC
import NTV.Proofs.Lemmas.IdealNormD
import NTV.Proofs.Lemmas.IdealNormE
import NTV.Proofs.Lemmas.IdealProofsA
import NTV.Proofs.Lemmas.IdealProofsB
import NTV.Proofs.Lemmas.IdealProofsC
import NTV.Proofs.Lemmas.IdealProofsD
import NTV.Proofs.Lemmas.InvDiffA
import NTV.Proofs.Lemmas.InvDiffB
import NTV.Proofs.Lemmas.InvDiffC
import NTV.Proofs.Lemmas.InvDiffD
import NTV.Proofs.Lemmas.InvProofs
import NTV.Proofs.Lemmas.KronFull
import NTV.Proofs.Lemmas.KronProofs
import NTV.Proofs.Lemmas.KummerDedekindA
import NTV.Proofs.Lemmas.KummerDedekindB
import NTV.Proofs.Lemmas.KummerDedekindC
import NTV.Proofs.Lemmas.KummerDedekindD
import NTV.Proofs.Lemmas.KummerDedekindE
import NTV.Proofs.Lemmas.KummerDedekindF
import NTV.Proofs.Lemmas.KummerDedekindG
import NTV.Proofs.Lemmas.LinAlgIim
import NTV.Proofs.Lemmas.LinAlgImgArith
import NTV.Proofs.Lemmas.LinAlgImgFinal
import NTV.Proofs.Lemmas.LinAlgImgInv
import NTV.Proofs.Lemmas.LinAlgImgStep
import NTV.Proofs.Lemmas.LinAlgProofs
import NTV.Proofs.Lemmas.LinAlgSupp
import NTV.Proofs.Lemmas.LllCheck
import NTV.Proofs.Lemmas.LllCheckGso
import NTV.Proofs.Lemmas.LllCheckMath
import NTV.Proofs.Lemmas.LllOpsProofs
import NTV.Proofs.Lemmas.MatCheck
import NTV.Proofs.Lemmas.MaxOrderClosedA
import NTV.Proofs.Lemmas.MaxOrderClosedB
import NTV.Proofs.Lemmas.MaxOrderClosedC
import NTV.Proofs.Lemmas.MaxOrderClosedD
import NTV.Proofs.Lemmas.NoPanicDecompose
import NTV.Proofs.Lemmas.NoPanicFactorA
import NTV.Proofs.Lemmas.NoPanicFactorB
import NTV.Proofs.Lemmas.NoPanicFactorC
import NTV.Proofs.Lemmas.NoPanicLinear
import NTV.Proofs.Lemmas.NoPanicTraceAlg
import NTV.Proofs.Lemmas.NoPanicZassenhaus
import NTV.Proofs.Lemmas.NoPanicZassenhaus2
import NTV.Proofs.Lemmas.NormResAdj
import NTV.Proofs.Lemmas.NormResCtx
import NTV.Proofs.Lemmas.NormResFinal
import NTV.Proofs.Lemmas.NormResMat
import NTV.Proofs.Lemmas.OrdCanon
import NTV.Proofs.Lemmas.OrdProofs
import NTV.Proofs.Lemmas.OrdSpan
import NTV.Proofs.Lemmas.OrdUnionCanon
import NTV.Proofs.Lemmas.OrdUnionLat
import NTV.Proofs.Lemmas.OrdUnionPower
import NTV.Proofs.Lemmas.OrdUnionSpan
import NTV.Proofs.Lemmas.PolyDivExact
import NTV.Proofs.Lemmas.PolyDivZ
import NTV.Proofs.Lemmas.PolyDivremMod
import NTV.Proofs.Lemmas.PolyGProofs
import NTV.Proofs.Lemmas.PolyGcdMod
import NTV.Proofs.Lemmas.PolyModBasics
import NTV.Proofs.Lemmas.PolyModLinearMain
import NTV.Proofs.Lemmas.PolyModLinearSteps
import NTV.Proofs.Lemmas.PolyModOpsZMod
import NTV.Proofs.Lemmas.PolyModZMod
import NTV.Proofs.Lemmas.PolyRing
import NTV.Proofs.Lemmas.PolyZProofs1
import NTV.Proofs.Lemmas.PolyZProofs2
import NTV.Proofs.Lemmas.PolyZProofs3
import NTV.Proofs.Lemmas.PolyZProofs4
import NTV.Proofs.Lemmas.PrimeProofs
import NTV.Proofs.Lemmas.PrimeStream
import NTV.Proofs.Lemmas.PrimeWitness
import NTV.Proofs.Lemmas.PrimesIter
import NTV.Proofs.Lemmas.RabinMonierArith
import NTV.Proofs.Lemmas.RabinMonierBound
import NTV.Proofs.Lemmas.RabinMonierCount
import NTV.Proofs.Lemmas.RabinMonierGroup
import NTV.Proofs.Lemmas.RabinMonierLiars
import NTV.Proofs.Lemmas.RabinMonierMain
import NTV.Proofs.Lemmas.RabinMonierModel
import NTV.Proofs.Lemmas.ResProofs
import NTV.Proofs.Lemmas.ResRatProofs
import NTV.Proofs.Lemmas.Round2ProofsA
import NTV.Proofs.Lemmas.Round2ProofsB
import NTV.Proofs.Lemmas.Round2ProofsC
import NTV.Proofs.Lemmas.Round2ProofsD
import NTV.Proofs.Lemmas.Round2ProofsE
import NTV.Proofs.Lemmas.Round2ProofsF
import NTV.Proofs.Lemmas.Round2ProofsG
import NTV.Proofs.Lemmas.Round2RingA
import NTV.Proofs.Lemmas.Round2RingB
import NTV.Proofs.Lemmas.Round2RingC
import NTV.Proofs.Lemmas.Round2RingD
import NTV.Proofs.Lemmas.Round2RingE
import NTV.Proofs.Lemmas.Round2RingF
import NTV.Proofs.Lemmas.Round2RingG
import NTV.Proofs.Lemmas.Round2RingH
import NTV.Proofs.Lemmas.Round2RingI
import NTV.Proofs.Lemmas.Round2RingJ
import NTV.Proofs.Lemmas.Round2RingK
import NTV.Proofs.Lemmas.Round2RingL
import NTV.Proofs.Lemmas.Round2RingM
import NTV.Proofs.Lemmas.Round2RingN
import NTV.Proofs.Lemmas.Round2Start
import NTV.Proofs.Lemmas.RowOpsProofs
import NTV.Proofs.Lemmas.SieveProofs
import NTV.Proofs.Lemmas.Subres0Det
import NTV.Proofs.Lemmas.Subres0Sres
import NTV.Proofs.Lemmas.Subres1Step
import NTV.Proofs.Lemmas.Subres2Gcd
import NTV.Proofs.Lemmas.Subres2Loop
import NTV.Proofs.Lemmas.SubresLoop
import NTV.Proofs.Lemmas.SubresStep
import NTV.Proofs.Lemmas.TableAbs
import NTV.Proofs.Lemmas.TableProofs
import NTV.Proofs.Lemmas.TableProofs2
import NTV.Proofs.Lemmas.TrialProofs
import NTV.Proofs.Lemmas.ZassenhausCombine
import NTV.Proofs.Lemmas.ZassenhausHensel
import NTV.Proofs.Lemmas.ZassenhausMain
import NTV.Proofs.Lemmas.ZassenhausMignotte
import NTV.Proofs.Lemmas.ZassenhausAnyBound
import NTV.Proofs.Lemmas.ZassenhausModel
import NTV.Proofs.Lemmas.ZassenhausPrimes
import NTV.Proofs.Lemmas.ZassenhausRecomb
import NTV.Spec.Elementary
import NTV.Spec.Enum
import NTV.Spec.Factor
import NTV.Spec.Field
import NTV.Spec.Ideal
import NTV.Spec.LinAlg
import NTV.Spec.Lll
import NTV.Spec.Mat
import NTV.Spec.MaxOrder
import NTV.Spec.Muk
import NTV.Spec.Poly
import NTV.Spec.PolyMod
import NTV.Spec.PolyZ
import NTV.Spec.PolyZBound
import NTV.Spec.Resultant
