import NTV.Proofs.Lemmas.EcmProofs
import NTV.Proofs.Lemmas.TrialProofs
import NTV.Proofs.Lemmas.EcmDriverUnique
import NTV.Proofs.Lemmas.EcmDriverWrap
import Mathlib.Tactic.NormNum.Prime
/-! # C01 — integer factorisation: what is proved about the model
(`NTV.Ecm` = ecm.rs + ecm_parallel.rs, `NTV.Trial` = factorize.rs; tied to the code by the
correspondence check, which replays the captured random history of every run into the model).
The theorems of this file are the properties. What they rest on is in `NTV.Proofs.Lemmas`: `EcmProofs` (exits of
`ecm_oneshot`), `EcmDriverRun` (the driver as a transition system, the curve loops), `EcmDriverInv` (the two
driver invariants), `EcmDriverUnique` (uniqueness of the factorisation), `EcmDriverWrap` (the release wrap
witness), `TrialProofs` (trial division). Besides theorems the file has `okResult`, `zchunk` and the closed
runs `run12_*`, which the non-vacuity examples use.

Not theorems (see `lib/propinfo.py`, gaps): termination of the curve loop (probabilistic; false for a
constant stream), primality of what `is_prime` accepts (Miller–Rabin, C13), `select_b`'s float formula. -/
namespace NTV.C01
open NTV.Ecm

/-- Trial division, full: for every n ≥ 1 the model of `factorize::factorize` terminates and returns
primes with positive exponents, strictly increasing, with product n. -/
theorem trial_division_correct (n : Nat) (hn : 1 ≤ n) :
    n = NTV.Trial.prodOf (NTV.Trial.factorize n) ∧
    (∀ qe ∈ NTV.Trial.factorize n, qe.1.Prime ∧ 0 < qe.2) ∧
    (NTV.Trial.factorize n).Pairwise (fun a b => a.1 < b.1) := NTV.Trial.factorize_correct n hn

/-- Every `Err(d)` leaving `ecm_oneshot` is a non-negative divisor of n — for all points, curves,
bounds and both build profiles. -/
theorem oneshot_err_divides (pt : Point) (a n : Int) (b1 b2 : Nat) (prof : Profile) (d : Int)
    (h : ecmOneshot pt a n b1 b2 prof = .factor d) : d ∣ n ∧ 0 ≤ d :=
  ecmOneshot_factor_dvd pt a n b1 b2 prof d h

/-- The same for the batched version (one Montgomery inversion per step for the whole batch). -/
theorem oneshot_parallel_err_divides (pts : List Point) (as : List Int) (n : Int) (b1 b2 : Nat)
    (prof : Profile) (d : Int) (h : ecmOneshotParallel pts as n b1 b2 prof = .factor d) : d ∣ n ∧ 0 ≤ d :=
  ecmOneshotParallel_factor_dvd pts as n b1 b2 prof d h

/-- `ecm::ecm`: whatever it returns is a proper divisor, for every n > 1, all bounds, every stream of
random draws, both profiles. -/
theorem ecm_returns_proper_divisor (n : Int) (hn : 1 < n) (b1 b2 : Nat) (stream : NTV.Draw.Stream)
    (fuel : Nat) (prof : Profile) (fac : Int) (c : Nat) (rest : NTV.Draw.Stream)
    (h : ecm n b1 b2 stream fuel prof = .found fac c rest) : 1 < fac ∧ fac < n ∧ fac ∣ n :=
  have ⟨⟨hd, h1, h2⟩, _⟩ := ecm_found n b1 b2 stream fuel prof fac c rest h
  proper_of n fac hn hd h1 h2

/-- `ecm_parallel::ecm`: likewise. -/
theorem ecm_parallel_returns_proper_divisor (n : Int) (hn : 1 < n) (b1 b2 : Nat) (stream : NTV.Draw.Stream)
    (fuel : Nat) (prof : Profile) (fac : Int) (c : Nat) (rest : NTV.Draw.Stream)
    (h : ecmParallel n b1 b2 stream fuel prof = .found fac c rest) : 1 < fac ∧ fac < n ∧ fac ∣ n :=
  have ⟨⟨hd, h1, h2⟩, _⟩ := ecmParallel_found n b1 b2 stream fuel prof fac c rest h
  proper_of n fac hn hd h1 h2

/-- Sequential driver (dev profile), exactness: if `factorize_verbose(x)` returns, the product of the
returned `p^e` is x — for every x, every B1, every stream of draws. -/
theorem driver_seq_product (x : Int) (b : Nat) (stream : NTV.Draw.Stream) (fuel : Nat)
    (result : List (Int × Nat)) (count : Nat) (rest : NTV.Draw.Stream)
    (h : factorizeSeq x b stream fuel .dev = .ok result count rest) : prodPairs result = x :=
  ((factorizeWith_ok (goodSplit_seq .dev) h).2.2.2.2 (Or.inl rfl)).1

/-- Batched driver (dev profile), exactness. This driver calls `select_b(&now)` for every work item it
hands to ECM: `b` is select_b(x) and `btab` lists select_b(d) for the other items above 1000; the
statement holds for every `b` and every table (the bound never matters for correctness; an item
missing from the table ends the run as `.inconclusive`, never with a value). -/
theorem driver_par_product (x : Int) (b : Nat) (btab : List (Int × Nat)) (stream : NTV.Draw.Stream) (fuel : Nat)
    (result : List (Int × Nat)) (count : Nat) (rest : NTV.Draw.Stream)
    (h : factorizePar x b btab stream fuel .dev = .ok result count rest) : prodPairs result = x :=
  ((factorizeWith_ok (goodSplit_par .dev) h).2.2.2.2 (Or.inl rfl)).1

/-- Dev profile: the two stage-2 starting exponents are computed without overflow/underflow for every
B1 < 2^64 − 1 (without the `max … 6`, `(b1 + 1) / 6 * 6 - 1` underflows at every B1 < 5). -/
theorem stage2_start_dev_ok (b1 : Nat) (h : b1 + 1 < two64) :
    stage2Inits .dev b1 = .ok ((b1 - 1) / 6 * 6 + 1, max ((b1 + 1) / 6 * 6) 6 - 1) := by
  have e1 : (b1 - 1) / 6 * 6 + 1 < two64 :=
    lt_of_le_of_lt (Nat.add_le_add_right (Nat.div_mul_le_self (b1 - 1) 6) 1) (by omega)
  unfold stage2Inits
  rw [mulU64_dev_ok _ _ (Nat.lt_of_succ_lt e1)]
  simp only [bind, Except.bind]
  rw [addU64_dev_ok _ _ e1]
  simp only
  rw [addU64_dev_ok _ _ h]
  simp only
  rw [mulU64_dev_ok _ _ (lt_of_le_of_lt (Nat.div_mul_le_self (b1 + 1) 6) h)]
  simp only
  rw [subU64_dev_ok _ _ (le_trans (by decide) (le_max_right _ 6))]
  rfl

/-- Dev profile: `ecm_oneshot` never panics when B1 + 1 and B2 + 6 fit in u64 (select_b returns at
most u64::MAX / 100 and the drivers use B2 = 100·B1). -/
theorem oneshot_dev_never_panics (pt : Point) (a n : Int) (b1 b2 : Nat)
    (h1 : b1 + 1 < two64) (h2 : b2 + 6 < two64) (k : String) :
    ecmOneshot pt a n b1 b2 .dev ≠ .panic k := by
  have hP : Benign (fun s => ∃ k, s = Stop.panic k) :=
    ⟨fun d ⟨k, hk⟩ => (by cases hk), fun ⟨k, hk⟩ => (by cases hk), fun ⟨k, hk⟩ => (by cases hk)⟩
  refine fun h => ecmOneshot_exits (hP.regular n) pt a ?_ ?_ ?_ ⟨k, h⟩
  · intro k e; rw [addU64_dev_ok _ _ h1] at e; cases e
  · intro k e; rw [stage2_start_dev_ok _ h1] at e; cases e
  · intro cur k hle e; rw [addU64_dev_ok _ _ (by omega)] at e; cases e

/-- non-vacuity: an `Err` does occur (z = 3 modulo 15), and the B1 = 4 start values are (1, 5) -/
example : simplify ⟨1, 1, 3⟩ 15 = .error 3 := by
  unfold simplify
  have h : (Int.gcd 3 15 : Int) = 3 := by decide
  simp [(NTV.inv_spec 3 15 (by decide)).2 (by decide), h]
example : stage2Inits .dev 4 = .ok (1, 5) := by decide

/-! ## The work-stack drivers: product (both profiles), sortedness, provenance of the entries, uniqueness

`factorizeSeq` = `ecm::factorize_verbose`, `factorizePar` = `ecm_parallel::factorize_verbose` (what
`rfactor` calls). The sequential driver uses one bound `b = select_b(x)` for the whole run; the batched
driver uses `select_b(&now)` per work item (`parBsel x b btab`: 4 for now ≤ 1000, `b` for now = x, else
the table `btab`). Every statement about `factorizePar` is for every `b` and every `btab`.
All statements are about runs that return (`.ok result count rest`): termination of
the curve loop is probabilistic and is not a theorem.

Why `driver_seq_product` and `driver_par_product` above say `.dev`: multiplicities are `u64`. With overflow checks a wrapped
`multiplicity * k` or `+= multiplicity` panics; in release it wraps silently, and then the product is
wrong. A multiplicity e always satisfies `2^e ≤ p^e ≤ x`, so wrapping needs `x ≥ 2^(2^64)`
(an input of more than 2 EiB): the release theorems carry the hypothesis `x < 2 ^ two64`
(`two64 = 2^64`), and `release_wrap_witness` shows that at `x = 2^(2^64)` the release drivers return a wrong answer. -/

/-- `FacRes.ok` projected on its result (for the closed examples; `FacRes` has no decidable equality) -/
def okResult : FacRes → Option (List (Int × Nat))
  | .ok r _ _ => some r
  | _ => none

theorem okResult_some (r : FacRes) (l : List (Int × Nat)) (h : okResult r = some l) :
    ∃ count rest, r = .ok l count rest := by
  cases r with
  | ok r c s => simp only [okResult, Option.some.injEq] at h; subst h; exact ⟨c, s, rfl⟩
  | panic k => simp [okResult] at h
  | inconclusive w => simp [okResult] at h

/-- the all-zero 4-byte chunk: every draw decodes to the lower bound of its range -/
def zchunk : List Nat := [0, 0, 0, 0]

/-- Sequential driver, **release** profile, exactness: the product of the returned `p^e` is x, for
every `x < 2^(2^64)`, every B1, every stream of draws. -/
theorem driver_seq_product_release (x : Int) (hx : x < 2 ^ two64) (b : Nat) (stream : NTV.Draw.Stream)
    (fuel : Nat) (result : List (Int × Nat)) (count : Nat) (rest : NTV.Draw.Stream)
    (h : factorizeSeq x b stream fuel .release = .ok result count rest) : prodPairs result = x :=
  ((factorizeWith_ok (goodSplit_seq .release) h).2.2.2.2 (Or.inr hx)).1

/-- Batched driver, **release** profile, exactness (same hypothesis; every B1 and every table of per-item bounds). -/
theorem driver_par_product_release (x : Int) (hx : x < 2 ^ two64) (b : Nat) (btab : List (Int × Nat)) (stream : NTV.Draw.Stream)
    (fuel : Nat) (result : List (Int × Nat)) (count : Nat) (rest : NTV.Draw.Stream)
    (h : factorizePar x b btab stream fuel .release = .ok result count rest) : prodPairs result = x :=
  ((factorizeWith_ok (goodSplit_par .release) h).2.2.2.2 (Or.inr hx)).1

/-- The hypothesis `x < 2^(2^64)` of the release theorems is needed, and the property "the product is
x" is **false in release at x = 2^(2^64)**: for every B1, every stream and every fuel ≥ 2 both drivers
find the perfect power `2^(2^64)`, compute the multiplicity `1 * 2^64 mod 2^64 = 0` and return
`[(2, 0)]`, whose product is 1. (In dev the same run panics with "overflow".) -/
theorem release_wrap_witness (b : Nat) (btab : List (Int × Nat)) (stream : NTV.Draw.Stream) (fuel : Nat) :
    factorizeSeq (((2 ^ two64 : Nat)) : Int) b stream (fuel + 2) .release = .ok [(2, 0)] 0 stream ∧
    factorizePar (((2 ^ two64 : Nat)) : Int) b btab stream (fuel + 2) .release = .ok [(2, 0)] 0 stream ∧
    prodPairs [(2, 0)] ≠ (((2 ^ two64 : Nat)) : Int) :=
  ⟨factorizeWith_release_wrap _ _ stream fuel, factorizeWith_release_wrap _ _ stream fuel, wrap_product_ne⟩

/-- **Shape of every returned result** (either driver, either profile): x ≥ 1, the list is strictly
increasing in the first component; and when no multiplicity can wrap (dev, or x < 2^(2^64)) every
entry is ≥ 2 with exponent ≥ 1. -/
theorem driver_sorted (x : Int) (b : Nat) (btab : List (Int × Nat)) (stream : NTV.Draw.Stream) (fuel : Nat) (prof : Profile)
    (result : List (Int × Nat)) (count : Nat) (rest : NTV.Draw.Stream)
    (h : factorizeSeq x b stream fuel prof = .ok result count rest ∨
         factorizePar x b btab stream fuel prof = .ok result count rest) :
    1 ≤ x ∧ result.Pairwise (fun p q => p.1 < q.1) ∧
      (prof = .dev ∨ x < 2 ^ two64 → ∀ pe ∈ result, 2 ≤ pe.1 ∧ 1 ≤ pe.2) := by
  obtain ⟨_, _, hG, h⟩ := driver_ok h
  obtain ⟨h1, h2, _, _, h5⟩ := factorizeWith_ok hG h
  exact ⟨h1, h2, fun hnw => (h5 hnw).2⟩

/-- x = 1: both drivers return the empty list after one iteration, without drawing anything
(this one *is* a termination statement: any fuel ≥ 1 suffices). -/
theorem driver_one (b : Nat) (btab : List (Int × Nat)) (stream : NTV.Draw.Stream) (fuel : Nat) (prof : Profile) :
    factorizeSeq 1 b stream (fuel + 1) prof = .ok [] 0 stream ∧
    factorizePar 1 b btab stream (fuel + 1) prof = .ok [] 0 stream :=
  ⟨factorizeWith_one _ _ stream fuel prof, factorizeWith_one _ _ stream fuel prof⟩

/-- x ≤ 0: both drivers take the documented `panic!("x <= 0")`, in both profiles (`.panic "other"`: the model
keeps the kind of a panic, here none of the arithmetic kinds, not its message). -/
theorem driver_nonpos (x : Int) (hx : x ≤ 0) (b : Nat) (btab : List (Int × Nat)) (stream : NTV.Draw.Stream) (fuel : Nat) (prof : Profile) :
    factorizeSeq x b stream fuel prof = .panic "other" ∧ factorizePar x b btab stream fuel prof = .panic "other" :=
  ⟨factorizeWith_nonpos _ x hx _ stream fuel prof, factorizeWith_nonpos _ x hx _ stream fuel prof⟩

/-- **Provenance of the entries** (either driver, either profile): every returned p was accepted by
the primality test reading a segment `s₁ … s₂` of the draw stream of the run (s₁ a suffix of the
input stream, s₂ what the test left); the unconsumed stream `rest` is a suffix of the input. -/
theorem driver_entries_accepted (x : Int) (b : Nat) (btab : List (Int × Nat)) (stream : NTV.Draw.Stream) (fuel : Nat) (prof : Profile)
    (result : List (Int × Nat)) (count : Nat) (rest : NTV.Draw.Stream)
    (h : factorizeSeq x b stream fuel prof = .ok result count rest ∨
         factorizePar x b btab stream fuel prof = .ok result count rest) :
    rest <:+ stream ∧
    ∀ pe ∈ result, ∃ s₁ s₂ : NTV.Draw.Stream, s₁ <:+ stream ∧ s₂ <:+ s₁ ∧
      NTV.Prime.isPrimeS pe.1 s₁ = some (true, s₂) := by
  obtain ⟨_, _, hG, h⟩ := driver_ok h
  obtain ⟨_, _, h3, h4, _⟩ := factorizeWith_ok hG h
  exact ⟨h3, h4⟩

/-- **Uniqueness, given prime entries** (either driver; dev, or release with x < 2^(2^64)): if the
returned first components are prime, the result is THE prime factorisation of x — read over ℕ it is
the list computed by trial division (`trial_division_entries`: exactly the `(p, v_p(x))`). -/
theorem driver_unique_of_prime_entries (x : Int) (b : Nat) (btab : List (Int × Nat)) (stream : NTV.Draw.Stream) (fuel : Nat)
    (prof : Profile) (hnw : prof = .dev ∨ x < 2 ^ two64)
    (result : List (Int × Nat)) (count : Nat) (rest : NTV.Draw.Stream)
    (h : factorizeSeq x b stream fuel prof = .ok result count rest ∨
         factorizePar x b btab stream fuel prof = .ok result count rest)
    (hprime : ∀ pe ∈ result, Nat.Prime pe.1.toNat) :
    result.map (fun pe => (pe.1.toNat, pe.2)) = NTV.Trial.factorize x.toNat := by
  obtain ⟨_, _, hG, h⟩ := driver_ok h
  obtain ⟨hx, hsorted, _, _, h5⟩ := factorizeWith_ok hG h
  exact result_eq_factorize x hx result (h5 hnw).1 hsorted (h5 hnw).2 hprime

/-- **Uniqueness, given sound tests**: the only way a returned run can differ from the prime
factorisation is a wrong `true` of Miller–Rabin on one of the returned entries. If every acceptance
of a returned entry on a segment of the run's stream was correct, the result is the prime
factorisation of x. (That Miller–Rabin can accept a composite on an adversarial stream is a recorded
finding: on the all-zero stream every base is 1 and every odd n < 2^32 passes.) -/
theorem driver_unique_of_sound_tests (x : Int) (b : Nat) (btab : List (Int × Nat)) (stream : NTV.Draw.Stream) (fuel : Nat)
    (prof : Profile) (hnw : prof = .dev ∨ x < 2 ^ two64)
    (result : List (Int × Nat)) (count : Nat) (rest : NTV.Draw.Stream)
    (h : factorizeSeq x b stream fuel prof = .ok result count rest ∨
         factorizePar x b btab stream fuel prof = .ok result count rest)
    (hsound : ∀ pe ∈ result, ∀ s₁ s₂ : NTV.Draw.Stream, s₁ <:+ stream →
      NTV.Prime.isPrimeS pe.1 s₁ = some (true, s₂) → Nat.Prime pe.1.toNat) :
    result.map (fun pe => (pe.1.toNat, pe.2)) = NTV.Trial.factorize x.toNat := by
  refine driver_unique_of_prime_entries x b btab stream fuel prof hnw result count rest h ?_
  intro pe hpe
  obtain ⟨s₁, s₂, h1, _, h3⟩ := (driver_entries_accepted x b btab stream fuel prof result count rest h).2 pe hpe
  exact hsound pe hpe s₁ s₂ h1 h3

/-- **Trial division is the unique answer**: any strictly increasing list of (prime, positive
exponent) with product n ≥ 1 equals the list returned by the model of `factorize::factorize`. -/
theorem trial_division_unique (n : Nat) (hn : 1 ≤ n) (l : List (Nat × Nat))
    (hprimes : ∀ qe ∈ l, qe.1.Prime ∧ 0 < qe.2) (hsorted : l.Pairwise (fun a b => a.1 < b.1))
    (hprod : NTV.Trial.prodOf l = n) : l = NTV.Trial.factorize n :=
  NTV.Trial.eq_factorize n hn l ⟨hprimes, hsorted⟩ hprod

/-- …and its entries are exactly the pairs (p, v_p(n)) for the prime divisors p of n
(`Nat.factorization` is Mathlib's multiplicity function). -/
theorem trial_division_entries (n : Nat) (hn : 1 ≤ n) (p e : Nat) :
    (p, e) ∈ NTV.Trial.factorize n ↔ p.Prime ∧ p ∣ n ∧ e = n.factorization p := by
  rw [NTV.Trial.mem_isPF_iff _ (NTV.Trial.factorize_isPF n hn), ← (NTV.Trial.factorize_correct n hn).1]
  constructor
  · rintro ⟨hp, he, hf⟩
    refine ⟨hp, ?_, hf.symm⟩
    by_contra hnd
    rw [Nat.factorization_eq_zero_of_not_dvd hnd] at hf
    omega
  · rintro ⟨hp, hd, hf⟩
    refine ⟨hp, ?_, hf.symm⟩
    rw [hf]
    exact hp.factorization_pos_of_dvd (by omega) hd

/-! ### non-vacuity: x = 12 on the all-zero stream (curve a = x = y = 1 gives the factor 4; the 20
Miller–Rabin rounds for 3 each draw the base 1), all four driver/profile combinations return
`[(2, 2), (3, 1)]`, and the theorems apply to these runs. -/

theorem run12_seq_dev : okResult (factorizeSeq 12 4 (List.replicate 23 zchunk) 10 .dev) = some [(2, 2), (3, 1)] := by
  decide +kernel
theorem run12_seq_release :
    okResult (factorizeSeq 12 4 (List.replicate 23 zchunk) 10 .release) = some [(2, 2), (3, 1)] := by
  decide +kernel
theorem run12_par_dev : okResult (factorizePar 12 4 [] (List.replicate 26 zchunk) 10 .dev) = some [(2, 2), (3, 1)] := by
  decide +kernel
theorem run12_par_release :
    okResult (factorizePar 12 4 [] (List.replicate 26 zchunk) 10 .release) = some [(2, 2), (3, 1)] := by
  decide +kernel

/-- the per-item bound of the batched driver: 4 up to 1000, `b` for the input, the table otherwise,
`none` (run dropped as inconclusive) for an item the table does not list -/
example : parBsel 2006 9 [(1003, 7)] 15 = some 4 ∧ parBsel 2006 9 [(1003, 7)] 2006 = some 9 ∧
    parBsel 2006 9 [(1003, 7)] 1003 = some 7 ∧ parBsel 2006 9 [] 1003 = none := by decide

/-- 12 < 2^(2^64) without evaluating the power -/
theorem twelve_lt : (12 : Int) < 2 ^ two64 :=
  calc (12 : Int) < 2 ^ 4 := by norm_num
    _ ≤ 2 ^ two64 := pow_le_pow_right₀ (by norm_num) (by unfold two64; norm_num)

example : prodPairs [(2, 2), (3, 1)] = 12 := by
  obtain ⟨c, r, h⟩ := okResult_some _ _ run12_seq_release
  exact driver_seq_product_release 12 twelve_lt 4 _ 10 _ c r h
example : prodPairs [(2, 2), (3, 1)] = 12 := by
  obtain ⟨c, r, h⟩ := okResult_some _ _ run12_par_release
  exact driver_par_product_release 12 twelve_lt 4 [] _ 10 _ c r h
example : ([(2, 2), (3, 1)] : List (Int × Nat)).Pairwise (fun p q => p.1 < q.1) := by
  obtain ⟨c, r, h⟩ := okResult_some _ _ run12_par_dev
  exact (driver_sorted 12 4 [] _ 10 .dev _ c r (Or.inr h)).2.1
example : ∃ s₁ s₂ : NTV.Draw.Stream, s₁ <:+ List.replicate 23 zchunk ∧ s₂ <:+ s₁ ∧
    NTV.Prime.isPrimeS 3 s₁ = some (true, s₂) := by
  obtain ⟨c, r, h⟩ := okResult_some _ _ run12_seq_dev
  exact (driver_entries_accepted 12 4 [] _ 10 .dev _ c r (Or.inl h)).2 (3, 1) (by simp)
example : ([(2, 2), (3, 1)] : List (Int × Nat)).map (fun pe => (pe.1.toNat, pe.2)) = NTV.Trial.factorize 12 := by
  obtain ⟨c, r, h⟩ := okResult_some _ _ run12_seq_release
  refine driver_unique_of_sound_tests 12 4 [] _ 10 .release (Or.inr twelve_lt) _ c r (Or.inl h) ?_
  intro pe hpe _ _ _ _
  simp only [List.mem_cons, List.not_mem_nil, or_false] at hpe
  rcases hpe with rfl | rfl
  · show Nat.Prime 2; norm_num
  · show Nat.Prime 3; norm_num
example : NTV.Trial.factorize 12 = [(2, 2), (3, 1)] :=
  (trial_division_unique 12 (by norm_num) [(2, 2), (3, 1)]
    (by intro qe h; simp only [List.mem_cons, List.not_mem_nil, or_false] at h; rcases h with rfl | rfl <;> norm_num)
    (by simp) (by simp [NTV.Trial.prodOf])).symm
example : (3, 1) ∈ NTV.Trial.factorize 12 :=
  (trial_division_entries 12 (by norm_num) 3 1).mpr
    ⟨by norm_num, by norm_num, by
      have : (12 : ℕ) = 3 ^ 1 * 4 := by norm_num
      rw [this, Nat.factorization_mul (by norm_num) (by norm_num), Nat.Prime.factorization_pow (by norm_num)]
      have h4 : (4 : ℕ).factorization 3 = 0 := Nat.factorization_eq_zero_of_not_dvd (by norm_num)
      simp [h4]⟩

end NTV.C01
