import NTV.Proofs.Lemmas.HnfDet
/-! # C02 — the Hermite normal form is the canonical basis of the row lattice.
`A` is any rectangular integer matrix with n ≥ 1 rows and m ≥ 1 columns. -/
namespace NTV.C02
open NTV.Hnf Matrix

/-- the routine terminates and its result is in normal form: every row has a last non-zero entry
(column `pv[t]`) which is positive, the pivot columns strictly increase, and every entry below a
pivot lies in `[0, pivot)` -/
theorem normal_form (A : Mat) (n m : Nat) (hr : Rect n m A) (hn : 0 < n) (hm : 0 < m) :
    ∃ H pv, hnfNew A = some H ∧ IsHNF H m pv := by
  obtain ⟨H, U, k, W, pv, _, hH, R⟩ := Result.exists A n m hr hn hm
  exact ⟨H, pv, hH, R.shape⟩

/-- the rows of H generate exactly the row lattice of A, and they are ℤ-linearly independent, so H has
exactly rank(A) rows -/
theorem same_lattice_and_rank (A : Mat) (n m : Nat) (hr : Rect n m A) (hn : 0 < n) (hm : 0 < m) :
    ∃ H W k, hnfNew A = some H ∧ H = W.drop k ∧ H.length = n - k ∧ k ≤ n ∧ Rect n m W ∧
      (∀ r < k, ∀ c < m, ent W r c = 0) ∧
      (∀ v : Fin m → ℤ, InLattice n m A v ↔
        ∃ d : Fin n → ℤ, (∀ r : Fin n, r.val < k → d r = 0) ∧ d ᵥ* toM n m W = v) ∧
      (∀ c : Fin n → ℤ, c ᵥ* toM n m W = 0 → ∀ r : Fin n, k ≤ r.val → c r = 0) := by
  obtain ⟨H, U, k, W, pv, _, hH, R⟩ := Result.exists A n m hr hn hm
  exact ⟨H, W, k, hH, R.hH, R.lenH, R.hk, R.rW, R.zero, R.span_eq, R.indep⟩

/-- canonicity: matrices (of any numbers of rows) generating the same lattice have identical normal
forms — row permutations, unimodular row operations, appended dependent or zero rows, different
generating sets are all instances -/
theorem canonical (A A' : Mat) (n n' m : Nat) (hr : Rect n m A) (hr' : Rect n' m A')
    (hn : 0 < n) (hn' : 0 < n') (hm : 0 < m)
    (hsame : ∀ v : Fin m → ℤ, InLattice n m A v ↔ InLattice n' m A' v) :
    hnfNew A = hnfNew A' := hnf_canonical A A' n n' m hr hr' hn hn' hm hsame

/-- on two non-empty operands whose first rows have equal length the module-sum operation is the normal form of
the stacked generators (the model's error values for an empty operand and for a width mismatch are not part of
this statement) -/
theorem union_is_hnf_of_stack (a b : Mat) (ra rb : Row) (ta tb : Mat) (ha : a = ra :: ta) (hb : b = rb :: tb)
    (hw : ra.length = rb.length) : union a b = .ok (hnfNew (a ++ b)) := by
  subst ha hb; simp [union, hw]

/-- for a square full-rank input (k = 0) the reported determinant is the lattice index |det A| -/
theorem determinant_is_index (A : Mat) (n : Nat) (hr : Rect n n A) (hn : 0 < n)
    (H U : Mat) (hres : hnfWithU A = some (H, U, 0)) :
    determinant H = |(toM n n A).det| := determinant_eq_index A n hr hn H U hres

/-- non-vacuity -/
example : Rect 2 2 [[3, 1], [1, 1]] ∧ 0 < 2 := ⟨⟨rfl, by decide⟩, by decide⟩

end NTV.C02
