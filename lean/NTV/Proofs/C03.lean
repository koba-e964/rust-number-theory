import NTV.Proofs.Lemmas.HnfGlue
/-! # C03 — the HNF transformation matrix is unimodular and yields a saturated kernel basis.
`A` is any rectangular integer matrix with n ≥ 1 rows and m ≥ 1 columns (`Rect n m A`),
`toM` maps list matrices to Mathlib matrices. -/
namespace NTV.C03
open NTV.Hnf Matrix

/-- the extended HNF routine terminates on every rectangular input (its inner loop's fuel
`Σ_{j<k} |a[j][i]| + 1` always suffices) -/
theorem terminates (A : Mat) (n m : Nat) (hr : Rect n m A) : (hnfWithU A).isSome :=
  hnfWithU_total A n m hr

/-- (H, U, k): U is an n×n integer matrix with unit determinant, U·A = W where the first k rows of W
are zero and the rest are the rows of H; k + rows(H) = n -/
theorem transform_spec (A : Mat) (n m : Nat) (hr : Rect n m A) (hn : 0 < n) (hm : 0 < m)
    (H U : Mat) (k : Nat) (hres : hnfWithU A = some (H, U, k)) :
    ∃ W : Mat, Rect n m W ∧ Rect n n U ∧ IsUnit (toM n n U).det ∧
      toM n n U * toM n m A = toM n m W ∧
      (∀ r < k, ∀ c < m, ent W r c = 0) ∧ H = W.drop k ∧ k + H.length = n := by
  obtain ⟨W, pv, R⟩ := Result.of_spec A n m hr hn hm H U k hres
  exact ⟨W, R.rW, R.rU, R.det, R.ua, R.zero, R.hH, R.lenH ▸ Nat.add_sub_cancel' R.hk⟩

/-- k = n − rank: the n − k rows of H are ℤ-linearly independent and span the row lattice of A
(so n − k is the rank of A) -/
theorem rank_spec (A : Mat) (n m : Nat) (hr : Rect n m A) (hn : 0 < n) (hm : 0 < m)
    (H U : Mat) (k : Nat) (hres : hnfWithU A = some (H, U, k)) :
    ∃ W : Mat, H = W.drop k ∧
      (∀ c : Fin n → ℤ, c ᵥ* toM n m W = 0 → ∀ r : Fin n, k ≤ r.val → c r = 0) ∧
      (∀ v : Fin m → ℤ, (∃ c : Fin n → ℤ, c ᵥ* toM n m A = v) ↔
        (∃ d : Fin n → ℤ, (∀ r : Fin n, r.val < k → d r = 0) ∧ d ᵥ* toM n m W = v)) := by
  obtain ⟨W, pv, R⟩ := Result.of_spec A n m hr hn hm H U k hres
  exact ⟨W, R.hH, R.indep, R.span_eq⟩

/-- the kernel routine returns the first k rows of U: each annihilates A, they are linearly
independent, and they generate every integer solution of u·A = 0 (saturated ℤ-basis of the left kernel) -/
theorem kernel_spec (A : Mat) (n m : Nat) (hr : Rect n m A) (hn : 0 < n) (hm : 0 < m)
    (H U : Mat) (k : Nat) (hres : hnfWithU A = some (H, U, k)) :
    kernel A = some (U.take k) ∧
    (∀ r : Fin n, r.val < k → toM n n U r ᵥ* toM n m A = 0) ∧
    (∀ c : Fin n → ℤ, c ᵥ* toM n n U = 0 → c = 0) ∧
    (∀ u : Fin n → ℤ, u ᵥ* toM n m A = 0 →
      ∃ c : Fin n → ℤ, (∀ r : Fin n, k ≤ r.val → c r = 0) ∧ c ᵥ* toM n n U = u) := by
  obtain ⟨W, pv, R⟩ := Result.of_spec A n m hr hn hm H U k hres
  refine ⟨by simp [kernel, hres], R.annihilates, R.U_indep, R.saturated⟩

/-- when the rows of A are independent the kernel is empty (k = 0) -/
theorem kernel_empty_of_independent (A : Mat) (n m : Nat) (hr : Rect n m A) (hn : 0 < n) (hm : 0 < m)
    (H U : Mat) (k : Nat) (hres : hnfWithU A = some (H, U, k))
    (hind : ∀ c : Fin n → ℤ, c ᵥ* toM n m A = 0 → c = 0) : k = 0 ∧ kernel A = some [] := by
  obtain ⟨W, pv, R⟩ := Result.of_spec A n m hr hn hm H U k hres
  have hk0 : k = 0 := by
    by_contra hk
    -- row 0 of `U` would annihilate `A`, hence vanish, contradicting unimodularity
    have hz : toM n n U ⟨0, hn⟩ = 0 := hind _ (R.annihilates ⟨0, hn⟩ (Nat.pos_of_ne_zero hk))
    have h1 := congrFun (R.U_indep (Pi.single ⟨0, hn⟩ 1) (by rw [Matrix.single_one_vecMul]; exact hz)) ⟨0, hn⟩
    rw [Pi.single_eq_same] at h1
    exact one_ne_zero h1
  exact ⟨hk0, by simp [kernel, hres, hk0]⟩

/-- non-vacuity: a concrete rank-deficient input satisfies the hypotheses -/
example : Rect 3 2 [[1, 2], [2, 4], [0, 1]] := ⟨rfl, by decide⟩

end NTV.C03
