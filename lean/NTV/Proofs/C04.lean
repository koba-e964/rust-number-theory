import NTV.Model.Resultant
import NTV.Proofs.Lemmas.ResRatProofs
import NTV.Proofs.Lemmas.SubresStep
import NTV.Proofs.Lemmas.SubresLoop
import NTV.Proofs.Lemmas.Subres2Loop
/-! # C04 — the resultant equals the Sylvester determinant.
`Polynomial.resultant` is Mathlib's determinant of the Sylvester matrix. The model functions return
`(value, flag)`; the flag says that every truncated division performed was exact. -/
open Polynomial
namespace NTV.C04
open NTV.PolyG NTV.Res

/-- the rational-coefficient variant (`resultant_rational`, Euclid over ℚ) equals the determinant of
the Sylvester matrix, for all non-zero canonical a, b ∈ ℚ[x] -/
theorem resultantRational_is_sylvester (a b : List Rat) (ha : a ≠ []) (hb : b ≠ []) (hca : Canon a) (hcb : Canon b) :
    resultantRational a b = resultant (toPoly a) (toPoly b) := resultantRational_eq a b ha hb hca hcb

/-- … and is 0 when either argument is the zero polynomial -/
theorem resultantRational_zero (a : List Rat) : resultantRational [] a = 0 ∧ resultantRational a [] = 0 :=
  ⟨by simp [resultantRational, resRatAux], by simp [resultantRational, resRatAux]⟩

/-- scaling law of the specification: Res(s·f, t·g) = s^deg g · t^deg f · Res(f, g) (s, t ≠ 0) -/
theorem scaling_law (f g : ℚ[X]) (s t : ℚ) (hs : s ≠ 0) (ht : t ≠ 0) :
    resultant (C s * f) (C t * g) = s ^ g.natDegree * t ^ f.natDegree * resultant f g := by
  have h1 : (C s * f).natDegree = f.natDegree := natDegree_C_mul hs
  have h2 : (C t * g).natDegree = g.natDegree := natDegree_C_mul ht
  have e : resultant (C s * f) (C t * g) =
      resultant (C s * f) (C t * g) f.natDegree g.natDegree := by rw [resultant, h1, h2]; rfl
  rw [e, resultant_C_mul_left, resultant_C_mul_right]
  ring

/-- the integer routine on the degenerate inputs: 0 if either argument is 0 … -/
theorem smart_zero (f g : List Int) :
    resultantSmartE [] g = some (.ok (0, true)) ∧
    (f ≠ [] → resultantSmartE f [] = some (.ok (0, true))) := by
  refine ⟨by simp [resultantSmartE], ?_⟩
  intro hf
  have : f.isEmpty = false := List.isEmpty_eq_false_iff.mpr hf
  simp [resultantSmartE, this, resLoop]

/-- … 1 for two constants (the un-repaired code underflowed `deg f − 1` here) … -/
theorem smart_const_const (c d : Int) : resultantSmartE [c] [d] = some (.ok (1, true)) := by
  simp [resultantSmartE, resLoop]

/-- … and c^deg for a constant against a non-constant, in either order -/
theorem smart_const_right (f : List Int) (d : Int) (hf : 2 ≤ f.length) :
    resultantSmartE f [d] = some (.ok (d ^ (f.length - 1), true)) := by
  unfold resultantSmartE
  rw [if_neg (by simpa using List.ne_nil_of_length_pos (Nat.zero_lt_of_lt hf)),
    resLoop_last (g := [d]) hf rfl]
  simp [tdivX, Int.tmod_one]

theorem smart_const_left (g : List Int) (c : Int) (hg : 2 ≤ g.length) :
    resultantSmartE [c] g = some (.ok (c ^ (g.length - 1), true)) := by
  unfold resultantSmartE
  rw [if_neg (by simp), resLoop_swap (f := [c]) hg hg, resLoop_last (g := [c]) hg rfl]
  simp [tdivX, Int.tmod_one]

/-- the integer routine `resultant_smart` (subresultant PRS), conditional form: for all non-zero canonical
f, g ∈ ℤ[x], a run whose flag is set returns the determinant of the Sylvester matrix. This half needs only
the resultant identities of `subres_step`; that the flag is always set is `smart_flag` below (the
fundamental theorem of subresultants), and `smart_is_sylvester` combines the two. -/
theorem smart_is_sylvester_partial (f g : List Int) (hf : f ≠ []) (hg : g ≠ []) (hcf : Canon f) (hcg : Canon g)
    (v : Int) (h : resultantSmartE f g = some (.ok (v, true))) :
    v = resultant (toPoly f) (toPoly g) := by
  unfold resultantSmartE at h
  rw [if_neg (by simpa using hf)] at h
  exact resLoop_correct _ _ f g 1 1 1 true v ⟨hcf, hcg, hf, one_ne_zero, one_ne_zero, isUnit_one,
    fun e => absurd e hg, fun _ => by simp, fun _ => ⟨rfl, rfl⟩, fun _ => rfl⟩ h

/-- non-vacuity: the exactness flag is true on a concrete degree-gap input (the third unit test) -/
example : resultantSmartE [2, 0, 1, 0, 1] [1, 0, 1] = some (.ok (4, true)) := by decide +kernel

/-- the exactness flag of `resultant_smart` is always set on canonical input: every truncated division
of the subresultant recurrence is exact (the fundamental theorem of subresultant pseudo-remainder
sequences, proved in `Proofs/Lemmas/Subres0Det … Subres2Loop`) -/
theorem smart_flag (f g : List Int) (hcf : Canon f) (hcg : Canon g) (v : Int) (ok : Bool)
    (h : resultantSmartE f g = some (.ok (v, ok))) : ok = true := by
  obtain ⟨v', hv⟩ := resultantSmart_total f g hcf hcg
  rw [hv] at h
  cases h; rfl

/-- C04 for the integer routine `resultant_smart` (subresultant PRS): for all non-zero
canonical f, g ∈ ℤ[x] the model neither panics nor runs out of fuel, all its divisions are exact, and the
returned value IS the determinant of the Sylvester matrix. -/
theorem smart_is_sylvester (f g : List Int) (hf : f ≠ []) (hg : g ≠ []) (hcf : Canon f) (hcg : Canon g) :
    resultantSmartE f g = some (.ok (resultant (toPoly f) (toPoly g), true)) := by
  obtain ⟨v, hv⟩ := resultantSmart_total f g hcf hcg
  rw [hv, smart_is_sylvester_partial f g hf hg hcf hcg v hv]

/-- the same for the total wrapper `resultantSmart` -/
theorem smart_value_is_sylvester (f g : List Int) (hf : f ≠ []) (hg : g ≠ []) (hcf : Canon f) (hcg : Canon g) :
    resultantSmart f g = (resultant (toPoly f) (toPoly g), true) := by
  simp [resultantSmart, smart_is_sylvester f g hf hg hcf hcg]

/-- non-vacuity / instance: Knuth's example (a defective sequence is the third unit test above) -/
example : resultantSmartE [-5, 2, 8, -3, -3, 0, 1, 0, 1] [21, -9, -4, 0, 5, 0, 3] = some (.ok (260708, true)) := by
  decide +kernel

end NTV.C04
