import NTV.Model.Resultant
import NTV.Proofs.C04
import NTV.Proofs.Lemmas.SubresLoop
import NTV.Proofs.Lemmas.Subres2Loop
/-! # C05 — discriminant.
`discriminant f` returns `(value, flag)`, the flag saying that every division was exact; `2 ≤ f.length` on a
canonical list is degree ≥ 1. -/
open Polynomial
namespace NTV.C05
open NTV.PolyG NTV.Res

/-- the sign has period 4 in n: n(n−1)/2 grows by 4n + 6 from n to n + 4 -/
theorem sign_aux : ∀ n : Nat, (-1 : Int) ^ (n * (n - 1) / 2) = if n % 4 = 2 ∨ n % 4 = 3 then -1 else 1
  | 0 | 1 | 2 | 3 => by decide
  | n + 4 => by
    have e : (n + 4) * (n + 4 - 1) / 2 = n * (n - 1) / 2 + 2 * (2 * n + 3) := by
      rw [Nat.triangle_succ (n + 3), Nat.triangle_succ (n + 2), Nat.triangle_succ (n + 1), Nat.triangle_succ n]
      ring
    rw [e, pow_add, pow_mul, neg_one_sq, one_pow, mul_one, sign_aux n, Nat.add_mod_right]

/-- the sign test `deg % 4 ∈ {2, 3}` of discriminant.rs is exactly (−1)^(n(n−1)/2) = −1, for every n -/
theorem sign_rule (n : Nat) : (n % 4 = 2 ∨ n % 4 = 3) ↔ (-1 : Int) ^ (n * (n - 1) / 2) = -1 := by
  rw [sign_aux]
  by_cases h : n % 4 = 2 ∨ n % 4 = 3 <;> simp [h]

/-- the zero polynomial is refused (the `assert!`) -/
theorem zero_panics : discriminant [] = .error "assert" := by
  simp [discriminant, discriminantE]

/-- degree 1: the discriminant is 1 -/
theorem linear (c0 c1 : Int) (h : c1 ≠ 0) : discriminant [c0, c1] = .ok (1, true) := by
  have hd : differential [c0, c1] = [c1] := by
    simp [differential, derivAux, fromRaw, h]
  have hr := NTV.C04.smart_const_right [c0, c1] c1 (by simp)
  simp only [List.length_cons, List.length_nil] at hr
  simp [discriminant, discriminantE, hd, hr, tdivX, h, lc, Int.tdiv_self, Int.tmod_self]

/-- Res(f, f′) on the lists is Mathlib's `resultant_deriv`: (−1)^(n(n−1)/2) · lc f · discr f, n = deg f ≥ 1 -/
theorem resultant_differential (f : List Int) (hc : Canon f) (hlen : 2 ≤ f.length) :
    differential f ≠ [] ∧ resultant (toPoly f) (toPoly (differential f)) =
      (-1) ^ ((f.length - 1) * (f.length - 1 - 1) / 2) * lc f * (toPoly f).discr := by
  obtain ⟨hn, hl, -⟩ := natDegree_toPoly f (List.ne_nil_of_length_pos (Nat.zero_lt_of_lt hlen)) hc
  have hd := toPoly_differential f
  constructor
  · intro e
    have h0 : derivative (toPoly f) = 0 := by rw [← hd, e]; rfl
    have := Polynomial.derivative_eq_zero.mp h0
    omega
  · rw [hd, natDegree_derivative,
      resultant_deriv (natDegree_pos_iff_degree_pos.mp (hn ▸ Nat.sub_pos_of_lt hlen)), hn, hl]

/-- C05: for every canonical f ∈ ℤ[x] of degree ≥ 1, `discriminant` returns
Mathlib's `Polynomial.discr` — i.e. (−1)^(n(n−1)/2)·Res(f, f′)/lc(f) with Res the Sylvester determinant —
with every division exact. -/
theorem discriminant_is_discr (f : List Int) (hc : Canon f) (hlen : 2 ≤ f.length) :
    discriminant f = .ok ((toPoly f).discr, true) := by
  have hne : f ≠ [] := List.ne_nil_of_length_pos (Nat.zero_lt_of_lt hlen)
  obtain ⟨hdne, hR⟩ := resultant_differential f hc hlen
  have hlc : lc f ≠ 0 := lc_ne_zero f hne hc
  -- the sign test multiplies by the same power of −1 once more, leaving lc f · discr f
  have hsign : ∀ x : Int, (if (f.length - 1) % 4 = 2 ∨ (f.length - 1) % 4 = 3 then -x else x)
      = (-1) ^ ((f.length - 1) * (f.length - 1 - 1) / 2) * x := by
    intro x; rw [sign_aux]; split <;> ring
  obtain ⟨t1, -⟩ := tdivX_of_dvd _ _ hlc (Dvd.intro ((toPoly f).discr) rfl)
  rw [Int.mul_tdiv_cancel_left _ hlc] at t1
  unfold discriminant discriminantE
  rw [if_neg (by simpa using hne), NTV.C04.smart_is_sylvester f _ hne hdne hc (canon_differential f), hR]
  simp only [hsign, ← mul_assoc, ← mul_pow, neg_mul_neg, one_mul, one_pow, bind, Except.bind, t1, pure,
    Except.pure, Bool.and_self]

/-- conditional form of `discriminant_is_discr` (a corollary of it): the value of a run whose flag is set
is Mathlib's `Polynomial.discr` -/
theorem discriminant_is_discr_partial (f : List Int) (hc : Canon f) (hlen : 2 ≤ f.length) (q : Int)
    (h : discriminant f = .ok (q, true)) : q = (toPoly f).discr := by
  rw [discriminant_is_discr f hc hlen] at h
  cases h; rfl

/-- `discriminant` neither panics nor runs out of fuel on a canonical f of degree ≥ 1, and all its
divisions (those of the subresultant recurrence and the final division by lc f) are exact -/
theorem discriminant_total (f : List Int) (hc : Canon f) (hlen : 2 ≤ f.length) :
    ∃ q, discriminant f = .ok (q, true) :=
  ⟨_, discriminant_is_discr f hc hlen⟩

/-- instance: disc(x³ − x − 1) = −23 -/
example : discriminant [-1, -1, 0, 1] = .ok (-23, true) := by decide +kernel

end NTV.C05
