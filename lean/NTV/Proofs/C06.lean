import NTV.Model.Round2
import NTV.Proofs.Lemmas.TrialProofs
import NTV.Proofs.C02
import NTV.Proofs.Lemmas.Round2ProofsG
import NTV.Proofs.Lemmas.Round2RingN
import NTV.Proofs.Lemmas.FieldDiscC
import NTV.Proofs.Lemmas.FieldDiscD
import Mathlib.Algebra.Polynomial.SpecificDegree
/-! # C06 — integral basis (Round 2).
Proved for all inputs (f canonical): the result is a full-rank module containing the starting order and 1 with
disc = disc(start)/index² (`result_contains_start`), it is CLOSED UNDER MULTIPLICATION (`result_is_ring`), every
`one_step` computes the multiplier ring of the p-radical (`one_step_semantics`), a step with `howmany = 0` proves
p-maximality (`one_step_maximal`, Pohst–Zassenhaus), the result is p-MAXIMAL AT EVERY PRIME (`result_is_maximal`;
at the primes with p² ∤ disc(O) because the discriminant of every order is the integral determinant of its trace
form, `order_discriminant_is_integer`), hence contained in no strictly larger order (`result_is_maximal_order`).
Last section, for `f` irreducible over ℚ: the result spans the integral closure of ℤ in ℚ[X]/(f)
(`order_is_integral_closure`), its discriminant is `NumberField.discr` (`discriminant_is_field_discriminant`), hence
depends only on the field (`discriminant_is_field_invariant` and the affine / reciprocal changes of generator). -/
namespace NTV.C06

/-- the set of primes the outer loop visits: `factorize(|disc|)` is the true prime factorisation of the
discriminant of the starting order — strictly increasing primes with positive exponents and product
|disc| — so every prime p with p² | disc is visited (and no composite is ever passed to Round 2) -/
theorem primes_visited (d : Nat) (hd : 1 ≤ d) :
    d = NTV.Trial.prodOf (NTV.Trial.factorize d) ∧
    (∀ qe ∈ NTV.Trial.factorize d, qe.1.Prime ∧ 0 < qe.2) ∧
    (NTV.Trial.factorize d).Pairwise (fun a b => a.1 < b.1) := NTV.Trial.factorize_correct d hd

/-- every order the routine stores is put in canonical form by a Hermite normal form computation:
two integer generating sets of the same module give the same stored basis -/
theorem stored_basis_canonical (A A' : NTV.Hnf.Mat) (n n' m : Nat) (hr : NTV.Hnf.Rect n m A)
    (hr' : NTV.Hnf.Rect n' m A') (hn : 0 < n) (hn' : 0 < n') (hm : 0 < m)
    (hsame : ∀ v : Fin m → ℤ, NTV.Hnf.InLattice n m A v ↔ NTV.Hnf.InLattice n' m A' v) :
    NTV.Hnf.hnfNew A = NTV.Hnf.hnfNew A' := NTV.C02.canonical A A' n n' m hr hr' hn hn' hm hsame

/-- a zero discriminant of the starting order (f not squarefree) is refused -/
theorem zero_discriminant_refused (f : List Int) (o : NTV.Round2.Order)
    (ho : NTV.Ord.nonMonicInitialOrder f = .ok o) (hd : NTV.Ord.discriminantOrd o f = .ok 0) :
    NTV.Round2.findIntegralBasis f = .error "panic assert" := by
  simp [NTV.Round2.findIntegralBasis, ho, hd, bind, Except.bind]

/-! ## The structural clauses: the result is a full-rank ℤ-module containing the starting order and 1, and its
discriminant is the discriminant of the starting order divided by the square of the index

An order is its stored basis `o : List (List Rat)`; `Rect n n o` says n rows of length n and `toM n n o` is the
Mathlib matrix. "The module of `o` is contained in the module of `o'`" is `toM o = P·toM o'` for an INTEGER matrix
`P`; "stored" is `fromBasis o = .ok o` (a fixed point of `Order::from_basis`). Helper lemmas:
`NTV.Proofs.Lemmas.Round2ProofsA`–`G`. -/
section Structural
open Matrix
open NTV.Ord NTV.Round2 NTV.PolyG
open NTV.RowOps (toM Rect)

/-- **one Round 2 step enlarges the order.** For a non-singular stored n×n order `o` (n = deg f ≥ 1) and p ≥ 1
(in particular p prime), a successful `one_step` returns a non-singular stored n×n order `o'` whose module CONTAINS
the module of `o` (the last normal form `u` is taken of generators that include p·I, and the new basis is
(1/p)·u·o), with index exactly (o' : o) = p^howmany (the returned counter), hence (C15)
disc(o) = p^(2·howmany)·disc(o') whenever disc(o') is computed. -/
theorem one_step_contains (f : List Int) (o o' : Order) (p : Int) (h : Nat) (hn : 0 < degU f)
    (ho : Rect (degU f) (degU f) o) (hdet : (toM (degU f) (degU f) o).det ≠ 0) (hst : fromBasis o = .ok o)
    (hp : 0 < p) (H : oneStep f o p = .ok (o', h)) :
    Rect (degU f) (degU f) o' ∧ (toM (degU f) (degU f) o').det ≠ 0 ∧ fromBasis o' = .ok o' ∧
    (∃ P : Matrix (Fin (degU f)) (Fin (degU f)) ℤ,
      toM (degU f) (degU f) o = P.map (Int.castRingHom ℚ) * toM (degU f) (degU f) o') ∧
    index o' o = .ok (p ^ h) ∧
    (∀ d' : Int, discriminantOrd o' f = .ok d' → discriminantOrd o f = .ok (p ^ (2 * h) * d')) := by
  have e := oneStep_ext f o p o' h hn ho hdet hst hp H
  exact ⟨e.rect, e.det, e.stored, e.sub, e.idx, fun d' => (disc_pow_ext_iff ho e f d').mpr⟩

/-- the converse direction for one step: disc(o') = disc(o)/p^(2·howmany) is computed without a panic PROVIDED
p^(2·howmany) divides disc(o). Partial: the divisibility (integrality of the discriminant of the new module) is
not a structural fact — it holds because the new module is a ring (Pohst–Zassenhaus: `one_step_discriminant`); inside
`find_integral_basis` it is guaranteed by the checked subtraction `e -= 2 * howmany` (see `prime_loop_contains`). -/
theorem one_step_discriminant_partial (f : List Int) (o o' : Order) (p : Int) (h : Nat) (hn : 0 < degU f)
    (ho : Rect (degU f) (degU f) o) (hdet : (toM (degU f) (degU f) o).det ≠ 0) (hst : fromBasis o = .ok o)
    (hp : 0 < p) (H : oneStep f o p = .ok (o', h)) (d : Int) (hd : discriminantOrd o f = .ok d)
    (hdvd : p ^ (2 * h) ∣ d) :
    ∃ d' : Int, discriminantOrd o' f = .ok d' ∧ d = p ^ (2 * h) * d' := by
  have e := oneStep_ext f o p o' h hn ho hdet hst hp H
  obtain ⟨d', rfl⟩ := hdvd
  exact ⟨d', (disc_pow_ext_iff ho e f d').mp hd, rfl⟩

/-! ### The model run on the test polynomials
A run that several non-vacuity examples need is evaluated by the kernel once, here, and quoted; runs needed once are
evaluated where they are used. -/

theorem canon_x2p3 : Canon ([3, 0, 1] : List Int) := by intro _; simp

theorem canon_x2m5 : Canon ([-5, 0, 1] : List Int) := by intro _; simp

theorem canon_dedekind : Canon ([-8, -2, -1, 1] : List Int) := by intro _; simp

theorem fromBasis_id2 : fromBasis [[1, 0], [0, 1]] = .ok [[1, 0], [0, 1]] := by decide +kernel

theorem oneStep_x2p3 : oneStep [3, 0, 1] [[1, 0], [0, 1]] 2 = .ok ([[1, 0], [1/2, 1/2]], 1) := by decide +kernel

theorem disc_id2_x2p3 : discriminantOrd [[1, 0], [0, 1]] [3, 0, 1] = .ok (-12) := by decide +kernel

theorem disc_x2p3 : discriminantOrd [[1, 0], [1/2, 1/2]] [3, 0, 1] = .ok (-3) := by decide +kernel

theorem fib_x2p3 : findIntegralBasis [3, 0, 1] = .ok [[1, 0], [1/2, 1/2]] := by decide +kernel

theorem fib_x2m5 : findIntegralBasis [-5, 0, 1] = .ok [[1, 0], [1/2, 1/2]] := by decide +kernel

/-- the non-monic 4x³ + 2 -/
theorem fib_4x3p2 : findIntegralBasis [2, 0, 0, 4] = .ok [[1, 0, 0], [0, 2, 0], [0, 0, 2]] := by decide +kernel

/-- Dedekind's cubic x³ − x² − 2x − 8 -/
theorem fib_dedekind : findIntegralBasis [-8, -2, -1, 1] = .ok [[1, 0, 0], [0, 1, 0], [0, 1/2, 1/2]] := by
  decide +kernel

theorem det_id2 : (toM 2 2 ([[1, 0], [0, 1]] : QMat)).det ≠ 0 := by decide +kernel

theorem det_eisenstein : (toM 2 2 ([[1, 0], [1/2, 1/2]] : QMat)).det ≠ 0 := by decide +kernel

/-- non-vacuity: f = x² + 3, o = Z[θ] (the identity matrix), p = 2: one step reaches Z[(1+θ)/2], howmany = 1 -/
example : 0 < degU ([3, 0, 1] : List Int) ∧ fromBasis [[1, 0], [0, 1]] = .ok [[1, 0], [0, 1]] ∧
    oneStep [3, 0, 1] [[1, 0], [0, 1]] 2 = .ok ([[1, 0], [1/2, 1/2]], 1) ∧
    discriminantOrd [[1, 0], [0, 1]] [3, 0, 1] = .ok (-12) ∧
    discriminantOrd [[1, 0], [1/2, 1/2]] [3, 0, 1] = .ok (-3) :=
  ⟨by decide, fromBasis_id2, oneStep_x2p3, disc_id2_x2p3, disc_x2p3⟩

example : Rect 2 2 ([[1, 0], [0, 1]] : QMat) ∧ (toM 2 2 ([[1, 0], [0, 1]] : QMat)).det ≠ 0 :=
  ⟨⟨rfl, by simp⟩, det_id2⟩

/-- **the loop for one prime.** `while e >= 2 { one_step; e -= 2·howmany; … }` started on a non-singular stored
order `o` returns a non-singular stored order `o'` ⊇ `o` with (o' : o) = p^k, 2k ≤ e; and if p^e divides disc(o)
(as it does in `find_integral_basis`, where e is the exponent of p in the discriminant) then disc(o') is computed
without a panic and disc(o) = p^(2k)·disc(o'). -/
theorem prime_loop_contains (f : List Int) (p : Int) (fuel : Nat) (o o' : Order) (e : Nat) (hn : 0 < degU f)
    (ho : Rect (degU f) (degU f) o) (hdet : (toM (degU f) (degU f) o).det ≠ 0) (hst : fromBasis o = .ok o)
    (hp : 0 < p) (H : primeLoop f p fuel o e = .ok o') :
    ∃ k : Nat, 2 * k ≤ e ∧
    Rect (degU f) (degU f) o' ∧ (toM (degU f) (degU f) o').det ≠ 0 ∧ fromBasis o' = .ok o' ∧
    (∃ P : Matrix (Fin (degU f)) (Fin (degU f)) ℤ,
      toM (degU f) (degU f) o = P.map (Int.castRingHom ℚ) * toM (degU f) (degU f) o') ∧
    index o' o = .ok (p ^ k) ∧
    (∀ d : Int, discriminantOrd o f = .ok d → p ^ e ∣ d →
      ∃ d' : Int, discriminantOrd o' f = .ok d' ∧ d = p ^ (2 * k) * d') := by
  obtain ⟨k, hk, ext⟩ := primeLoop_ext f p hp hn fuel o e o' ho hdet hst H
  refine ⟨k, hk, ext.rect, ext.det, ext.stored, ext.sub, ext.idx, ?_⟩
  intro d hd hdvd
  obtain ⟨d', rfl⟩ := dvd_trans (pow_dvd_pow p hk) hdvd
  exact ⟨d', (disc_pow_ext_iff ho ext f d').mp hd, rfl⟩

/-- non-vacuity: f = x² + 3, p = 2, e = 2 (disc = −12 = −2²·3) -/
example : primeLoop [3, 0, 1] 2 3 [[1, 0], [0, 1]] 2 = .ok [[1, 0], [1/2, 1/2]] ∧ (2 : Int) ^ 2 ∣ -12 := by
  decide +kernel

/-- what the CLI prints (`index_and_disc`) for the returned order is the pair (i, dO) of `result_contains_start`:
whenever the three calls succeed separately, that is the printed pair -/
theorem printed_index_and_disc (f : List Int) (O S : Order) (i dO : Int)
    (hS : nonMonicInitialOrder f = .ok S) (hi : index O S = .ok i) (hd : discriminantOrd O f = .ok dO) :
    indexAndDisc f O = .ok (i, dO) := by
  unfold indexAndDisc
  simp [hS, hi, hd, bind, Except.bind, pure, Except.pure]

/-- **the result contains the starting order and 1; discriminant = disc(start) / index².** If
`find_integral_basis(f)` returns `O`, then the starting order `S = non_monic_initial_order(f)` (the module Z⟨1, a_nθ, a_nθ²+a_{n−1}θ, …⟩, which the
Rust source calls Z[θ] ∩ Z[1/θ]; that identification is not proved here) and
its non-zero discriminant `dS` were computed, n = deg f ≥ 1, and
* `O` is a full-rank module: a non-singular stored n×n matrix;
* `S ⊆ O`: the basis of `S` is an integer matrix times the basis of `O`;
* `index(O, S)` returns i ≥ 1, i² divides dS, so every prime factor of i has its square dividing dS;
* `O.discriminant` returns `dO` (no panic) and dS = i²·dO — the discriminant of the starting order divided by the
  square of the index;
* 1 ∈ O: the vector (1,0,…,0) is an integer combination of the rows of `O`;
* the CLI output `index_and_disc` is exactly (i, dO).
No hypothesis on `f` is needed beyond the success of the routine. -/
theorem result_contains_start (f : List Int) (O : Order) (H : findIntegralBasis f = .ok O) :
    ∃ (S : Order) (dS i dO : Int),
      nonMonicInitialOrder f = .ok S ∧ discriminantOrd S f = .ok dS ∧ dS ≠ 0 ∧ 0 < degU f ∧
      Rect (degU f) (degU f) S ∧
      Rect (degU f) (degU f) O ∧ (toM (degU f) (degU f) O).det ≠ 0 ∧ fromBasis O = .ok O ∧
      (∃ P : Matrix (Fin (degU f)) (Fin (degU f)) ℤ,
        toM (degU f) (degU f) S = P.map (Int.castRingHom ℚ) * toM (degU f) (degU f) O) ∧
      index O S = .ok i ∧ 1 ≤ i ∧ i ^ 2 ∣ dS ∧
      (∀ q : Nat, q.Prime → (q : Int) ∣ i → (q : Int) ^ 2 ∣ dS) ∧
      discriminantOrd O f = .ok dO ∧ dS = i ^ 2 * dO ∧
      (∃ c : Fin (degU f) → ℤ,
        (fun k => (c k : ℚ)) ᵥ* toM (degU f) (degU f) O = fun j => if j.val = 0 then 1 else 0) ∧
      indexAndDisc f O = .ok (i, dO) := by
  obtain ⟨S, dS, hS, hdS, hd0, H⟩ := findIntegralBasis_inv f O H
  obtain ⟨hn, rS, dtS, sS, c, hc⟩ := start_good f S dS hS hdS hd0
  have hfac := NTV.Trial.factorize_correct dS.natAbs (by omega)
  obtain ⟨i, ext, hi⟩ := fold_ext f hn (NTV.Trial.factorize dS.natAbs)
    (fun pe hpe => ((hfac.2.1 pe hpe).1).pos) S O rS dtS sS H
  rw [← hfac.1, Int.dvd_natAbs] at hi
  obtain ⟨dO, hdO⟩ := hi
  have hdO' : dS = i ^ 2 * dO := by rw [hdO]; ring
  have hO := (disc_ext_iff rS ext f dO).mp (hdO ▸ hdS)
  obtain ⟨P, hP⟩ := ext.sub
  refine ⟨S, dS, i, dO, hS, hdS, hd0, hn, rS, ext.rect, ext.det, ext.stored, ⟨P, hP⟩, ext.idx, ext.pos,
    ⟨dO, hdO'⟩, ?_, hO, hdO', ?_, ?_⟩
  · intro q _ hq
    exact dvd_trans (pow_dvd_pow_of_dvd hq 2) ⟨dO, hdO'⟩
  · refine ⟨c ᵥ* P, ?_⟩
    have := castV_vecMul c P
    unfold castV at this hc
    rw [this, ← hc, hP, Matrix.vecMul_vecMul]
  · exact printed_index_and_disc f O S i dO hS ext.idx hO

/-- non-vacuity: f = x² + 3 and f = x² − 5: the maximal orders Z[(1+θ)/2] have index 2 in Z[θ], and
disc −12 = 2²·(−3), 20 = 2²·5 -/
example : findIntegralBasis [3, 0, 1] = .ok [[1, 0], [1/2, 1/2]] ∧
    indexAndDisc [3, 0, 1] [[1, 0], [1/2, 1/2]] = .ok (2, -3) ∧
    discriminantOrd [[1, 0], [0, 1]] [3, 0, 1] = .ok (-12) :=
  ⟨fib_x2p3, by decide +kernel, disc_id2_x2p3⟩

example : findIntegralBasis [-5, 0, 1] = .ok [[1, 0], [1/2, 1/2]] ∧
    indexAndDisc [-5, 0, 1] [[1, 0], [1/2, 1/2]] = .ok (2, 5) ∧
    discriminantOrd [[1, 0], [0, 1]] [-5, 0, 1] = .ok 20 :=
  ⟨fib_x2m5, by decide +kernel, by decide +kernel⟩

/-- non-vacuity for a non-monic f = 4x³ + 2: start Z[θ] ∩ Z[1/θ], index 4 -/
example : findIntegralBasis [2, 0, 0, 4] = .ok [[1, 0, 0], [0, 2, 0], [0, 0, 2]] ∧
    indexAndDisc [2, 0, 0, 4] [[1, 0, 0], [0, 2, 0], [0, 0, 2]] = .ok (4, -108) :=
  ⟨fib_4x3p2, by decide +kernel⟩

end Structural

/-! ## Closure under multiplication and p-maximality: the Round 2 algorithm (Pohst–Zassenhaus)

`K = ℚ[X]/(f)` (any `f` canonical of degree `n ≥ 1`, not necessarily irreducible); an order is its stored basis
`o` (n×n, non-singular), `omegaK f o n i ∈ K` is the class of row `i`, `el (qK f) (omegaK f o n) z = Σ z_i ω_i` the
element with INTEGER coordinate vector `z`, `Olat hC one` the ℤ-span of the ω_i as a `Subring K` (it needs the
multiplication table `hC` and `1 ∈ O`), `vecZ l n` the list `l` as a vector. `HasOne n o` says that (1,0,…,0) is an
integer combination of the rows; `GoodOrder f n o` collects: `f` canonical of degree `n ≥ 1`, `o` a non-singular
stored n×n basis containing 1 and closed under multiplication. Commutative algebra: `Lemmas/Round2RingA.lean`,
`Round2RingB.lean`; the model: `Round2RingC`–`N.lean`; starting order: `Round2Start.lean`.
Labels: (M1) the p-radical `I_p` as computed by `one_step`; (M2) the `U_p` loop and the semantics of `one_step`;
(M3) the new order is a ring; (M4) p-maximality (Pohst–Zassenhaus) and maximality of the result. -/
section Round2Ring
open Matrix Polynomial
open NTV.Ord NTV.Round2 NTV.PolyG
open NTV.RowOps (toM Rect)
open NTV.R2Abs (el Olat radQ multR pO IdealIn PMax)
open NTV.Round2 (HasOne GoodOrder PMaximal PMaxK)
open NTV.TableAbs (Ctx)

/-- a congruence modulo `m·O` unpacked: `x = y + m·(an element of O)` -/
theorem exists_eq_add_of_congO {K : Type*} [CommRing K] {n : ℕ} {q : ℚ →+* K} {Ω : Fin n → K}
    {T : Fin n → Fin n → Fin n → ℤ} {hC : Ctx q Ω T} {one : ∃ e : Fin n → ℤ, el q Ω e = 1} {m : ℕ} {x y : K}
    (h : NTV.R2Abs.CongO (Olat hC one) m x y) : ∃ d : Fin n → ℤ, x = y + (m : K) * el q Ω d := by
  obtain ⟨_, ⟨d, rfl⟩, hd⟩ := h
  exact ⟨d, sub_eq_iff_eq_add'.mp hd⟩

/-- **(M1) `mul_mod_p` and the tables.** If the table loop of `one_step` succeeds on a non-singular basis `o`
containing 1 (p ≠ 0), then `o` IS closed under multiplication (the integrality assertions passed), and for all
coordinate vectors `a`, `b` of length n: `mul_mod_p(a, b, table, p)` are coordinates of the product
`(Σ a_i ω_i)(Σ b_j ω_j)` modulo `p·O`, and `mul_mod_p(a, b, table2, p²)` modulo `p²·O`. -/
theorem mul_mod_p_semantics (f : List Int) (o : Order) (n : Nat) (hf : Canon f) (hlen : f.length = n + 1)
    (hn : 1 ≤ n) (hr : Rect n n o) (hdet : (toM n n o).det ≠ 0) (h1 : HasOne n o) (P : ℕ) (hP : P ≠ 0)
    (t t2 : NTV.Ord.Table) (htab : tables f o n (P : ℤ) ((P : ℤ) * (P : ℤ)) = .ok (t, t2)) (a b : List Int)
    (ha : a.length = n) (hb : b.length = n) :
    Closed f o n ∧
    (∃ d : Fin n → ℤ, el (qK f) (omegaK f o n) (vecZ (mulModP a b t (P : ℤ)) n) =
      el (qK f) (omegaK f o n) (vecZ a n) * el (qK f) (omegaK f o n) (vecZ b n) +
        (P : ℚ[X] ⧸ Ideal.span {NTV.Alg.modulus f}) * el (qK f) (omegaK f o n) d) ∧
    (∃ d : Fin n → ℤ, el (qK f) (omegaK f o n) (vecZ (mulModP a b t2 ((P : ℤ) * (P : ℤ))) n) =
      el (qK f) (omegaK f o n) (vecZ a n) * el (qK f) (omegaK f o n) (vecZ b n) +
        (P : ℚ[X] ⧸ Ideal.span {NTV.Alg.modulus f}) * (P : ℚ[X] ⧸ Ideal.span {NTV.Alg.modulus f}) *
          el (qK f) (omegaK f o n) d) := by
  have S : Setup f o n := ⟨hf, hlen, hn, hr, hdet⟩
  have hp0 : (P : ℤ) ≠ 0 := Int.natCast_ne_zero.mpr hP
  have hcl := NTV.Round2.tables_closed S (P : ℤ) _ (mul_ne_zero hp0 hp0) t t2 htab
  obtain ⟨_, hC⟩ := S.ctx_of_closed hcl
  have one := h1.el_one S
  obtain ⟨ct, ct2, hT, hT2⟩ := NTV.Round2.tables_mod S P t t2 htab hP
  refine ⟨hcl, exists_eq_add_of_congO (NTV.Round2.mulModP_el hC one P (P : ℤ) (dvd_refl _) a b t ha hb ct hT), ?_⟩
  have := exists_eq_add_of_congO (NTV.Round2.mulModP_el hC one (P * P) ((P : ℤ) * (P : ℤ))
    ⟨1, by rw [Nat.cast_mul, mul_one]⟩ a b t2 ha hb ct2 hT2)
  rwa [Nat.cast_mul] at this

/-- **(M1) `pow_mod_p`.** Under the same hypotheses, for an exponent `e ≥ 1` a successful
`pow_mod_p(a, e, table, p)` returns coordinates (of length n) of `(Σ a_i ω_i)^e` modulo `p·O`. -/
theorem pow_mod_p_semantics (f : List Int) (o : Order) (n : Nat) (hf : Canon f) (hlen : f.length = n + 1)
    (hn : 1 ≤ n) (hr : Rect n n o) (hdet : (toM n n o).det ≠ 0) (h1 : HasOne n o) (P : ℕ) (hP : P ≠ 0)
    (t t2 : NTV.Ord.Table) (htab : tables f o n (P : ℤ) ((P : ℤ) * (P : ℤ)) = .ok (t, t2)) (a r : List Int) (e : Int)
    (he : 1 ≤ e) (ha : a.length = n) (hpow : powModP a e t (P : ℤ) = .ok r) :
    r.length = n ∧ ∃ d : Fin n → ℤ, el (qK f) (omegaK f o n) (vecZ r n) =
      el (qK f) (omegaK f o n) (vecZ a n) ^ e.toNat +
        (P : ℚ[X] ⧸ Ideal.span {NTV.Alg.modulus f}) * el (qK f) (omegaK f o n) d := by
  have S : Setup f o n := ⟨hf, hlen, hn, hr, hdet⟩
  have hp0 : (P : ℤ) ≠ 0 := Int.natCast_ne_zero.mpr hP
  have hcl := NTV.Round2.tables_closed S (P : ℤ) _ (mul_ne_zero hp0 hp0) t t2 htab
  obtain ⟨_, hC⟩ := S.ctx_of_closed hcl
  have one := h1.el_one S
  obtain ⟨ct, _, hT, _⟩ := NTV.Round2.tables_mod S P t t2 htab hP
  obtain ⟨hl, hd⟩ := NTV.Round2.powModP_el hC one P (P : ℤ) (dvd_refl _) t ct hT a r e he ha hpow
  exact ⟨hl, exists_eq_add_of_congO hd⟩

/-- **(M1) the exponent.** `let mut pow = 1; while pow < deg { pow *= p }` returns the LEAST power `p^k ≥ deg` -/
theorem pow_bound_least (deg : Nat) (p : Int) (fuel : Nat) (pow : Int)
    (h : powBound deg p fuel 1 = .ok pow) :
    ∃ k : ℕ, pow = p ^ k ∧ (deg : Int) ≤ pow ∧ ∀ j < k, p ^ j < (deg : Int) := by
  obtain ⟨k, hk, h1, h2⟩ := NTV.Round2.powBound_least deg p fuel 1 pow h
  refine ⟨k, by simpa using hk, h1, ?_⟩
  intro j hj
  simpa using h2 j hj

example : powBound 5 2 5 1 = .ok 8 := by decide +kernel

/-- **(M1) the p-radical is an ideal, and it is the radical of `pO`.** For an order `O` (ℤ-span of the ω_i, with
multiplication table and 1), a prime `p` and `p^k ≥ n`: `I_p = {x ∈ O | x^(p^k) ∈ pO}` is an ideal of `O` containing
`p` (the map `x ↦ x^(p^k)` is additive modulo `p`), and every `x ∈ O` with SOME power in `pO` lies in `I_p`
(a nilpotent element of the n-dimensional 𝔽_p-algebra `O/pO` has n-th power 0). -/
theorem p_radical_is_radical_ideal {K : Type*} [CommRing K] {n : ℕ} {q : ℚ →+* K} {Ω : Fin n → K}
    {T : Fin n → Fin n → Fin n → ℤ} (hC : Ctx q Ω T) (one : ∃ e : Fin n → ℤ, el q Ω e = 1) (P k : ℕ)
    (hP : P.Prime) (hk : n ≤ P ^ k) :
    IdealIn (Olat hC one) (radQ (Olat hC one) P (P ^ k)) ∧ (P : K) ∈ radQ (Olat hC one) P (P ^ k) ∧
    ∀ x ∈ Olat hC one, ∀ t : ℕ, x ^ t ∈ pO (Olat hC one) P → x ∈ radQ (Olat hC one) P (P ^ k) :=
  ⟨NTV.R2Abs.radQ_ideal _ P k hP, NTV.R2Abs.p_mem_radQ _ P _ (Nat.one_le_pow _ _ hP.pos),
    fun x hx t ht => ⟨hx, NTV.R2Abs.rad_of_pow hC one P hP (P ^ k) hk x hx t ht⟩⟩

/-- **(M1) `ip` spans the p-radical.** With `table` the multiplication table modulo `p` (`TableMod`), `phiw` the rows
`pow_mod_p(e_i, p^k, table, p)`, the truncated normal form of `HNF::kernel([phiw ; p·I])` — the matrix `i_p` of
`one_step` — is rectangular of width n and an integer vector `v` lies in its row lattice iff
`Σ v_i ω_i ∈ I_p = {x ∈ O | x^(p^k) ∈ pO}` (Frobenius: `(Σ v_i ω_i)^(p^k) ≡ Σ v_i ω_i^(p^k)` modulo `pO`). -/
theorem ip_spans_radical {K : Type*} [CommRing K] {n : ℕ} {q : ℚ →+* K} {Ω : Fin n → K}
    {T : Fin n → Fin n → Fin n → ℤ} (hC : Ctx q Ω T) (one : ∃ e : Fin n → ℤ, el q Ω e = 1) (hn : 0 < n)
    (P k : ℕ) (hP : P.Prime) (t : NTV.Ord.Table) (ct : NTV.Round2.Cube3 n t) (hT : NTV.Round2.TableMod n t T P)
    (phiw K0 ip0 : NTV.Ord.IMat)
    (hphiw : tabulate n (fun i =>
      powModP ((List.range n).map (fun j => if i = j then 1 else 0)) ((P : ℤ) ^ k) t (P : ℤ)) = .ok phiw)
    (hK : kernelM (phiw ++ scalarRows n (P : ℤ)) = .ok K0) (hip0 : hnfM K0 = .ok ip0) :
    ∃ r0, NTV.Hnf.Rect r0 n (ip0.map (fun row => row.take n)) ∧
      ∀ v : Fin n → ℤ, NTV.Hnf.InLattice r0 n (ip0.map (fun row => row.take n)) v ↔
        el q Ω v ∈ radQ (Olat hC one) P (P ^ k) :=
  NTV.Round2.ip_lattice hC one hn P k hP t ct hT phiw K0 ip0 hphiw hK hip0

/-- **(M2) the `U_p` loop.** If `ip` spans `I_p` (previous theorem) and `table2` is the multiplication table modulo
`p²`, the fold of `upStep` over the rows of `ip`, started at `ip`, returns generators of
`U = {u ∈ I_p | u·I_p ⊆ p·I_p}`. (Not part of this statement, used by `one_step_semantics`: after the last
`HNF::new(up ++ p·I)` one gets `U + pO` (`NTV.Round2.u_lattice`), and `(1/p)(U + pO) = {x | x·I_p ⊆ I_p}`
(`NTV.R2Abs.mem_multR_iff`).) -/
theorem up_loop_computes_U {K : Type*} [CommRing K] {n : ℕ} {q : ℚ →+* K} {Ω : Fin n → K}
    {T : Fin n → Fin n → Fin n → ℤ} (hC : Ctx q Ω T) (one : ∃ e : Fin n → ℤ, el q Ω e = 1) (hn : 0 < n)
    (P k : ℕ) (hP : P.Prime) (t2 : NTV.Ord.Table) (ct2 : NTV.Round2.Cube3 n t2)
    (hT2 : NTV.Round2.TableMod n t2 T (P * P)) (ip : NTV.Ord.IMat) (r0 : ℕ) (hr0 : 0 < r0) (hip : NTV.Hnf.Rect r0 n ip)
    (hipI : ∀ v : Fin n → ℤ, NTV.Hnf.InLattice r0 n ip v ↔ el q Ω v ∈ radQ (Olat hC one) P (P ^ k)) (up : NTV.Ord.IMat)
    (hfold : ip.foldlM (fun up etai => upStep n (P : ℤ) ((P : ℤ) * (P : ℤ)) t2 ip up etai) ip = .ok up) :
    ∃ r, NTV.Hnf.Rect r n up ∧ ∀ v : Fin n → ℤ, NTV.Hnf.InLattice r n up v ↔
      el q Ω v ∈ NTV.R2Abs.U0 (radQ (Olat hC one) P (P ^ k)) P :=
  NTV.Round2.up_lattice hC one P k hP hn t2 ct2 hT2 ip r0 hr0 hip hipI up hfold

/-- **(M2) semantics of `one_step`** (Cohen, Theorem 6.1.3 (1)). For a non-singular basis `o` containing 1 and a
PRIME `p`, a successful `one_step` certifies that `o` is closed under multiplication, returns a non-singular n×n basis
`o'`, and — for `p^k ≥ n` the exponent used by the routine — the ℤ-span of `o'` is EXACTLY the multiplier ring
`{x ∈ K | x·I_p ⊆ I_p}` of the p-radical `I_p = {x ∈ O | x^(p^k) ∈ pO}`. (The routine computes
`I_p` as the kernel of `[φ ; p·I]`, `U = {u ∈ I_p | u·I_p ⊆ p·I_p}` by the `U_p` loop and `O' = (1/p)(U + pO)`:
`NTV.Round2.ip_lattice`, `up_lattice`, `u_lattice`.) -/
theorem one_step_semantics (f : List Int) (o : Order) (n : Nat) (hf : Canon f) (hlen : f.length = n + 1)
    (hn : 1 ≤ n) (hr : Rect n n o) (hdet : (toM n n o).det ≠ 0) (P : ℕ) (hP : P.Prime) (o' : Order) (hm : Nat)
    (H : oneStep f o (P : ℤ) = .ok (o', hm)) :
    Closed f o n ∧ Rect n n o' ∧ (toM n n o').det ≠ 0 ∧
    ∀ (hC : Ctx (qK f) (omegaK f o n) (tabT (tableOf f o n) n))
      (one : ∃ e : Fin n → ℤ, el (qK f) (omegaK f o n) e = 1),
      ∃ k : ℕ, n ≤ P ^ k ∧ ∀ x : ℚ[X] ⧸ Ideal.span {NTV.Alg.modulus f},
        (∃ z : Fin n → ℤ, x = el (qK f) (omegaK f o' n) z) ↔
          x ∈ multR (radQ (Olat hC one) P (P ^ k)) := by
  obtain ⟨h1, S', h3⟩ := NTV.Round2.oneStep_sem ⟨hf, hlen, hn, hr, hdet⟩ P hP o' hm H
  exact ⟨h1, S'.rect, S'.det, h3⟩

/-- a successful `one_step` certifies that its input was closed under multiplication (the table loop passed) -/
theorem goodOrder_of_oneStep {f : List Int} {o : Order} {n : Nat} (S : Setup f o n) (hst : fromBasis o = .ok o)
    (h1 : HasOne n o) (P : ℕ) (hP : P.Prime) (o' : Order) (hm : Nat) (H : oneStep f o (P : ℤ) = .ok (o', hm)) :
    GoodOrder f n o :=
  ⟨S, hst, h1, (NTV.Round2.oneStep_closed S h1 P hP o' hm H).1⟩

/-- **(M3) the new order is a ring.** For a non-singular stored basis `o` containing 1 and a prime `p`, a successful
`one_step` returns a good order: non-singular, stored, containing 1 and CLOSED UNDER MULTIPLICATION (a multiplier ring
is a ring); `o` itself was closed (certified by the table loop). -/
theorem one_step_ring (f : List Int) (o : Order) (n : Nat) (hf : Canon f) (hlen : f.length = n + 1)
    (hn : 1 ≤ n) (hr : Rect n n o) (hdet : (toM n n o).det ≠ 0) (hst : fromBasis o = .ok o) (h1 : HasOne n o)
    (P : ℕ) (hP : P.Prime) (o' : Order) (hm : Nat) (H : oneStep f o (P : ℤ) = .ok (o', hm)) :
    Closed f o n ∧ GoodOrder f n o' ∧ Closed f o' n := by
  have g := goodOrder_of_oneStep ⟨hf, hlen, hn, hr, hdet⟩ hst h1 P hP o' hm H
  have g' := (NTV.Round2.oneStep_good g P hP o' hm H).1
  exact ⟨g.closed, g', g'.closed⟩

theorem hasOne_identity2 : HasOne 2 ([[1, 0], [0, 1]] : QMat) :=
  ⟨fun i => if i = 0 then 1 else 0, by decide +kernel⟩

/-- non-vacuity: f = x² + 3, o = Z[θ], p = 2: the new order Z[(1+θ)/2] is closed under multiplication -/
example : Closed [3, 0, 1] [[1, 0], [1/2, 1/2]] 2 :=
  (one_step_ring [3, 0, 1] [[1, 0], [0, 1]] 2 canon_x2p3 rfl (by decide) ⟨rfl, by simp⟩ det_id2
    fromBasis_id2 hasOne_identity2 2 Nat.prime_two _ 1 oneStep_x2p3).2.2

/-- **(M3) the result of `find_integral_basis` is closed under multiplication**: for every canonical `f`, a returned
`O` is a good order — n×n non-singular (n = deg f ≥ 1), stored, containing 1, and every product of two basis vectors is
an INTEGRAL combination of the basis vectors (`Closed`: so `Order::get_mult_table` succeeds on it, C14). The
starting order `Z[θ] ∩ Z[1/θ]` is a ring for non-monic `f` as well (`NTV.Round2.start_closed`). -/
theorem result_is_ring (f : List Int) (hf : Canon f) (O : Order) (H : findIntegralBasis f = .ok O) :
    GoodOrder f (degU f) O ∧ Closed f O (degU f) := by
  have g := NTV.Round2.findIntegralBasis_good f hf O H
  exact ⟨g, g.closed⟩

/-- non-vacuity: Dedekind's cubic x³ − x² − 2x − 8 (index 2) and the non-monic 4x³ + 2 -/
example : Closed [-8, -2, -1, 1] [[1, 0, 0], [0, 1, 0], [0, 1/2, 1/2]] 3 :=
  (result_is_ring [-8, -2, -1, 1] canon_dedekind _ fib_dedekind).2

example : Closed [2, 0, 0, 4] [[1, 0, 0], [0, 2, 0], [0, 0, 2]] 3 :=
  (result_is_ring [2, 0, 0, 4] (by simp [Canon]) _ fib_4x3p2).2

/-- **(M4) Pohst–Zassenhaus** (Cohen, Theorem 6.1.3 (2)). If `one_step` on a non-singular stored basis `o` containing
1 and a prime `p` returns `howmany = 0` (the multiplier ring of the p-radical is `O` itself), then `O` is p-MAXIMAL:
every order `S ⊇ O` (non-singular n×n basis, closed under multiplication) with `p^r·S ⊆ O` for some `r` — i.e. in which
`O` has p-power index — is contained in `O` (`NTV.Round2.PMaximal`). -/
theorem one_step_maximal (f : List Int) (o : Order) (n : Nat) (hf : Canon f) (hlen : f.length = n + 1)
    (hn : 1 ≤ n) (hr : Rect n n o) (hdet : (toM n n o).det ≠ 0) (hst : fromBasis o = .ok o) (h1 : HasOne n o)
    (P : ℕ) (hP : P.Prime) (o' : Order) (H : oneStep f o (P : ℤ) = .ok (o', 0)) :
    PMaximal f n o P := by
  have g := goodOrder_of_oneStep ⟨hf, hlen, hn, hr, hdet⟩ hst h1 P hP o' 0 H
  exact (NTV.Round2.oneStep_max g P hP o' H).pmaximal g

theorem pMaximal_iff (f : List Int) (n : Nat) (O : QMat) (p : ℕ) :
    PMaximal f n O p ↔
      ∀ S : QMat, Rect n n S → (toM n n S).det ≠ 0 → Closed f S n →
        (∃ A : Matrix (Fin n) (Fin n) ℤ, toM n n O = A.map (Int.castRingHom ℚ) * toM n n S) →
        (∃ (r : ℕ) (B : Matrix (Fin n) (Fin n) ℤ),
          ((p : ℚ) ^ r) • toM n n S = B.map (Int.castRingHom ℚ) * toM n n O) →
        ∃ R : Matrix (Fin n) (Fin n) ℤ, toM n n S = R.map (Int.castRingHom ℚ) * toM n n O := Iff.rfl

theorem hasOne_eisenstein : HasOne 2 ([[1, 0], [1/2, 1/2]] : QMat) :=
  ⟨fun i => if i = 0 then 1 else 0, by decide +kernel⟩

/-- non-vacuity: Z[(1+√−3)/2] is 2-maximal and 3-maximal (`one_step` returns howmany = 0) -/
example : PMaximal [3, 0, 1] 2 [[1, 0], [1/2, 1/2]] 2 ∧ PMaximal [3, 0, 1] 2 [[1, 0], [1/2, 1/2]] 3 := by
  have hdet := det_eisenstein
  have H2 : oneStep [3, 0, 1] [[1, 0], [1/2, 1/2]] ((2 : ℕ) : ℤ) = .ok ([[1, 0], [1/2, 1/2]], 0) := by
    decide +kernel
  have H3 : oneStep [3, 0, 1] [[1, 0], [1/2, 1/2]] ((3 : ℕ) : ℤ) = .ok ([[1, 0], [1/2, 1/2]], 0) := by
    decide +kernel
  have hst : fromBasis ([[1, 0], [1/2, 1/2]] : QMat) = .ok [[1, 0], [1/2, 1/2]] := by decide +kernel
  exact ⟨one_step_maximal [3, 0, 1] _ 2 canon_x2p3 rfl (by decide) ⟨rfl, by simp⟩ hdet
      hst hasOne_eisenstein 2 Nat.prime_two _ H2,
    one_step_maximal [3, 0, 1] _ 2 canon_x2p3 rfl (by decide) ⟨rfl, by simp⟩ hdet
      hst hasOne_eisenstein 3 Nat.prime_three _ H3⟩

/-- **(M4) maximality of the result, at the primes whose square divides the discriminant** (the special case of
`result_is_maximal` below that shows the mechanism). For every canonical `f`: a returned `O` is p-maximal at every prime `p` whose square divides the
discriminant of `O` (as computed by `Order::discriminant`): the loop for such a `p` can only have ended with
`howmany = 0` (Pohst–Zassenhaus), and the later primes enlarge the order by indices prime to `p`, which preserves
p-maximality. The primes with `p² ∤ disc(O)` are handled by `result_is_maximal` through the trace form. -/
theorem result_is_maximal_at_square_primes (f : List Int) (hf : Canon f) (O : Order) (H : findIntegralBasis f = .ok O)
    (p : ℕ) (hp : p.Prime) (dO : ℤ) (hdO : discriminantOrd O f = .ok dO) (hdvd : (p : ℤ) ^ 2 ∣ dO) :
    PMaximal f (degU f) O p :=
  (NTV.Round2.findIntegralBasis_max f hf O H p hp dO hdO hdvd).pmaximal
    (NTV.Round2.findIntegralBasis_good f hf O H)

/-- non-vacuity: f = x² + 1: the result Z[i] has discriminant −4 and is 2-maximal -/
example : PMaximal [1, 0, 1] 2 [[1, 0], [0, 1]] 2 :=
  result_is_maximal_at_square_primes [1, 0, 1] (by simp [Canon]) [[1, 0], [0, 1]] (by decide +kernel) 2 Nat.prime_two (-4)
    (by decide +kernel) (by decide)

/-- **the discriminant of an order is an integer** — `Order::discriminant` never panics on a non-singular basis that
is closed under multiplication: `disc(f)·det²/lc(f)^(2n−2)` is (exactly) the determinant of the integral trace form
`Tr(ω_i ω_j)` (`NTV.InvDiff.det_traceMatrix_powers_mul`: for every non-zero `F` of degree n ≥ 1 over a field of
characteristic zero, the trace-form discriminant of 1, θ, …, θ^(n−1) in `k[X]/(F)` is `discr F / lc(F)^(2n−2)`;
`NTV.DiscrTrace.discr_powerBasis_adjoinRoot_eq` proves the same in any characteristic). -/
theorem order_discriminant_is_integer (f : List Int) (o : Order) (n : Nat) (hf : Canon f)
    (hlen : f.length = n + 1) (hn : 1 ≤ n) (hr : Rect n n o) (hdet : (toM n n o).det ≠ 0)
    (hcl : Closed f o n) : ∃ d : ℤ, discriminantOrd o f = .ok d :=
  NTV.Round2.discriminantOrd_closed ⟨hf, hlen, hn, hr, hdet⟩ hcl

/-- **one step and the discriminant** (the divisibility hypothesis of `one_step_discriminant_partial` is a theorem
when `p` is prime and `o` contains 1): for a non-singular stored basis `o` containing 1 and a prime `p`, after a successful `one_step` both
discriminants are computed without a panic and disc(o) = p^(2·howmany)·disc(o'). -/
theorem one_step_discriminant (f : List Int) (o : Order) (n : Nat) (hf : Canon f) (hlen : f.length = n + 1)
    (hn : 1 ≤ n) (hr : Rect n n o) (hdet : (toM n n o).det ≠ 0) (hst : fromBasis o = .ok o) (h1 : HasOne n o)
    (P : ℕ) (hP : P.Prime) (o' : Order) (hm : Nat) (H : oneStep f o (P : ℤ) = .ok (o', hm)) :
    ∃ d d' : ℤ, discriminantOrd o f = .ok d ∧ discriminantOrd o' f = .ok d' ∧ d = (P : ℤ) ^ (2 * hm) * d' := by
  obtain ⟨g', ext⟩ := NTV.Round2.oneStep_good (goodOrder_of_oneStep ⟨hf, hlen, hn, hr, hdet⟩ hst h1 P hP o' hm H)
    P hP o' hm H
  obtain ⟨d', hd'⟩ := NTV.Round2.discriminantOrd_closed g'.setup g'.closed
  exact ⟨_, d', (disc_pow_ext_iff hr ext f d').mpr hd', hd', rfl⟩

/-- **(M4) the result of `find_integral_basis` is p-maximal at EVERY prime p** (f canonical): every order `S ⊇ O`
(non-singular n×n basis closed under multiplication) with `p^r·S ⊆ O` for some `r` is contained in `O`. For
`p² | disc(O)` the loop for `p` ended with `howmany = 0` (`one_step_maximal`) and the later primes have indices prime
to `p`; for `p² ∤ disc(O)` a strictly larger `S` would have index `p^j`, `j ≥ 1`, and `disc(O) = p^(2j)·disc(S)` with
`disc(S)` an integer (`order_discriminant_is_integer`). -/
theorem result_is_maximal (f : List Int) (hf : Canon f) (O : Order) (H : findIntegralBasis f = .ok O)
    (p : ℕ) (hp : p.Prime) : PMaximal f (degU f) O p :=
  NTV.Round2.findIntegralBasis_pmaximal_all f hf O H p hp

/-- non-vacuity: Dedekind's cubic x³ − x² − 2x − 8: the result (index 2 in Z[θ], disc −503) is 2-maximal;
here 2² ∤ −503, so this instance goes through the trace form -/
example : PMaximal [-8, -2, -1, 1] 3 [[1, 0, 0], [0, 1, 0], [0, 1/2, 1/2]] 2 :=
  result_is_maximal [-8, -2, -1, 1] canon_dedekind _ fib_dedekind 2 Nat.prime_two

/-- **so no strictly larger order exists**: the result of `find_integral_basis` contains every order (non-singular
n×n basis closed under multiplication) that contains it — it is THE maximal order of `ℚ[x]/(f)` among the orders
containing the starting order. -/
theorem result_is_maximal_order (f : List Int) (hf : Canon f) (O : Order) (H : findIntegralBasis f = .ok O)
    (S : QMat) (hS : Rect (degU f) (degU f) S) (hdS : (toM (degU f) (degU f) S).det ≠ 0)
    (hcS : Closed f S (degU f))
    (hOS : ∃ A : Matrix (Fin (degU f)) (Fin (degU f)) ℤ,
      toM (degU f) (degU f) O = A.map (Int.castRingHom ℚ) * toM (degU f) (degU f) S) :
    ∃ R : Matrix (Fin (degU f)) (Fin (degU f)) ℤ,
      toM (degU f) (degU f) S = R.map (Int.castRingHom ℚ) * toM (degU f) (degU f) O :=
  NTV.Round2.maximal_of_pmaximal_all (NTV.Round2.findIntegralBasis_good f hf O H)
    (fun p hp => NTV.Round2.findIntegralBasis_pmaximal_all f hf O H p hp) S hS hdS hcS hOS

/-- non-vacuity: the hypotheses are satisfiable (S = O = Z[(1+√5)/2] for f = x² − 5) -/
example : ∃ R : Matrix (Fin 2) (Fin 2) ℤ,
    toM 2 2 ([[1, 0], [1/2, 1/2]] : QMat) = R.map (Int.castRingHom ℚ) * toM 2 2 ([[1, 0], [1/2, 1/2]] : QMat) :=
  have hr : Rect 2 2 ([[1, 0], [1/2, 1/2]] : QMat) := ⟨rfl, by simp⟩
  result_is_maximal_order [-5, 0, 1] canon_x2m5 _ fib_x2m5 _ hr det_eisenstein
    (result_is_ring [-5, 0, 1] canon_x2m5 _ fib_x2m5).2 ⟨1, by simp⟩

end Round2Ring

/-! ## The discriminant of the result is the FIELD discriminant

`K_f = AdjoinRoot (modulus f) = ℚ[X]/(f)` (`modulus f` is `f` as a rational polynomial), a number field when `f` is
irreducible over ℚ. For `f` canonical and irreducible, the ℤ-span of the rows of the returned basis (as elements of
`K_f`) is the integral closure of ℤ in `K_f` (`order_is_integral_closure`), so the value returned by
`Order::discriminant` on it is Mathlib's `NumberField.discr K_f` (`discriminant_is_field_discriminant`); hence two
polynomials defining the same field (a ℚ-algebra isomorphism `K_f ≃ K_g`) give the same discriminant
(`discriminant_is_field_invariant`), in particular for the changes of generator θ + k, −θ, c·θ
(`discriminant_affine_invariant`, `discriminant_shift_invariant`) and 1/θ (`discriminant_reciprocal_invariant`).
Lemmas: `Lemmas/FieldDiscA.lean`, `FieldDiscC.lean`, `FieldDiscD.lean`. -/
section FieldDiscriminant
open Polynomial
open NTV.Ord NTV.Round2 NTV.PolyG
open NTV.Alg (modulus)

/-- **the result of `find_integral_basis` is the ring of integers.** For `f` canonical and irreducible over ℚ, an
element of `ℚ[X]/(f)` is integral over ℤ iff it is an integer combination of the rows of the returned basis
(row `i` is the class of the polynomial with coefficient list `O[i]`). -/
theorem order_is_integral_closure (f : List Int) (hf : Canon f) (hirr : Irreducible (modulus f)) (O : Order)
    (H : findIntegralBasis f = .ok O) (x : AdjoinRoot (modulus f)) :
    x ∈ integralClosure ℤ (AdjoinRoot (modulus f)) ↔
      x ∈ Submodule.span ℤ (Set.range
        (fun i : Fin (degU f) => AdjoinRoot.mk (modulus f) (toPoly (O.getD i [])))) :=
  (findIntegralBasis_good f hf O H).integral_iff hirr (fun p hp => findIntegralBasis_pmaximal_all f hf O H p hp) x

/-- **its discriminant is the field discriminant**: the value `Order::discriminant` returns on the result of
`find_integral_basis` is the absolute discriminant `NumberField.discr` of the number field `ℚ[X]/(f)`. -/
theorem discriminant_is_field_discriminant (f : List Int) (hf : Canon f) [Fact (Irreducible (modulus f))]
    (O : Order) (H : findIntegralBasis f = .ok O) (d : ℤ) (hd : discriminantOrd O f = .ok d) :
    d = @NumberField.discr (AdjoinRoot (modulus f)) _ (NTV.FieldDisc.numberField_adjoinRoot (modulus f)) :=
  (findIntegralBasis_good f hf O H).discr_eq (fun p hp => findIntegralBasis_pmaximal_all f hf O H p hp) d hd

/-- **the discriminant depends only on the field**: if `f` and `g` (canonical, irreducible over ℚ) define the same
field — there is a ℚ-algebra isomorphism `ℚ[X]/(f) ≃ ℚ[X]/(g)` — then the discriminants of the two computed orders
are equal. -/
theorem discriminant_is_field_invariant (f g : List Int) (hf : Canon f) (hg : Canon g)
    (hif : Irreducible (modulus f)) (hig : Irreducible (modulus g))
    (e : AdjoinRoot (modulus f) ≃ₐ[ℚ] AdjoinRoot (modulus g))
    (O O' : Order) (H : findIntegralBasis f = .ok O) (H' : findIntegralBasis g = .ok O')
    (d d' : ℤ) (hd : discriminantOrd O f = .ok d) (hd' : discriminantOrd O' g = .ok d') : d = d' := by
  have : Fact (Irreducible (modulus f)) := ⟨hif⟩
  have : Fact (Irreducible (modulus g)) := ⟨hig⟩
  have := NTV.FieldDisc.numberField_adjoinRoot (modulus f)
  have := NTV.FieldDisc.numberField_adjoinRoot (modulus g)
  rw [discriminant_is_field_discriminant f hf O H d hd, discriminant_is_field_discriminant g hg O' H' d' hd']
  exact NumberField.discr_eq_discr_of_algEquiv _ e

/-- generator `θ' = c·θ + k` (θ + k: c = u = 1; −θ: c = −1, u = ±1; c·θ: k = 0, u = cⁿ): if
`g(c·X + k) = u·f(X)` with `c, u ≠ 0`, `f` irreducible, then `g` is irreducible and the discriminants agree. -/
theorem discriminant_affine_invariant (f g : List Int) (hf : Canon f) (hg : Canon g)
    (hif : Irreducible (modulus f)) (c k u : ℤ) (hc : c ≠ 0) (hu : u ≠ 0)
    (h : (toPoly g).comp (C c * X + C k) = C u * toPoly f)
    (O O' : Order) (H : findIntegralBasis f = .ok O) (H' : findIntegralBasis g = .ok O')
    (d d' : ℤ) (hd : discriminantOrd O f = .ok d) (hd' : discriminantOrd O' g = .ok d') :
    Irreducible (modulus g) ∧ d = d' := by
  have hq := NTV.FieldDisc.modulus_affine f g c k u h
  have hcq : (c : ℚ) ≠ 0 := Int.cast_ne_zero.mpr hc
  have huq : (u : ℚ) ≠ 0 := Int.cast_ne_zero.mpr hu
  have hig := NTV.FieldDisc.irreducible_of_affine hcq huq hq hif
  exact ⟨hig, discriminant_is_field_invariant f g hf hg hif hig (NTV.FieldDisc.affineEquiv hcq huq hq) O O' H H' d d' hd hd'⟩

/-- generator `θ + k`: `g(X + k) = f(X)` -/
theorem discriminant_shift_invariant (f g : List Int) (hf : Canon f) (hg : Canon g)
    (hif : Irreducible (modulus f)) (k : ℤ) (h : (toPoly g).comp (X + C k) = toPoly f)
    (O O' : Order) (H : findIntegralBasis f = .ok O) (H' : findIntegralBasis g = .ok O')
    (d d' : ℤ) (hd : discriminantOrd O f = .ok d) (hd' : discriminantOrd O' g = .ok d') : d = d' :=
  (discriminant_affine_invariant f g hf hg hif 1 k 1 one_ne_zero one_ne_zero (by simpa using h)
    O O' H H' d d' hd hd').2

/-- generator `−θ`: `g(−X) = u·f(X)` (u = ±1) -/
theorem discriminant_neg_invariant (f g : List Int) (hf : Canon f) (hg : Canon g)
    (hif : Irreducible (modulus f)) (u : ℤ) (hu : u ≠ 0) (h : (toPoly g).comp (-X) = C u * toPoly f)
    (O O' : Order) (H : findIntegralBasis f = .ok O) (H' : findIntegralBasis g = .ok O')
    (d d' : ℤ) (hd : discriminantOrd O f = .ok d) (hd' : discriminantOrd O' g = .ok d') : d = d' :=
  (discriminant_affine_invariant f g hf hg hif (-1) 0 u (by norm_num) hu (by simpa using h)
    O O' H H' d d' hd hd').2

/-- generator `c·θ`: `g(c·X) = u·f(X)` (c ≠ 0, u = cⁿ for monic f, g) -/
theorem discriminant_scale_invariant (f g : List Int) (hf : Canon f) (hg : Canon g)
    (hif : Irreducible (modulus f)) (c u : ℤ) (hc : c ≠ 0) (hu : u ≠ 0)
    (h : (toPoly g).comp (C c * X) = C u * toPoly f)
    (O O' : Order) (H : findIntegralBasis f = .ok O) (H' : findIntegralBasis g = .ok O')
    (d d' : ℤ) (hd : discriminantOrd O f = .ok d) (hd' : discriminantOrd O' g = .ok d') : d = d' :=
  (discriminant_affine_invariant f g hf hg hif c 0 u hc hu (by simpa using h) O O' H H' d d' hd hd').2

/-- generator `1/θ`: `g = u·Xⁿ·f(1/X)` (the coefficients reversed, `u ≠ 0`; `f(0) ≠ 0` so that θ ≠ 0) -/
theorem discriminant_reciprocal_invariant (f g : List Int) (hf : Canon f) (hg : Canon g)
    (hif : Irreducible (modulus f)) (hig : Irreducible (modulus g)) (u : ℤ) (hu : u ≠ 0)
    (h0 : (toPoly f).coeff 0 ≠ 0) (h : toPoly g = C u * (toPoly f).reverse)
    (O O' : Order) (H : findIntegralBasis f = .ok O) (H' : findIntegralBasis g = .ok O')
    (d d' : ℤ) (hd : discriminantOrd O f = .ok d) (hd' : discriminantOrd O' g = .ok d') : d = d' := by
  have : Fact (Irreducible (modulus f)) := ⟨hif⟩
  have : Fact (Irreducible (modulus g)) := ⟨hig⟩
  have huq : (u : ℚ) ≠ 0 := Int.cast_ne_zero.mpr hu
  have h0q : (modulus f).coeff 0 ≠ 0 := by
    rw [modulus_eq_map, coeff_map]
    exact Int.cast_ne_zero.mpr h0
  have hq : modulus g = C (u : ℚ) * (modulus f).reverse := by
    rw [modulus_eq_map, modulus_eq_map, h, Polynomial.map_mul, Polynomial.map_C,
      NTV.FieldDisc.reverse_map_of_injective (Int.castRingHom ℚ) Int.cast_injective]
    rfl
  exact discriminant_is_field_invariant f g hf hg hif hig (NTV.FieldDisc.reciprocalEquiv huq h0q hq) O O' H H' d d' hd hd'

/-! ### non-vacuity: ℚ(√−3) through x² + 3 (θ), x² − 2x + 4 (θ + 1), x² + 12 (2θ), 3x² + 1 (1/θ); the four computed
orders differ but all have discriminant −3 -/

theorem toPoly_quadratic {R : Type} [CommRing R] (a b c : R) :
    toPoly [a, b, c] = C c * X ^ 2 + C b * X + C a := by
  simp only [toPoly]
  ring

/-- a rational quadratic `c·X² + a` with `a, c > 0` has no rational root -/
theorem irreducible_quadratic {a c : ℚ} (ha : 0 < a) (hc : 0 < c) : Irreducible (C c * X ^ 2 + C 0 * X + C a) := by
  have hd : (C c * X ^ 2 + C 0 * X + C a : ℚ[X]).natDegree = 2 := by
    compute_degree!
    exact hc.ne'
  apply Polynomial.irreducible_of_degree_le_three_of_not_isRoot
  · rw [hd]; decide
  · intro x hx
    simp only [IsRoot, eval_add, eval_mul, eval_pow, eval_X, eval_C, zero_mul, add_zero] at hx
    have := mul_nonneg hc.le (sq_nonneg x)
    linarith

theorem x2p3_irreducible : Irreducible (modulus [3, 0, 1]) := by
  rw [show modulus [3, 0, 1] = _ from toPoly_quadratic _ _ _]
  exact irreducible_quadratic (by norm_num) (by norm_num)

theorem fib_shift : findIntegralBasis [4, -2, 1] = .ok [[1, 0], [0, 1/2]] := by decide +kernel

theorem disc_shift : discriminantOrd [[1, 0], [0, 1/2]] [4, -2, 1] = .ok (-3) := by decide +kernel

theorem fib_scale : findIntegralBasis [12, 0, 1] = .ok [[1, 0], [1/2, 1/4]] := by decide +kernel

theorem disc_scale : discriminantOrd [[1, 0], [1/2, 1/4]] [12, 0, 1] = .ok (-3) := by decide +kernel

theorem fib_reverse : findIntegralBasis [1, 0, 3] = .ok [[1, 0], [1/2, 3/2]] := by decide +kernel

theorem disc_reverse : discriminantOrd [[1, 0], [1/2, 3/2]] [1, 0, 3] = .ok (-3) := by decide +kernel

example : findIntegralBasis [3, 0, 1] = .ok [[1, 0], [1/2, 1/2]] ∧
    discriminantOrd [[1, 0], [1/2, 1/2]] [3, 0, 1] = .ok (-3) ∧
    findIntegralBasis [4, -2, 1] = .ok [[1, 0], [0, 1/2]] ∧
    discriminantOrd [[1, 0], [0, 1/2]] [4, -2, 1] = .ok (-3) ∧
    findIntegralBasis [12, 0, 1] = .ok [[1, 0], [1/2, 1/4]] ∧
    discriminantOrd [[1, 0], [1/2, 1/4]] [12, 0, 1] = .ok (-3) ∧
    findIntegralBasis [1, 0, 3] = .ok [[1, 0], [1/2, 3/2]] ∧
    discriminantOrd [[1, 0], [1/2, 3/2]] [1, 0, 3] = .ok (-3) :=
  ⟨fib_x2p3, disc_x2p3, fib_shift, disc_shift, fib_scale, disc_scale, fib_reverse, disc_reverse⟩

/-- the hypotheses of `discriminant_shift_invariant` hold for x² + 3 and x² − 2x + 4 = (x − 1)² + 3 -/
example : (-3 : ℤ) = -3 :=
  discriminant_shift_invariant [3, 0, 1] [4, -2, 1] canon_x2p3 (by intro _; simp) x2p3_irreducible 1
    (by simp [NTV.PolyG.toPoly]; ring) _ _ fib_x2p3 fib_shift _ _ disc_x2p3 disc_shift

/-- … of `discriminant_affine_invariant` (the case of `discriminant_scale_invariant`) for x² + 3 and x² + 12
(generator 2θ, g(2X) = 4·f(X)) -/
example : Irreducible (modulus [12, 0, 1]) ∧ (-3 : ℤ) = -3 :=
  discriminant_affine_invariant [3, 0, 1] [12, 0, 1] canon_x2p3 (by intro _; simp) x2p3_irreducible 2 0 4
    (by norm_num) (by norm_num) (by simp [NTV.PolyG.toPoly]; ring) _ _ fib_x2p3 fib_scale _ _ disc_x2p3 disc_scale

theorem x2p3rev_irreducible : Irreducible (modulus [1, 0, 3]) := by
  rw [show modulus [1, 0, 3] = _ from toPoly_quadratic _ _ _]
  exact irreducible_quadratic (by norm_num) (by norm_num)

theorem x2p3_reverse : toPoly ([1, 0, 3] : List ℤ) = C 1 * (toPoly ([3, 0, 1] : List ℤ)).reverse := by
  have hd : (X ^ 2 + C 3 : ℤ[X]).natDegree = 2 := by compute_degree!
  rw [toPoly_quadratic, toPoly_quadratic]
  simp only [map_zero, zero_mul, add_zero, map_one, one_mul]
  rw [reverse, hd, reflect_add, reflect_C, reflect_monomial, revAt_le (by norm_num), Nat.sub_self, pow_zero, add_comm]

/-- … of `discriminant_reciprocal_invariant` for x² + 3 and 3x² + 1 (generator 1/θ) -/
example : (-3 : ℤ) = -3 :=
  discriminant_reciprocal_invariant [3, 0, 1] [1, 0, 3] canon_x2p3 (by intro _; simp) x2p3_irreducible
    x2p3rev_irreducible 1 one_ne_zero (by simp [NTV.PolyG.toPoly]) x2p3_reverse _ _ fib_x2p3 fib_reverse _ _
    disc_x2p3 disc_reverse

/-- … and the field discriminant of ℚ(√−3) is −3, through the model -/
example : @NumberField.discr (AdjoinRoot (modulus [3, 0, 1])) (@AdjoinRoot.instField _ _ _ ⟨x2p3_irreducible⟩)
    (@NTV.FieldDisc.numberField_adjoinRoot (modulus [3, 0, 1]) ⟨x2p3_irreducible⟩) = -3 :=
  haveI : Fact (Irreducible (modulus [3, 0, 1])) := ⟨x2p3_irreducible⟩
  (discriminant_is_field_discriminant [3, 0, 1] canon_x2p3 _ fib_x2p3 (-3) disc_x2p3).symm

end FieldDiscriminant

end NTV.C06
