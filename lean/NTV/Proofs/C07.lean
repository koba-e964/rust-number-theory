import NTV.Model.PolyZ
import NTV.Proofs.C09
import NTV.Proofs.C10
import NTV.Proofs.Lemmas.PolyZProofs4
import NTV.Proofs.Lemmas.ZassenhausMain
import NTV.Proofs.Lemmas.NoPanicZassenhaus
import NTV.Proofs.Lemmas.NoPanicZassenhaus2
import NTV.Proofs.Lemmas.ZassenhausAnyBound
/-! # C07 — factorisation over ℤ.
First the building blocks the routine uses and what the structure of `factorize` alone guarantees (some under
the exactness flag `GcdExact`, proved further down); then irreducibility, the exact product identity and
completeness for every input and every draw stream (`factors_irreducible`, `product_identity`, `complete`, resting on
`squarefree_factors_irreducible`, `mignotte_for_coeffBound`, `hensel_uniqueness`); then panic-freedom and termination; last the
acceptance test for the modulus bound the running code reports (`accepted_bound_suffices`, `model_bound_accepted`). -/
open Polynomial
namespace NTV.C07
open NTV.PolyG

/-- the content / primitive-part split the routine starts with: c·pp = a, pp primitive with positive
leading coefficient (so `c` is the signed content) -/
theorem content_split (a : List Int) (ha : a ≠ []) (hca : Canon a) :
    C (contPP a).1 * toPoly (contPP a).2 = toPoly a ∧
    (∀ d : Int, (∀ c ∈ (contPP a).2, d ∣ c) → d ∣ 1) ∧ 0 < lc (contPP a).2 ∧ Canon (contPP a).2 :=
  NTV.C09.contPP_full a ha hca

/-- every trial division of the recombination and of the multiplicity loop is decided exactly:
`div_exact` answers `some q` iff the candidate divides -/
theorem trial_division_exact (a b : List Int) (ha : a ≠ []) (hb : b ≠ []) (hca : Canon a) (hcb : Canon b) :
    (∃ q, divExact a b = some q) ↔ (∃ q' : List Int, toPoly a = toPoly q' * toPoly b) :=
  NTV.C09.divExact_iff a b ha hb hca hcb

/-- and then `a = q·b`, with `q` canonical -/
theorem trial_division_sound (a b q : List Int) (h : divExact a b = some q) :
    b ≠ [] ∧ toPoly a = toPoly q * toPoly b ∧ Canon q := NTV.C09.divExact_sound_full a b q h

/-- the zero polynomial gives (0, []) and a non-zero constant c gives (c, []) -/
theorem zero_and_constants (c : Int) (hc : c ≠ 0) (s : NTV.Draw.Stream) :
    NTV.PolyZ.factorize [] s = .ok (0, []) ∧ NTV.PolyZ.factorize [c] s = .ok (c, []) := by
  constructor
  · simp [NTV.PolyZ.factorize, pure, Except.pure]
  · have hcont : (contPP [c]).1 = c := by
      simp only [contPP, List.isEmpty_cons, Bool.false_eq_true, ↓reduceIte, contentAbs, List.foldl_cons,
        List.foldl_nil, Int.gcd_zero_left, lc, List.getLastD_cons, List.getLastD_nil]
      by_cases h : c < 0
      · simp only [h, ↓reduceIte]; omega
      · simp only [h, ↓reduceIte]; omega
    simp [NTV.PolyZ.factorize, degU, pure, Except.pure, hcont]

/-! ## What the structure of `factorize` guarantees
for every input, every draw stream and whatever the modular stage (prime search, factorisation modulo p,
Hensel lifting) returned: only the exact trial divisions, the content split and the order of the loops
are used. Theorems of this section that need irreducibility of the returned factors take it as an explicit
hypothesis.

`GcdExact a` is the exactness flag of the subresultant gcd of pp(a) and pp(a)' (the hypothesis of the C10
theorems; `factorize` discards the flag). Without it the value used as gcd is an arbitrary exact divisor
of pp(a), and the leading-coefficient sign of the last factor, `e ≥ 1`, distinctness and true
multiplicities are not determined by the structure alone. It holds for every non-zero canonical `a`
(`gcdExact_holds`). The theorems named `…_partial` keep `hx : GcdExact a` (or irreducibility of the factors) as a
hypothesis, to show what the loop structure alone gives; the forms without the hypothesis are in the next section. -/
open NTV.PolyZ

/-- **Product identity, with a cofactor** (the cofactor `r` left by the multiplicity loop is
not shown to be 1 here — that needs the returned factors to be irreducible, see
`product_identity_irreducible_partial`; with a reducible factor f = p·q and a = p²·q the loop leaves
r = p). For every non-zero canonical `a` and every successful run:
`c · r · ∏ fᵢ^eᵢ = a` and `c · q · ∏ fᵢ = a` for some `r, q ∈ ℤ[X]` (the listed polynomials multiply to an
exact divisor of the primitive part: every accepted candidate passed an exact division and the last
cofactor is appended), and each `eᵢ` is maximal for the cofactor the loop had reached:
`fᵢ ∤ r · ∏_{j>i} fⱼ^eⱼ`. -/
theorem product_identity_partial (a : List Int) (s : NTV.Draw.Stream) (c : Int) (fs : List (List Int × Nat))
    (ha : a ≠ []) (hca : Canon a) (h : factorize a s = .ok (c, fs)) :
    ∃ r q : ℤ[X],
      C c * (r * (fs.map fun fe => toPoly fe.1 ^ fe.2).prod) = toPoly a ∧
      C c * (q * (fs.map fun fe => toPoly fe.1).prod) = toPoly a ∧
      ∀ l1 f e l2, fs = l1 ++ (f, e) :: l2 → ¬ toPoly f ∣ r * (l2.map fun fe => toPoly fe.1 ^ fe.2).prod := by
  obtain ⟨s1, _, _, _⟩ := NTV.PolyG.contPP_spec a ha hca
  rcases factorize_cases a s c fs ha hca h with ⟨rfl, rfl, h1⟩ | ⟨hl, g, sq, r, R, -⟩
  · refine ⟨1, 1, by simpa [h1] using s1, by simpa [h1] using s1, ?_⟩
    intro l1 f e l2 hs; simp at hs
  · obtain ⟨q, hq⟩ := R.sq_dvd
    refine ⟨toPoly r, q, ?_, ?_, R.hmax⟩
    · rw [R.hc, ← s1, R.hprod]; rfl
    · rw [R.hc, ← s1, hq, R.hprod_sq, List.map_map, mul_comm q]; rfl

/-- **Shape of the output** (unconditional part): `c` is the signed content — non-zero, with the sign of
the leading coefficient of `a`, of absolute value the content of `a` — and every returned `f` is
canonical, non-constant, primitive and divides `a`. (A constant factor ±1 would make the multiplicity
loop spin: the run is then not `.ok`.) -/
theorem factor_shape (a : List Int) (s : NTV.Draw.Stream) (c : Int) (fs : List (List Int × Nat))
    (ha : a ≠ []) (hca : Canon a) (h : factorize a s = .ok (c, fs)) :
    c ≠ 0 ∧ (0 < c ↔ 0 < lc a) ∧ (toPoly a).content = |c| ∧
    ∀ fe ∈ fs, Canon fe.1 ∧ 2 ≤ fe.1.length ∧ (toPoly fe.1).IsPrimitive ∧ toPoly fe.1 ∣ toPoly a := by
  obtain ⟨s1, _, _, _⟩ := NTV.PolyG.contPP_spec a ha hca
  obtain ⟨c1, c2, c3⟩ := content_facts ha hca
  rcases factorize_cases a s c fs ha hca h with ⟨rfl, rfl, -⟩ | ⟨hl, g, sq, r, R, -⟩
  · exact ⟨c1, c2, c3, by simp⟩
  · rw [R.hc]
    refine ⟨c1, c2, c3, ?_⟩
    rintro ⟨f, e⟩ hfe
    obtain ⟨h1, h2, h3, h4⟩ := R.factor_shape ha hca hfe
    exact ⟨h1, h2, h3, by rw [← s1]; exact Dvd.dvd.mul_left h4 _⟩

/-- **Shape of the output**, the part that depends on the gcd routine (under the exactness flag
`GcdExact a` of the C10 theorems): every returned `f` has a positive leading coefficient and every
exponent is at least 1. -/
theorem factor_shape_exact_partial (a : List Int) (s : NTV.Draw.Stream) (c : Int) (fs : List (List Int × Nat))
    (ha : a ≠ []) (hca : Canon a) (hx : GcdExact a) (h : factorize a s = .ok (c, fs)) :
    ∀ fe ∈ fs, 0 < lc fe.1 ∧ 1 ≤ fe.2 := by
  rcases factorize_cases a s c fs ha hca h with ⟨rfl, rfl, -⟩ | ⟨hl, g, sq, r, R, -⟩
  · simp
  · obtain ⟨_, p2, _, _, _⟩ := pp_facts ha hca
    rintro ⟨f, e⟩ hfe
    refine ⟨(R.hfac _ hfe).2.2 (R.exact ha hca hl).2.1, ?_⟩
    exact R.book.exponent_pos (R.pairwise ha hca hl hx) p2 (mem_entries hfe) (R.factor_dvd hfe)

theorem isPrimitive_pow {p : ℤ[X]} (hp : p.IsPrimitive) : ∀ n : Nat, (p ^ n).IsPrimitive
  | 0 => by simp
  | n + 1 => by rw [pow_succ]; exact (isPrimitive_pow hp n).mul hp

/-- **True multiplicities**, given pairwise coprime factors (coprimality — which follows from
irreducibility and distinctness, or from `GcdExact`, see `multiplicity_true_partial` — is a hypothesis):
`fᵢ^eᵢ ∣ a` and `fᵢ^(eᵢ+1) ∤ a` in ℤ[X], for exponents of any size. -/
theorem multiplicity_true_coprime_partial (a : List Int) (s : NTV.Draw.Stream) (c : Int)
    (fs : List (List Int × Nat)) (ha : a ≠ []) (hca : Canon a) (h : factorize a s = .ok (c, fs))
    (hcop : (fs.map fun fe => toPoly fe.1).Pairwise IsRelPrime) :
    ∀ fe ∈ fs, toPoly fe.1 ^ fe.2 ∣ toPoly a ∧ ¬ toPoly fe.1 ^ (fe.2 + 1) ∣ toPoly a := by
  rcases factorize_cases a s c fs ha hca h with ⟨rfl, rfl, -⟩ | ⟨hl, g, sq, r, R, -⟩
  · simp
  · obtain ⟨s1, _, _, _⟩ := NTV.PolyG.contPP_spec a ha hca
    obtain ⟨_, p2, _, _, p5⟩ := pp_facts ha hca
    have hcop' : ((entries fs).map Prod.fst).Pairwise IsRelPrime := by
      rw [map_fst_entries, List.map_map]; exact hcop
    rintro ⟨f, e⟩ hfe
    obtain ⟨m1, m2⟩ := R.book.true_multiplicity hcop' p2 (mem_entries hfe)
    refine ⟨by rw [← s1]; exact Dvd.dvd.mul_left m1 _, ?_⟩
    intro hd
    apply m2
    have hprim := isPrimitive_pow (R.factor_shape ha hca hfe).2.2.1 (e + 1)
    exact NTV.Res.dvd_of_divC hprim ⟨(contPP a).1, p5, by rw [s1]; exact hd⟩

/-- **Pairwise distinct, pairwise coprime** (under the exactness flag `GcdExact a`): the
product of the returned polynomials is pp(a) / gcd(pp(a), pp(a)'), which is squarefree; hence they are
pairwise coprime in ℤ[X] and, being non-constant, pairwise distinct. -/
theorem distinct_partial (a : List Int) (s : NTV.Draw.Stream) (c : Int) (fs : List (List Int × Nat))
    (ha : a ≠ []) (hca : Canon a) (hx : GcdExact a) (h : factorize a s = .ok (c, fs)) :
    (fs.map Prod.fst).Nodup ∧ (fs.map fun fe => toPoly fe.1).Pairwise IsRelPrime ∧
    Squarefree (fs.map fun fe => toPoly fe.1).prod := by
  rcases factorize_cases a s c fs ha hca h with ⟨rfl, rfl, -⟩ | ⟨hl, g, sq, r, R, -⟩
  · simp
  · have hp := R.pairwise ha hca hl hx
    have hn := R.book.nodup hp
    rw [map_fst_entries] at hp hn
    refine ⟨hn.of_map _, by rw [List.map_map] at hp; exact hp, ?_⟩
    have := (R.exact ha hca hl).1
    rw [R.hprod_sq, List.map_map] at this
    exact this

/-- **True multiplicities** (under the exactness flag `GcdExact a`; no irreducibility needed):
each returned exponent is the exact multiplicity of its factor in `a`. -/
theorem multiplicity_true_partial (a : List Int) (s : NTV.Draw.Stream) (c : Int)
    (fs : List (List Int × Nat)) (ha : a ≠ []) (hca : Canon a) (hx : GcdExact a)
    (h : factorize a s = .ok (c, fs)) :
    ∀ fe ∈ fs, toPoly fe.1 ^ fe.2 ∣ toPoly a ∧ ¬ toPoly fe.1 ^ (fe.2 + 1) ∣ toPoly a :=
  multiplicity_true_coprime_partial a s c fs ha hca h (distinct_partial a s c fs ha hca hx h).2.1

/-- **Product identity** (irreducibility of the returned factors and the exactness flag are hypotheses; both are
discharged in `product_identity`). If every returned factor is irreducible then nothing is left over:
`c · ∏ fᵢ^eᵢ = a` exactly in ℤ[X]. (Every irreducible factor of pp(a) divides
pp(a)/gcd(pp(a), pp(a)') = ∏ fᵢ, hence is associated to some fᵢ, which the multiplicity loop divided out
completely.) -/
theorem product_identity_irreducible_partial (a : List Int) (s : NTV.Draw.Stream) (c : Int)
    (fs : List (List Int × Nat)) (ha : a ≠ []) (hca : Canon a) (hx : GcdExact a)
    (hirr : ∀ fe ∈ fs, Irreducible (toPoly fe.1)) (h : factorize a s = .ok (c, fs)) :
    C c * (fs.map fun fe => toPoly fe.1 ^ fe.2).prod = toPoly a := by
  obtain ⟨s1, _, _, _⟩ := NTV.PolyG.contPP_spec a ha hca
  rcases factorize_cases a s c fs ha hca h with ⟨rfl, rfl, h1⟩ | ⟨hl, g, sq, r, R, -⟩
  · simpa [h1] using s1
  · have h1 := R.cofactor_one ha hca hl hirr
    rw [R.hc, ← s1, R.hprod, h1, one_mul]; rfl

/-! ### non-vacuity: concrete runs satisfying the hypotheses -/

/-- a complete run of the model on 2·(x+1)²·(x²+x−1), consuming a draw stream: content 2, a double
factor, two factors (kernel-checked evaluation of the whole routine) -/
theorem run_example : factorize [-2, -2, 4, 6, 2] [[3, 0, 0, 0], [1, 0, 0, 0], [2, 0, 0, 0], [3, 0, 0, 0]]
    = .ok (2, [([1, 1], 2), ([-1, 1, 1], 1)]) := by decide +kernel

theorem canon_example : Canon ([-2, -2, 4, 6, 2] : List Int) := by intro h; simp

/-- the exactness flag holds on that input -/
theorem gcdExact_example : GcdExact [-2, -2, 4, 6, 2] := by
  intro g ok h
  have h1 : contPP [-2, -2, 4, 6, 2] = (2, [-1, -1, 2, 3, 1]) := by decide +kernel
  have h2 : NTV.Res.resultantSmartGcdE [-1, -1, 2, 3, 1] (differential [-1, -1, 2, 3, 1])
      = some (.ok ([1, 1], true)) := by decide +kernel
  rw [h1] at h
  simp only at h
  rw [h2] at h
  simp only [Option.some.injEq, Except.ok.injEq, Prod.mk.injEq] at h
  exact h.2.symm

example := product_identity_partial _ _ _ _ (by simp) canon_example run_example
example := factor_shape _ _ _ _ (by simp) canon_example run_example
example := factor_shape_exact_partial _ _ _ _ (by simp) canon_example gcdExact_example run_example
example := multiplicity_true_partial _ _ _ _ (by simp) canon_example gcdExact_example run_example
example := distinct_partial _ _ _ _ (by simp) canon_example gcdExact_example run_example
example := multiplicity_true_coprime_partial _ _ _ _ (by simp) canon_example run_example
  (distinct_partial _ _ _ _ (by simp) canon_example gcdExact_example run_example).2.1

/-- (x+1)²: here the returned factor is provably irreducible, so the full identity applies -/
theorem run_example₂ : factorize [1, 2, 1] [] = .ok (1, [([1, 1], 2)]) := by decide +kernel

theorem gcdExact_example₂ : GcdExact [1, 2, 1] := by
  intro g ok h
  have h1 : contPP [1, 2, 1] = (1, [1, 2, 1]) := by decide +kernel
  have h2 : NTV.Res.resultantSmartGcdE [1, 2, 1] (differential [1, 2, 1]) = some (.ok ([1, 1], true)) := by
    decide +kernel
  rw [h1] at h
  simp only at h
  rw [h2] at h
  simp only [Option.some.injEq, Except.ok.injEq, Prod.mk.injEq] at h
  exact h.2.symm

/-- the factor `x + 1` returned by `run_example₂` is irreducible -/
theorem irreducible_example₂ : ∀ fe ∈ [(([1, 1] : List Int), 2)], Irreducible (toPoly fe.1) := by
  intro fe hfe
  rw [List.mem_singleton] at hfe
  subst hfe
  have : toPoly ([1, 1] : List Int) = X - C (-1) := by simp only [toPoly, C_0, C_1, C_neg]; ring
  rw [this]
  exact irreducible_X_sub_C _

example : C (1 : ℤ) * ([([1, 1], 2)].map fun fe : List Int × Nat => toPoly fe.1 ^ fe.2).prod = toPoly [1, 2, 1] :=
  product_identity_irreducible_partial [1, 2, 1] [] 1 _ (by simp) (by intro h; simp) gcdExact_example₂
    irreducible_example₂ run_example₂

/-- why the leftover cofactor cannot be removed from `product_identity_partial` by the loop structure
alone: fed the reducible "factor" (x+1)(x+2), the multiplicity loop on (x+1)²(x+2) records exponent 1
and leaves x+1 behind. In `factorize` this is excluded only by the irreducibility of what the
recombination returns. -/
example : multiplicities [[2, 3, 1]] [2, 5, 4, 1] [] = .ok [([2, 3, 1], 1)] ∧
    multiplicity [2, 3, 1] 6 [2, 5, 4, 1] 0 = .ok ([1, 1], 1) := by decide +kernel

/-! ## Unconditional forms
The exactness flag is a theorem (`NTV.PolyZ.gcdExact_holds`, from `NTV.Res.resultantSmartGcd_flag`: fundamental
theorem of subresultants): the
hypothesis `GcdExact a` of the `_partial` theorems above is discharged for every non-zero canonical `a`. -/

/-- **the exactness flag always holds**: for every non-zero canonical `a` the subresultant gcd of pp(a) and
pp(a)' that `factorize` computes performs only exact divisions -/
theorem gcdExact_holds (a : List Int) (ha : a ≠ []) (hca : Canon a) : GcdExact a :=
  NTV.PolyZ.gcdExact_holds a ha hca

/-- **Shape of the output**, second part (no flag hypothesis): in every successful run on a non-zero
canonical `a`, every returned `f` has a positive leading coefficient and every exponent is at least 1. -/
theorem factor_shape_exact (a : List Int) (s : NTV.Draw.Stream) (c : Int) (fs : List (List Int × Nat))
    (ha : a ≠ []) (hca : Canon a) (h : factorize a s = .ok (c, fs)) :
    ∀ fe ∈ fs, 0 < lc fe.1 ∧ 1 ≤ fe.2 :=
  factor_shape_exact_partial a s c fs ha hca (gcdExact_holds a ha hca) h

/-- **Pairwise distinct, pairwise coprime** (no flag hypothesis): in every successful run on a
non-zero canonical `a` the returned polynomials are pairwise distinct, pairwise coprime in ℤ[X], and their
product (= pp(a) / gcd(pp(a), pp(a)')) is squarefree. -/
theorem distinct (a : List Int) (s : NTV.Draw.Stream) (c : Int) (fs : List (List Int × Nat))
    (ha : a ≠ []) (hca : Canon a) (h : factorize a s = .ok (c, fs)) :
    (fs.map Prod.fst).Nodup ∧ (fs.map fun fe => toPoly fe.1).Pairwise IsRelPrime ∧
    Squarefree (fs.map fun fe => toPoly fe.1).prod :=
  distinct_partial a s c fs ha hca (gcdExact_holds a ha hca) h

/-- **True multiplicities** (no flag hypothesis, no irreducibility needed): in every successful run
on a non-zero canonical `a` each returned exponent is the exact multiplicity of its factor in `a`:
`fᵢ^eᵢ ∣ a` and `fᵢ^(eᵢ+1) ∤ a` in ℤ[X]. -/
theorem multiplicity_true (a : List Int) (s : NTV.Draw.Stream) (c : Int)
    (fs : List (List Int × Nat)) (ha : a ≠ []) (hca : Canon a) (h : factorize a s = .ok (c, fs)) :
    ∀ fe ∈ fs, toPoly fe.1 ^ fe.2 ∣ toPoly a ∧ ¬ toPoly fe.1 ^ (fe.2 + 1) ∣ toPoly a :=
  multiplicity_true_partial a s c fs ha hca (gcdExact_holds a ha hca) h

/-- **Product identity** (irreducibility of the returned factors is the only hypothesis; it is
discharged in `product_identity`). If every returned factor is irreducible then nothing is left over:
`c · ∏ fᵢ^eᵢ = a` exactly in ℤ[X]. -/
theorem product_identity_of_irreducible_partial (a : List Int) (s : NTV.Draw.Stream) (c : Int)
    (fs : List (List Int × Nat)) (ha : a ≠ []) (hca : Canon a)
    (hirr : ∀ fe ∈ fs, Irreducible (toPoly fe.1)) (h : factorize a s = .ok (c, fs)) :
    C c * (fs.map fun fe => toPoly fe.1 ^ fe.2).prod = toPoly a :=
  product_identity_irreducible_partial a s c fs ha hca (gcdExact_holds a ha hca) hirr h

example := gcdExact_holds _ (by simp) canon_example
example := factor_shape_exact _ _ _ _ (by simp) canon_example run_example
example := distinct _ _ _ _ (by simp) canon_example run_example
example := multiplicity_true _ _ _ _ (by simp) canon_example run_example

example : C (1 : ℤ) * ([([1, 1], 2)].map fun fe : List Int × Nat => toPoly fe.1 ^ fe.2).prod = toPoly [1, 2, 1] :=
  product_identity_of_irreducible_partial [1, 2, 1] [] 1 _ (by simp) (by intro h; simp) irreducible_example₂
    run_example₂

/-! ## Irreducibility, exact product, completeness (Berlekamp–Zassenhaus correctness)
Mignotte's bound (`mignotte_for_coeffBound`, from Mathlib's Mahler-measure inequalities), uniqueness of
Hensel lifts (`hensel_uniqueness`), the invariant of the recombination loop (`NTV.Zas.Inv`,
`NTV.PolyZ.combine_irreducible`) and the fact that the prime search cannot leave the `i32` range
(`NTV.PolyZ.primeSearch_top`: at most 100000 primes are tried and π(2³¹) ≥ 100000) give: every returned
factor is irreducible. With the structural theorems above the factorisation is then exact and complete.
All statements are for every input and every draw stream, about the runs that return `.ok`.
The labels in the docstrings here and in the `Zassenhaus*` lemma files: (Z1) Mignotte's bound, (Z2) Hensel uniqueness,
(Z3) the recombination step keeps the invariant and splits off an irreducible factor (`NTV.Zas.Inv.step`, for the model
`NTV.PolyZ.combine_irreducible`; no statement of its own in this file), (Z4) `get_factors_of_squarefree` returns
irreducible polynomials, (Z5) so does `factorize`. -/

/-- **(Z1) Mignotte's bound for the bound the code computes.** For a canonical `a` of degree n ≥ 1 and every
factorisation `a = g·h·h'` in ℤ[X]: every coefficient `c` of `lc(h')·h` satisfies
`2·|c| < coeffBound a n = 2·|aₙ|·2^(n-1)·(|aₙ| + Σ|aᵢ|)`; hence it lies in the symmetric residue window
`[-⌊pᵉ/2⌋, pᵉ - ⌊pᵉ/2⌋)` of every modulus `pᵉ > bound` (`NTV.PolyZ.mignotte_symmetric_range`). -/
theorem mignotte_for_coeffBound (a : List Int) (ha : a ≠ []) (hca : Canon a) (hn : 2 ≤ a.length)
    (g h h' : ℤ[X]) (hfac : toPoly a = g * h * h') (j : ℕ) :
    2 * |(C h'.leadingCoeff * h).coeff j| < coeffBound a (degU a) :=
  NTV.PolyZ.mignotte_for_coeffBound a ha hca hn g h h' hfac j

example : 2 * |(C (X + 1 : ℤ[X]).leadingCoeff * (X - 1)).coeff 0| < coeffBound [-1, 0, 1] (degU [-1, 0, 1]) :=
  mignotte_for_coeffBound [-1, 0, 1] (by simp) (by intro h; simp) (by simp) 1 (X - 1) (X + 1)
    toPoly_X_sq_sub_one 0

/-- **(Z2) Hensel uniqueness.** Let P be prime, e ≥ 1, `a ∈ ℤ[X]` with P ∤ lc(a) and `a` squarefree modulo P,
and G₁..G_k monic, irreducible modulo P, with lc(a)·∏ Gᵢ ≡ a (mod Pᵉ). If `a = h·h'` in ℤ[X] then
`h ≡ lc(h)·∏ {Gᵢ | (Gᵢ mod P) ∣ (h mod P)}` and `h' ≡ lc(h')·∏ {the other Gᵢ}` modulo Pᵉ. -/
theorem hensel_uniqueness {P e : ℕ} {a : ℤ[X]} {L : List ℤ[X]} (hP : P.Prime) (he : 1 ≤ e)
    (hlc : ¬ (P : ℤ) ∣ a.leadingCoeff) (hsq : Squarefree (a.map (Int.castRingHom (ZMod P))))
    (hmon : ∀ G ∈ L, G.Monic) (hirr : ∀ G ∈ L, Irreducible (G.map (Int.castRingHom (ZMod P))))
    (hprod : NTV.Hensel.PCong ((P : ℤ) ^ e) (C a.leadingCoeff * L.prod) a) {h h' : ℤ[X]} (hfac : a = h * h') :
    (open Classical in
      NTV.Hensel.PCong ((P : ℤ) ^ e) (C h.leadingCoeff *
        (L.filter fun G => G.map (Int.castRingHom (ZMod P)) ∣ h.map (Int.castRingHom (ZMod P))).prod) h) ∧
    (open Classical in
      NTV.Hensel.PCong ((P : ℤ) ^ e) (C h'.leadingCoeff *
        (L.filter fun G => !decide (G.map (Int.castRingHom (ZMod P)) ∣ h.map (Int.castRingHom (ZMod P)))).prod) h') :=
  NTV.Zas.hensel_subset ⟨hP, he, hlc, hsq, hmon, hirr, hprod⟩ hfac

/-- **(Z2) uniqueness of the subset**: under the same hypotheses, if the lifted list is split as `L ~ T ++ T'`
and `h ≡ lc(h)·∏ T (mod Pᵉ)`, then T is exactly the set of lifted factors that divide `h` modulo P. -/
theorem hensel_uniqueness_subset {P e : ℕ} {a : ℤ[X]} {L T T' : List ℤ[X]} (hP : P.Prime) (he : 1 ≤ e)
    (hlc : ¬ (P : ℤ) ∣ a.leadingCoeff) (hsq : Squarefree (a.map (Int.castRingHom (ZMod P))))
    (hmon : ∀ G ∈ L, G.Monic) (hirr : ∀ G ∈ L, Irreducible (G.map (Int.castRingHom (ZMod P))))
    (hprod : NTV.Hensel.PCong ((P : ℤ) ^ e) (C a.leadingCoeff * L.prod) a) (hperm : L.Perm (T ++ T'))
    {h h' : ℤ[X]} (hfac : a = h * h') (hc : NTV.Hensel.PCong ((P : ℤ) ^ e) (C h.leadingCoeff * T.prod) h) :
    (∀ G ∈ T, G.map (Int.castRingHom (ZMod P)) ∣ h.map (Int.castRingHom (ZMod P))) ∧
    (∀ G ∈ T', ¬ G.map (Int.castRingHom (ZMod P)) ∣ h.map (Int.castRingHom (ZMod P))) := by
  have H : NTV.Zas.Lifted P e a L := ⟨hP, he, hlc, hsq, hmon, hirr, hprod⟩
  have hfac' : a = h' * h := by rw [hfac, mul_comm]
  obtain ⟨H', dvdT⟩ := H.step hperm (NTV.Zas.pcong_scale hfac hc) rfl hfac'
  refine ⟨dvdT, fun G hG hd => ?_⟩
  have memT' : G ∈ L := hperm.mem_iff.mpr (List.mem_append_right _ hG)
  exact NTV.Zas.not_dvd_both hfac' H.sqf (H.irr G memT') (H'.dvd_a hG) hd

/-- x² − 1 = (x − 1)(x + 1) modulo 3², lifted factors x − 1 and x + 1: the hypotheses of `hensel_uniqueness`
and `hensel_uniqueness_subset` hold -/
theorem hensel_example_hyps :
    ¬ ((3 : ℕ) : ℤ) ∣ ((X - C 1) * (X - C (-1)) : ℤ[X]).leadingCoeff ∧
    Squarefree (((X - C 1) * (X - C (-1)) : ℤ[X]).map (Int.castRingHom (ZMod 3))) ∧
    (∀ G ∈ [(X - C 1 : ℤ[X]), X - C (-1)], G.Monic) ∧
    (∀ G ∈ [(X - C 1 : ℤ[X]), X - C (-1)], Irreducible (G.map (Int.castRingHom (ZMod 3)))) ∧
    NTV.Hensel.PCong (((3 : ℕ) : ℤ) ^ 2)
      (C ((X - C 1) * (X - C (-1)) : ℤ[X]).leadingCoeff * [(X - C 1 : ℤ[X]), X - C (-1)].prod)
      ((X - C 1) * (X - C (-1))) := by
  have e : ∀ k : ℤ, ((X - C k : ℤ[X])).map (Int.castRingHom (ZMod 3)) = X - C (k : ZMod 3) := fun k => by
    rw [Polynomial.map_sub, map_X, map_C, eq_intCast]
  have hlcA : ((X - C 1) * (X - C (-1)) : ℤ[X]).leadingCoeff = 1 := by
    rw [leadingCoeff_mul, leadingCoeff_X_sub_C, leadingCoeff_X_sub_C, one_mul]
  refine ⟨by rw [hlcA]; norm_num, ?_, ?_, ?_, ?_⟩
  · rw [Polynomial.map_mul, e, e, squarefree_mul_iff]
    refine ⟨IsCoprime.isRelPrime (isCoprime_X_sub_C_of_isUnit_sub ?_),
      (irreducible_X_sub_C _).squarefree, (irreducible_X_sub_C _).squarefree⟩
    decide
  · intro G hG
    rw [List.mem_pair] at hG
    rcases hG with rfl | rfl <;> exact monic_X_sub_C _
  · intro G hG
    rw [List.mem_pair] at hG
    rcases hG with rfl | rfl <;> rw [e] <;> exact irreducible_X_sub_C _
  · rw [hlcA, C_1, one_mul, List.prod_cons, List.prod_singleton]
    exact NTV.Hensel.PCong.refl _ _
example := hensel_uniqueness (P := 3) (e := 2) (by norm_num) (by norm_num) hensel_example_hyps.1
  hensel_example_hyps.2.1 hensel_example_hyps.2.2.1 hensel_example_hyps.2.2.2.1 hensel_example_hyps.2.2.2.2
  (h := X - C 1) (h' := X - C (-1)) rfl

example := hensel_uniqueness_subset (P := 3) (e := 2) (T := [X - C 1]) (T' := [X - C (-1)]) (by norm_num)
  (by norm_num) hensel_example_hyps.1 hensel_example_hyps.2.1 hensel_example_hyps.2.2.1
  hensel_example_hyps.2.2.2.1 hensel_example_hyps.2.2.2.2 (List.Perm.refl _) (h := X - C 1) (h' := X - C (-1)) rfl
  (by rw [leadingCoeff_X_sub_C, C_1, one_mul, List.prod_singleton]; exact NTV.Hensel.PCong.refl _ _)

/-- **(Z4) The recombination returns irreducible polynomials.** For every canonical primitive `a` and every
draw stream: if `get_factors_of_squarefree(a)` returns, every returned polynomial is irreducible in ℤ[X] and
over ℚ, and they multiply exactly to `a`. (A run that returns forces deg a ≥ 1 and `a` squarefree.) -/
theorem squarefree_factors_irreducible (a : List Int) (s : NTV.Draw.Stream) (out : List (List Int))
    (hca : Canon a) (hprim : (toPoly a).IsPrimitive) (h : getFactorsOfSquarefree a s = .ok out) :
    (∀ f ∈ out, Irreducible (toPoly f) ∧ Irreducible ((toPoly f).map (Int.castRingHom ℚ))) ∧
    toPoly a = (out.map toPoly).prod := by
  obtain ⟨_, hprod, _⟩ := getFactorsOfSquarefree_spec a s out hca h
  refine ⟨fun f hf => ?_, hprod⟩
  have hi := NTV.PolyZ.squarefree_factors_irreducible a s out hca hprim h f hf
  have hfp : (toPoly f).IsPrimitive :=
    isPrimitive_of_dvd hprim (by rw [hprod]; exact List.dvd_prod (List.mem_map_of_mem hf))
  exact ⟨hi, (IsPrimitive.Int.irreducible_iff_irreducible_map_cast hfp).mp hi⟩

/-- x⁴ + 1 is irreducible although it splits modulo every prime: the recombination (here modulo 3⁴, two
quadratic factors) returns it whole -/
theorem run_example₃ : getFactorsOfSquarefree [1, 0, 0, 0, 1]
    [[0, 0, 0, 0], [239, 25, 253, 198], [222, 50, 250, 202], [205, 75, 247, 12], [188, 100, 244, 140],
      [171, 125, 241, 74]] = .ok [[1, 0, 0, 0, 1]] := by decide +kernel

example : Irreducible (toPoly ([1, 0, 0, 0, 1] : List Int)) := by
  have hprim : (toPoly ([1, 0, 0, 0, 1] : List Int)).IsPrimitive := by
    have : (toPoly ([1, 0, 0, 0, 1] : List Int)).Monic := (NTV.PolyMod.monic_toPoly _ (by decide)).1
    exact this.isPrimitive
  exact ((squarefree_factors_irreducible _ _ _ (by intro h; simp) hprim run_example₃).1 _ (by simp)).1

/-- **(Z5) C07, irreducibility.** For every non-zero canonical `a` and every draw stream: every polynomial
returned by `factorize` is irreducible in ℤ[X], and irreducible over ℚ. -/
theorem factors_irreducible (a : List Int) (s : NTV.Draw.Stream) (c : Int) (fs : List (List Int × Nat))
    (ha : a ≠ []) (hca : Canon a) (h : factorize a s = .ok (c, fs)) :
    ∀ fe ∈ fs, Irreducible (toPoly fe.1) ∧ Irreducible ((toPoly fe.1).map (Int.castRingHom ℚ)) := by
  rcases factorize_cases a s c fs ha hca h with ⟨rfl, rfl, -⟩ | ⟨hl, g, sq, r, R, hgf⟩
  · simp
  · intro fe hfe
    have hprim := isPrimitive_of_dvd (pp_facts ha hca).1 R.sq_dvd
    exact (squarefree_factors_irreducible sq s _ R.sq_canon hprim hgf).1 fe.1 (List.mem_map_of_mem hfe)

/-- **C07, the product identity.** For every non-zero canonical `a` and every draw stream: if
`factorize(a)` returns `(c, [(f₁,e₁), …])` then `c · ∏ fᵢ^eᵢ = a` exactly in ℤ[X]. -/
theorem product_identity (a : List Int) (s : NTV.Draw.Stream) (c : Int) (fs : List (List Int × Nat))
    (ha : a ≠ []) (hca : Canon a) (h : factorize a s = .ok (c, fs)) :
    C c * (fs.map fun fe => toPoly fe.1 ^ fe.2).prod = toPoly a :=
  product_identity_of_irreducible_partial a s c fs ha hca
    (fun fe hfe => (factors_irreducible a s c fs ha hca h fe hfe).1) h

/-- **C07, completeness.** Every irreducible divisor of `a` of positive degree is associated to exactly one
returned factor. (The irreducible divisors of degree 0 are the primes dividing the content `c`.) -/
theorem complete (a : List Int) (s : NTV.Draw.Stream) (c : Int) (fs : List (List Int × Nat))
    (ha : a ≠ []) (hca : Canon a) (h : factorize a s = .ok (c, fs)) (π : ℤ[X]) (hπ : Irreducible π)
    (hd : π ∣ toPoly a) (hdeg : 0 < π.natDegree) :
    ∃ fe ∈ fs, Associated π (toPoly fe.1) ∧ ∀ fe' ∈ fs, Associated π (toPoly fe'.1) → fe' = fe := by
  have hirr := factors_irreducible a s c fs ha hca h
  have hprod := product_identity a s c fs ha hca h
  obtain ⟨hc0, _, _, _⟩ := factor_shape a s c fs ha hca h
  obtain ⟨_, hrel, _⟩ := distinct a s c fs ha hca h
  have hπp : Prime π := hπ.prime
  rw [← hprod] at hd
  rcases hπp.dvd_or_dvd hd with h1 | h1
  · exfalso
    have := natDegree_le_of_dvd h1 (by rw [Ne, C_eq_zero]; exact hc0)
    rw [natDegree_C] at this
    omega
  · obtain ⟨y, hy, hπy⟩ := hπp.dvd_prod_iff.mp h1
    obtain ⟨fe, hfe, rfl⟩ := List.mem_map.mp hy
    have hπf : π ∣ toPoly fe.1 := hπp.dvd_of_dvd_pow hπy
    have hassoc := hπ.associated_of_dvd (hirr fe hfe).1 hπf
    refine ⟨fe, hfe, hassoc, ?_⟩
    intro fe' hfe' hassoc'
    by_contra hne
    rw [List.pairwise_map] at hrel
    have : Std.Symm (fun x y : List Int × Nat => IsRelPrime (toPoly x.1) (toPoly y.1)) :=
      ⟨fun x y hxy => hxy.symm⟩
    have hr : IsRelPrime (toPoly fe'.1) (toPoly fe.1) := hrel.forall hfe' hfe hne
    have h12 : Associated (toPoly fe'.1) (toPoly fe.1) := hassoc'.symm.trans hassoc
    exact (hirr fe' hfe').1.not_isUnit (hr (dvd_refl _) h12.dvd)

example := factors_irreducible _ _ _ _ (by simp) canon_example run_example
example : C (2 : ℤ) * ([([1, 1], 2), ([-1, 1, 1], 1)].map fun fe : List Int × Nat => toPoly fe.1 ^ fe.2).prod
    = toPoly [-2, -2, 4, 6, 2] := product_identity _ _ _ _ (by simp) canon_example run_example
example := complete _ _ _ _ (by simp) canon_example run_example

/-! ## Panic-freedom: on a canonical input of degree ≤ 25 the only failures are inconclusive runs

The Rust code asserts `lifted.len() <= 25` (the subsets are enumerated with a machine-word bit mask): the
number of lifted factors is at most deg(squarefree part) ≤ deg a, so deg a ≤ 25 (`a.length ≤ 26`) is the
honest precondition; it cannot be weakened to 26 in general (∏_{i<26} (x − i) is squarefree modulo 29, the
first prime the search accepts, and splits there into 26 linear factors: by C08/C11 correctness 26 lifted
factors reach the assertion, which fires). -/

/-- termination for `get_factors_of_squarefree`: `inconclusive fuel` can only come from the prime search -/
theorem squarefree_stage_fuel (a : List Int) (s : NTV.Draw.Stream) (e : String) (hca : Canon a)
    (hprim : (toPoly a).IsPrimitive) (hlen : 2 ≤ a.length) (hdeg : a.length ≤ 26)
    (h : getFactorsOfSquarefree a s = .error e) :
    e = "inconclusive stream" ∨
      (e = "inconclusive fuel" ∧ primeSearch a (degU a) 100000 2 = .error "inconclusive fuel") := by
  have ha : a ≠ [] := by rintro rfl; simp at hlen
  obtain ⟨d1, d2, d3⟩ := natDegree_toPoly a ha hca
  unfold getFactorsOfSquarefree at h
  simp only at h
  rw [if_neg (by
    rw [Bool.or_eq_true, decide_eq_true_eq, List.isEmpty_iff, not_or, degU_of_ne_nil ha]
    exact ⟨ha, by omega⟩)] at h
  rcases bind_eq_error h with hv1 | ⟨⟨p, pu⟩, hv1, h⟩
  · obtain rfl := primeSearch_error a (degU a) 100000 2 _ (by
      have : Nat.count Nat.Prime 2 = 0 := by decide
      omega) hv1
    exact Or.inr ⟨rfl, hv1⟩
  obtain ⟨hP, rfl, hP31, hlc, hsq, hpow⟩ := modulus_stage a ha hca hlen p pu hv1
  rcases bind_eq_error h with hv2 | ⟨⟨ex, pe⟩, hv2, h⟩
  · obtain ⟨r, hr⟩ := powerAbove_top (pu : Int) (coeffBound a (degU a)) (by exact_mod_cast hP.two_le)
    rw [hr] at hv2
    cases hv2
  obtain ⟨he, S⟩ := hpow _ ex pe hv2
  rcases bind_eq_error h with hv3 | ⟨factors, hfac, h⟩
  · refine Or.inl (NTV.C08.no_panic pu hP a pu s _ ?_ (fun _ => rfl) (hdeg.trans_lt (by decide)) hv3)
    intro h0
    have := congrArg (fun F => F.coeff (toPoly a).natDegree) h0
    simp only [coeff_map, coeff_zero, eq_intCast] at this
    rw [ZMod.intCast_zmod_eq_zero_iff_dvd] at this
    exact hlc this
  -- the exponent assertion holds, the Hensel stage is total, the recombination has enough fuel
  obtain ⟨hall, lifted, hl, hL⟩ := hensel_stage pu hP (hP31.trans (by decide)) ex he a ha hca hlen hlc hsq s factors hfac
  rw [if_neg (by rw [hall]; decide), hl] at h
  have hnu : ¬ IsUnit (toPoly a) := fun hu => by
    have := natDegree_eq_zero_of_isUnit hu
    omega
  exact absurd h (combine_ne_error S (by omega) _ a lifted 1 [] e ha hca (NTV.Zas.Inv.init hprim hL hnu)
    (by omega) (Nat.le_add_left 1 _))

/-- **C07, termination.** On a canonical input of degree ≤ 25 `inconclusive fuel` has a single cause: the prime search of
`get_factors_of_squarefree` went through the first 100000 primes without finding one that does not divide the
leading coefficient of the squarefree part `sq` of pp(a) and modulo which `sq` stays squarefree. Every other
loop terminates within the fuel of the model: `powerAbove`, the recombination `combine` (each round removes
d ≥ 1 lifted factors or increments d), `multiplicity`, and all of `factorize_mod_p` (C08) and
`lift_factorization` (C11). `g` is the subresultant gcd of pp(a) and its derivative, `sq = pp(a) / g`. -/
theorem fuel_only_prime_search (a : List Int) (s : NTV.Draw.Stream) (e : String) (hca : Canon a)
    (hdeg : a.length ≤ 26) (h : factorize a s = .error e) :
    e = "inconclusive stream" ∨ (e = "inconclusive fuel" ∧ ∃ g sq : List Int,
      resultantGcd (contPP a).2 (differential (contPP a).2) = .ok g ∧
      (if degU g ≠ 0 then divExactExpect (contPP a).2 g else pure (contPP a).2) = .ok sq ∧
      primeSearch sq (degU sq) 100000 2 = .error "inconclusive fuel") := by
  unfold factorize at h
  split at h
  · cases h
  rename_i hemp
  have ha : a ≠ [] := by rintro rfl; exact hemp rfl
  simp only at h
  split at h
  · cases h
  rename_i hdeg
  have hlen : 2 ≤ a.length := by
    rw [degU_of_ne_nil ha] at hdeg
    omega
  obtain ⟨g, sq, hgcd, hsqeq, hsqc, hsqd, hsql, hsql'⟩ := squarefree_part_total a ha hca hlen
  have hsqprim : (toPoly sq).IsPrimitive := isPrimitive_of_dvd (pp_facts ha hca).1 hsqd
  rw [hgcd, NTV.PolyMod.ok_bind'] at h
  replace h : (do
      let factors ← getFactorsOfSquarefree sq s
      let result ← multiplicities factors (contPP a).2 []
      pure ((contPP a).1, result) : NTV.PolyMod.M (Int × List (NTV.PolyMod.Poly × Nat))) = .error e := by
    have hsq' := hsqeq
    split at h <;> rename_i hdg
    · rw [if_pos hdg] at hsq'
      rwa [hsq', NTV.PolyMod.ok_bind'] at h
    · rw [if_neg hdg] at hsq'
      rwa [hsq', NTV.PolyMod.ok_bind'] at h
  cases hgf : getFactorsOfSquarefree sq s with
  | error e1 =>
    rw [hgf, NTV.PolyMod.error_bind'] at h
    cases h
    exact (squarefree_stage_fuel sq s _ hsqc hsqprim hsql (by omega) hgf).imp_right
      fun ⟨h1, h2⟩ => ⟨h1, g, sq, hgcd, hsqeq, h2⟩
  | ok factors =>
    rw [hgf, NTV.PolyMod.ok_bind'] at h
    exfalso
    -- the factors are non-constant, so the multiplicity loops terminate
    obtain ⟨_, hprod, hshape⟩ := getFactorsOfSquarefree_spec sq s factors hsqc hgf
    have hirr := NTV.PolyZ.squarefree_factors_irreducible sq s factors hsqc hsqprim hgf
    obtain ⟨r, hr⟩ := multiplicities_total factors (contPP a).2 [] (fun f hf => by
      obtain ⟨f1, f2, _⟩ := hshape f hf
      have hdv : toPoly f ∣ toPoly sq := by
        rw [hprod]; exact List.dvd_prod (List.mem_map_of_mem hf)
      have hpos := Alg.natDegree_pos_of_dvd_primitive hsqprim hdv (hirr f hf).not_isUnit
      have := (natDegree_toPoly f f1 f2).1
      exact ⟨f2, by omega⟩) (NTV.Res.pp_ne_nil a ha hca) (contPP_spec a ha hca).2.2.2
    rw [hr, NTV.PolyMod.ok_bind'] at h
    cases h

/-- **C07 panic-freedom.** For every canonical `a` with deg a ≤ 25 (including 0 and the constants) and EVERY
draw stream: a run of `factorize` that does not return fails with `inconclusive stream` (the random chunks
for `factorize_mod_p` ran out) or `inconclusive fuel`. No Rust panic is possible: `resultant_gcd` performs
only exact divisions by non-zero numbers, both `div_exact(..).expect(..)` succeed (the gcd divides pp(a); by
Gauss' lemma the primitive part of an accepted candidate divides the current cofactor), the prime search
never computes `x % 0`, `factorize_mod_p` is called on legal input (C08 panic-freedom), its exponents are
all 1 (squarefree modulo p), `lift_factorization` is total, `lifted.len() ≤ 25`, and a subset product is
never the zero polynomial (no `prod.deg() + 1` overflow).

What remains behind `inconclusive fuel` (fuel exhaustion is a property of the model, not a panic) is exactly
the prime search over the first 100000 primes, see `fuel_only_prime_search` (it is genuinely exhaustible: all
of them may divide lc(a), e.g. a = (∏ first 100000 primes)·x + 1; the Rust loop would go on). -/
theorem no_panic (a : List Int) (s : NTV.Draw.Stream) (e : String) (hca : Canon a) (hdeg : a.length ≤ 26)
    (h : factorize a s = .error e) : e = "inconclusive stream" ∨ e = "inconclusive fuel" :=
  (fuel_only_prime_search a s e hca hdeg h).imp_right And.left

/-- the same for `get_factors_of_squarefree` on a canonical primitive polynomial of degree 1..25 (squarefree
or not: on a non-squarefree input the prime search runs out of fuel) -/
theorem squarefree_stage_no_panic (a : List Int) (s : NTV.Draw.Stream) (e : String) (hca : Canon a)
    (hprim : (toPoly a).IsPrimitive) (hlen : 2 ≤ a.length) (hdeg : a.length ≤ 26)
    (h : getFactorsOfSquarefree a s = .error e) : e = "inconclusive stream" ∨ e = "inconclusive fuel" :=
  (squarefree_stage_fuel a s e hca hprim hlen hdeg h).imp_right And.left

/-- a successful prime search excludes `inconclusive fuel` altogether -/
theorem squarefree_stage_stream_only (a : List Int) (s : NTV.Draw.Stream) (e : String) (hca : Canon a)
    (hprim : (toPoly a).IsPrimitive) (hlen : 2 ≤ a.length) (hdeg : a.length ≤ 26) (p : Int) (pu : Nat)
    (hps : primeSearch a (degU a) 100000 2 = .ok (p, pu))
    (h : getFactorsOfSquarefree a s = .error e) : e = "inconclusive stream" := by
  rcases squarefree_stage_fuel a s e hca hprim hlen hdeg h with h1 | ⟨_, h2⟩
  · exact h1
  · rw [hps] at h2; cases h2

/-- the recombination loop under its invariant: only the fuel can fail -/
theorem combine_no_panic {P e : ℕ} {pe pe2 : Int} {A : ℤ[X]} (S : Setup P e pe pe2 A) (hA : A.natDegree ≤ 25)
    (fuel : Nat) (a : List Int) (L : List (List Int)) (d : Nat) (result : List (List Int)) (err : String)
    (ha : a ≠ []) (hca : Canon a) (I : NTV.Zas.Inv P e A (toPoly a) (L.map toPoly) d)
    (h : combine pe pe2 fuel a L d result = .error err) : err = "inconclusive fuel" := by
  induction fuel generalizing a L d result with
  | zero => cases h; rfl
  | succ fuel ih =>
    -- `lifted.len() ≤ deg A ≤ 25`, and the enumeration of the subsets does not fail
    have hlen25 := I.length_le
    rw [List.length_map] at hlen25
    rcases combine_succ S ha hca I fuel result with
      ⟨-, he⟩ | ⟨-, ⟨h25, -⟩ | ⟨err', hv, -⟩ | ⟨pp, a1, l1, -, s2, s3, s4, -, he⟩ | ⟨I', he⟩⟩
    · rw [he] at h; cases h
    · omega
    · exact absurd hv (subsetLoop_ok S ha hca I _ _ _)
    · rw [he] at h; exact ih a1 l1 d _ s2 s3 s4 h
    · rw [he] at h; exact ih a L (d + 1) result ha hca I' h

/-! non-vacuity: x² − 1 needs draws modulo 3, so the empty stream is inconclusive — with exactly this message;
the theorem applied to the input of `run_example` -/
example : factorize [-1, 0, 1] [] = .error "inconclusive stream" := by decide +kernel
example : ∀ s e, getFactorsOfSquarefree [1, 0, 0, 0, 1] s = .error e → e = "inconclusive stream" :=
  fun s e h => squarefree_stage_stream_only _ s e (by intro _; simp)
    (NTV.Res.isPrimitive_of_list _ (fun d hd => hd 1 (by simp))) (by simp) (by simp) 3 3 (by decide +kernel) h
example : ∀ s e, factorize [-2, -2, 4, 6, 2] s = .error e → e = "inconclusive stream" ∨ e = "inconclusive fuel" :=
  fun s e h => no_panic _ s e canon_example (by decide) h

/-! ### the modulus bound the RUNNING code chose (hook `poly_z::verif::take_bounds`, op `pz.bound`)

The correctness proof uses the bound in one place only: every coefficient of `lc(h')·h`, for a true factorisation
`a = g·h·h'`, must lie in the symmetric residue range of the modulus `pe > bound`. The check evaluates the executable
predicate `boundOk a B` (`2^deg a · ‖a‖₁ < B`) on the bound `B` the implementation reports; the first theorem says that
this is enough, the second that the bound of the unchanged code (= the model's `coeffBound`) always passes. -/

/-- any bound accepted by `boundOk` keeps every scaled true factor inside the symmetric range of a larger modulus -/
theorem accepted_bound_suffices (a : List Int) (ha : a ≠ []) (hca : Canon a) (hn : 2 ≤ a.length)
    (g h h' : Polynomial ℤ) (hfac : toPoly a = g * h * h') (j : ℕ) (B pe : ℤ)
    (hB : NTV.Spec.PolyZ.boundOk a B = true) (hpe : B < pe) :
    -(Int.tdiv pe 2) ≤ (Polynomial.C h'.leadingCoeff * h).coeff j ∧
      (Polynomial.C h'.leadingCoeff * h).coeff j < pe - Int.tdiv pe 2 :=
  mignotte_symmetric_range_boundOk a ha hca hn g h h' hfac j B pe hB hpe

/-- the bound of the unchanged code is accepted, for every non-constant canonical input -/
theorem model_bound_accepted (a : List Int) (ha : a ≠ []) (hca : Canon a) (hn : 2 ≤ a.length) :
    NTV.Spec.PolyZ.boundOk a (coeffBound a (degU a)) = true :=
  (boundOk_iff a _).2 (lt_coeffBound a ha hca hn)

example : NTV.Spec.PolyZ.boundOk [-1, 0, 1] (coeffBound [-1, 0, 1] 2) = true := by decide
example : NTV.Spec.PolyZ.boundOk [-1, 0, 1] 8 = false := by decide

end NTV.C07
