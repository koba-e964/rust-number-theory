import NTV.Proofs.Lemmas.PolyModBasics
import NTV.Proofs.Lemmas.PolyDivremMod
import NTV.Proofs.Lemmas.PolyGcdMod
import NTV.Model.PolyModFactor
import NTV.Proofs.Lemmas.FactorModPIrred
import NTV.Proofs.Lemmas.NoPanicFactorC
/-! # C08 — factorisation modulo a prime: what is proved about the model.
Irreducibility, distinctness and the product identity are proved for all inputs and all draw streams
(`factorization_correct`); the harness also certifies them on every explored case by an independent oracle
(Rabin's test cross-checked by brute force, product modulo p). -/
namespace NTV.C08
open NTV.PolyMod

/-- `modpow` is modular exponentiation (as a congruence) for every base, exponent ≥ 0 and modulus -/
theorem modpow_correct (x e m : Int) : modpow x e m ≡ x ^ e.toNat [ZMOD m] := modpow_modEq x e m

/-- the inverse of a leading coefficient used by `poly_divrem` and the final normalisation is a true
inverse modulo a prime p -/
theorem leading_coefficient_inverse (p : Nat) (hp : p.Prime) (x : Int) (hx : IsCoprime x (p : Int)) :
    x * modinv x (p : Int) ≡ 1 [ZMOD (p : Int)] := modinv_spec p hp x hx

/-- the division primitive every stage is built on, `poly_divrem(a, b, p)`, satisfies its contract for
every prime p not dividing lc(b): a ≡ q·b + r (mod p), deg r < deg b, results canonical -/
theorem division_contract (a b : List Int) (p : Nat) (hp : p.Prime) (ha : a ≠ []) (hb : b ≠ [])
    (hab : b.length ≤ a.length) (hlc : IsCoprime (NTV.PolyG.lc b) (p : Int)) :
    NTV.Hensel.PCong p (NTV.PolyG.toPoly a)
      (NTV.PolyG.toPoly (NTV.PolyMod.polyDivrem a b p).1 * NTV.PolyG.toPoly b +
        NTV.PolyG.toPoly (NTV.PolyMod.polyDivrem a b p).2) ∧
    (NTV.PolyMod.polyDivrem a b p).2.length < b.length ∧
    NTV.PolyG.Canon (NTV.PolyMod.polyDivrem a b p).1 ∧ NTV.PolyG.Canon (NTV.PolyMod.polyDivrem a b p).2 :=
  NTV.PolyMod.polyDivrem_contract_prime a b p hp ha hb hab hlc

/-- every gcd the routine takes, `poly_gcd(a, b, p)` on reduced canonical arguments, returns a
polynomial that divides both arguments modulo the prime p (and is reduced and canonical): so every
polynomial split off by a gcd is a divisor of the current cofactor -/
theorem gcd_divides_both (p : Nat) (hp : p.Prime) (a b g : List Int)
    (hra : NTV.PolyMod.Reduced (p : Int) a) (hrb : NTV.PolyMod.Reduced (p : Int) b)
    (hca : NTV.PolyG.Canon a) (hcb : NTV.PolyG.Canon b) (h : NTV.PolyMod.polyGcd a b (p : Int) = .ok g) :
    NTV.PolyMod.DvdP p (NTV.PolyG.toPoly g) (NTV.PolyG.toPoly a) ∧
    NTV.PolyMod.DvdP p (NTV.PolyG.toPoly g) (NTV.PolyG.toPoly b) ∧
    NTV.PolyMod.Reduced (p : Int) g ∧ NTV.PolyG.Canon g :=
  NTV.PolyMod.polyGcd_dvd p hp a b g hra hrb hca hcb h

/-- the reduction applied to the input first: `poly_mod(f, p)` has coefficients in [0, p), is canonical
and congruent to f -/
theorem input_reduction (f : List Int) (p : Int) (hp : 0 < p) :
    NTV.PolyMod.Reduced p (NTV.PolyMod.polyMod f p) ∧ NTV.PolyG.Canon (NTV.PolyMod.polyMod f p) ∧
    NTV.Hensel.PCong p (NTV.PolyG.toPoly (NTV.PolyMod.polyMod f p)) (NTV.PolyG.toPoly f) :=
  NTV.PolyMod.polyMod_reduced f p hp


/-! ## The factorisation itself

Notation. `Good p l` (= `Reduced p l ∧ Canon l`): `l` is a canonical coefficient list with entries in
[0, p). `factorProduct fs = ∏ gᵉ`, `partProduct ds = ∏ g`, `listProduct l = ∏ g` in ℤ[X].
`PCong p F G`: F ≡ G modulo p. The draw stream `s` is universally quantified ("all random draws"); the
statements are about the runs that return `.ok` (a run on an exhausted stream / fuel is `.error
"inconclusive …"`, a Rust panic is `.error "panic …"`). -/
open Polynomial NTV.PolyG NTV.Hensel

/-- decidable equality of results, for the examples -/
instance : DecidableEq (Except String Factors) := fun a b =>
  match a, b with
  | .ok x, .ok y => if h : x = y then isTrue (by rw [h]) else isFalse (by intro e; cases e; exact h rfl)
  | .error x, .error y => if h : x = y then isTrue (by rw [h]) else isFalse (by intro e; cases e; exact h rfl)
  | .ok _, .error _ => isFalse (by intro e; cases e)
  | .error _, .ok _ => isFalse (by intro e; cases e)

/-- Stage 1, `squarefree(poly, p, pusize)` (Cohen 3.4.2 with p-th roots): for every prime p and every
non-zero `poly` reduced modulo p, with `pusize = p` (or any `pusize` when deg poly < p: then no p-th
root is taken), the returned pairs (A, m) satisfy c · ∏ Aᵐ ≡ poly (mod p) for an integer unit
0 < c < p. The parts A are **not** monic in general (`squarefree [1,2,1] 5 5 = [([2,2],2)]`): they are
non-zero canonical lists with coefficients in [0, p); every m ≥ 1. -/
theorem squarefree_product (p : Nat) (hp : p.Prime) (poly : List Int) (pusize : Nat) (fs : Factors)
    (hred : Reduced (p : Int) poly) (hcan : Canon poly) (hne : poly ≠ [])
    (hpu : pusize = p ∨ poly.length ≤ p) (h : squarefree poly (p : Int) pusize = .ok fs) :
    (∃ c : Int, 0 < c ∧ c < p ∧ PCong (p : Int) (C c * factorProduct fs) (toPoly poly)) ∧
    ∀ x ∈ fs, Reduced (p : Int) x.1 ∧ Canon x.1 ∧ x.1 ≠ [] ∧ 1 ≤ x.2 := by
  have : Fact p.Prime := ⟨hp⟩
  obtain ⟨h1, h2, _⟩ := NTV.PolyMod.squarefree_product p poly pusize fs ⟨⟨hred, hcan⟩, hne⟩ hpu h
  refine ⟨pcong_of_associated p _ _ ?_, fun x hx => ⟨(h2 x hx).1.1.1, (h2 x hx).1.1.2, (h2 x hx).1.2, (h2 x hx).2⟩⟩
  rw [map_factorProduct]; exact h1

example : squarefree [1, 2, 1] 5 5 = .ok [([2, 2], 2)] := by decide +kernel
example : squarefree [1, 0, 0, 1] 3 3 = .ok [([1, 1], 3)] := by decide +kernel   -- a p-th root is taken

/-- Stage 2, `degree(poly, p)` (distinct degree): the returned parts multiply to `poly` up to a unit,
for every prime p and every non-zero `poly` reduced modulo p -/
theorem degree_product (p : Nat) (hp : p.Prime) (poly : List Int) (ds : Factors)
    (hred : Reduced (p : Int) poly) (hcan : Canon poly) (hne : poly ≠ [])
    (h : degree poly (p : Int) = .ok ds) :
    (∃ c : Int, 0 < c ∧ c < p ∧ PCong (p : Int) (C c * partProduct ds) (toPoly poly)) ∧
    ∀ x ∈ ds, Reduced (p : Int) x.1 ∧ Canon x.1 ∧ x.1 ≠ [] := by
  have : Fact p.Prime := ⟨hp⟩
  obtain ⟨h1, h2⟩ := NTV.PolyMod.degree_product p poly ds ⟨⟨hred, hcan⟩, hne⟩ h
  refine ⟨pcong_of_associated p _ _ ?_, fun x hx => ⟨(h2 x hx).1.1, (h2 x hx).1.2, (h2 x hx).2⟩⟩
  rw [map_partProduct]; exact h1

example : degree [2, 0, 0, 0, 1] 3 = .ok [([2, 0, 1], 1), ([1, 0, 1], 2)] := by decide +kernel

/-- Stage 3, `final_split(poly, p, d)` (Cantor–Zassenhaus for odd p with the random polynomials read
from the draw stream; the trace-like map for p = 2): for every stream the returned pieces multiply to
the input piece up to a unit (every split replaces u by (g, u/g) with g ∣ u) -/
theorem finalSplit_product (p : Nat) (hp : p.Prime) (poly : List Int) (d : Nat) (s s' : NTV.Draw.Stream)
    (res : List (List Int)) (hred : Reduced (p : Int) poly) (hcan : Canon poly) (hne : poly ≠ [])
    (h : finalSplit poly (p : Int) d s = .ok (res, s')) :
    (∃ c : Int, 0 < c ∧ c < p ∧ PCong (p : Int) (C c * listProduct res) (toPoly poly)) ∧
    (∀ x ∈ res, Reduced (p : Int) x ∧ Canon x ∧ x ≠ []) ∧ d ≠ 0 := by
  have : Fact p.Prime := ⟨hp⟩
  obtain ⟨h1, h2, h3⟩ := NTV.PolyMod.finalSplit_product p poly d s res s' ⟨⟨hred, hcan⟩, hne⟩ h
  refine ⟨pcong_of_associated p _ _ ?_, fun x hx => ⟨(h2 x hx).1.1, (h2 x hx).1.2, (h2 x hx).2⟩, h3⟩
  rw [map_listProduct]; exact h1

example : finalSplit [2, 0, 1] 3 1 [[0,0,0,0],[0,0,0,64]] = .ok ([[2, 1], [1, 1]], []) := by decide +kernel
example : finalSplit [1, 1, 1, 1, 1, 1, 1] 2 3 [] = .ok ([[1, 1, 0, 1], [1, 0, 1, 1]], []) := by decide +kernel

theorem pusize_legal {p pusize n : Nat} (hpu : p < 2 ^ 64 → pusize = p) (hlen : 2 ^ 64 ≤ p → n < 2 ^ 64) :
    pusize = p ∨ n ≤ p := by
  rcases Nat.lt_or_ge p (2 ^ 64) with h1 | h1
  · exact Or.inl (hpu h1)
  · exact Or.inr (by have := hlen h1; omega)

/-- **C08.** For every prime p, every f ∈ ℤ[x] and every sequence of random draws: if the mod-p
factorisation returns the pairs (gᵢ, eᵢ) (it does not when f mod p = 0: the Rust code panics, the run
is `.error`), then every gᵢ is monic with coefficients in [0, p), canonical, of degree ≥ 1 and
irreducible over F_p, the gᵢ are pairwise distinct, every eᵢ ≥ 1, and lc(f mod p) · ∏ gᵢ^eᵢ ≡ f
(mod p). `pusize` is p when p < 2⁶⁴ and arbitrary otherwise. -/
theorem factorization_correct (p : Nat) (hp : p.Prime) (f : List Int) (pusize : Nat) (s : NTV.Draw.Stream)
    (fs : Factors) (hpu : p < 2 ^ 64 → pusize = p) (hlen : 2 ^ 64 ≤ p → f.length < 2 ^ 64)
    (h : factorizeModP f (p : Int) pusize s = .ok fs) :
    (∀ x ∈ fs, lc x.1 = 1 ∧ Reduced (p : Int) x.1 ∧ Canon x.1 ∧ 2 ≤ x.1.length ∧ 1 ≤ x.2 ∧
      Irreducible ((toPoly x.1).map (Int.castRingHom (ZMod p)))) ∧
    (fs.map Prod.fst).Nodup ∧
    PCong (p : Int) (C (lc (polyMod f p)) * factorProduct fs) (toPoly f) := by
  have : Fact p.Prime := ⟨hp⟩
  obtain ⟨h1, h2, h3, h4⟩ := factorizeModP_correct p f pusize s fs (pusize_legal hpu hlen) h
  refine ⟨fun x hx => ?_, h4, ?_⟩
  · obtain ⟨⟨a, b, c, d⟩, e⟩ := h2 x hx
    exact ⟨b, a.1, a.2, c, d, e⟩
  · rw [pcong_iff_map, Polynomial.map_mul, map_factorProduct, map_C]
    have hl := (natDegree_mp p (polyMod f p) (good_polyMod p hp.pos f) h3).2.1
    rw [mp_polyMod] at hl
    rw [eq_intCast, ← hl]
    exact h1.symm

/-- **C08, product identity.** For every prime p, every f ∈ ℤ[x], every draw stream s: if
`factorize_mod_p(f, p, pusize)` returns the pairs (gᵢ, eᵢ) then lc(f mod p) · ∏ gᵢ^eᵢ ≡ f (mod p),
i.e. ∏ gᵢ^eᵢ ≡ f / lc(f mod p). The machine-word copy `pusize` must be p when p fits a word
(p < 2⁶⁴); for larger p it is arbitrary (the length of a coefficient vector is below 2⁶⁴). -/
theorem product_identity (p : Nat) (hp : p.Prime) (f : List Int) (pusize : Nat) (s : NTV.Draw.Stream)
    (fs : Factors) (hpu : p < 2 ^ 64 → pusize = p) (hlen : 2 ^ 64 ≤ p → f.length < 2 ^ 64)
    (h : factorizeModP f (p : Int) pusize s = .ok fs) :
    PCong (p : Int) (C (lc (polyMod f p)) * factorProduct fs) (toPoly f) :=
  (factorization_correct p hp f pusize s fs hpu hlen h).2.2

/-- **C08, shape of the factors.** Every returned gᵢ is monic (`lc = 1`), canonical, with coefficients
in [0, p), of degree ≥ 1 (`length ≥ 2`), and every eᵢ ≥ 1 -/
theorem factor_shape (p : Nat) (hp : p.Prime) (f : List Int) (pusize : Nat) (s : NTV.Draw.Stream)
    (fs : Factors) (hpu : p < 2 ^ 64 → pusize = p) (hlen : 2 ^ 64 ≤ p → f.length < 2 ^ 64)
    (h : factorizeModP f (p : Int) pusize s = .ok fs) :
    ∀ x ∈ fs, lc x.1 = 1 ∧ Reduced (p : Int) x.1 ∧ Canon x.1 ∧ 2 ≤ x.1.length ∧ 1 ≤ x.2 := by
  intro x hx
  obtain ⟨a, b, c, d, e, _⟩ := (factorization_correct p hp f pusize s fs hpu hlen h).1 x hx
  exact ⟨a, b, c, d, e⟩

/-- **C08, constant input.** When f mod p is a non-zero constant the result is the empty list (for
every modulus p > 0, every `pusize`, every stream) -/
theorem constant_input (p : Nat) (hp : 0 < p) (f : List Int) (pusize : Nat) (s : NTV.Draw.Stream)
    (hc : (polyMod f p).length = 1) : factorizeModP f (p : Int) pusize s = .ok [] := by
  have hg := good_polyMod p hp f
  have hne : (polyMod f p).isEmpty = false :=
    List.isEmpty_eq_false_iff.mpr (List.ne_nil_of_length_pos (by omega))
  have hd : degU (polyMod f p) = 0 := by simp [degU, hne, hc]
  simp only [factorizeModP, squarefree, hne, Bool.false_eq_true, ↓reduceIte, polyMod_of_good p _ hg]
  simp [sqOuter, hd, factorAll, bind, Except.bind, pure, Except.pure]

/-- `pusize` is not read as soon as deg f < p: the result (whatever it is: a list of factors, a panic or an
inconclusive run) does not depend on it, for every draw stream -/
theorem pusize_irrelevant_small_degree (p : Nat) (hp : p.Prime) (f : List Int) (hlen : f.length ≤ p)
    (u u' : Nat) (s : NTV.Draw.Stream) :
    factorizeModP f (p : Int) u s = factorizeModP f (p : Int) u' s := by
  have : Fact p.Prime := ⟨hp⟩
  simp only [factorizeModP]
  rw [squarefree_pusize_irrelevant p (polyMod f p) u u' (good_polyMod p hp.pos f)
    ((length_polyMod_le f p).trans hlen)]

/-- **C08, the machine-word copy of p.** For p ≥ 2⁶⁴ (p does not fit a word) the result — factor
list, panic or inconclusive run alike — does not depend on `pusize`: any value, including 0, gives
the same result. `f.length < 2⁶⁴` holds for every coefficient vector (a `Vec` has fewer than 2⁶⁴
entries); without it the statement is false for the model (f = x^p). -/
theorem pusize_irrelevant (p : Nat) (hp : p.Prime) (hbig : 2 ^ 64 ≤ p) (f : List Int)
    (hlen : f.length < 2 ^ 64) (u u' : Nat) (s : NTV.Draw.Stream) :
    factorizeModP f (p : Int) u s = factorizeModP f (p : Int) u' s := by
  exact pusize_irrelevant_small_degree p hp f (by omega) u u' s

/-! Non-vacuity: the Rust unit tests x⁴ + x² mod 3 and x³ + 1 mod 2 (no draw is needed), x² − 1 mod 3
and x⁴ − 1 mod 5 with explicit draw streams, a constant input, and `pusize = 0` with deg f < p. -/
theorem run_x4_add_x2 : factorizeModP [0, 0, 1, 0, 1] 3 3 [] = .ok [([1, 0, 1], 1), ([0, 1], 2)] := by
  decide +kernel

theorem run_x2_sub_one :
    factorizeModP [2, 0, 1] 3 3 [[0,0,0,0],[0,0,0,64]] = .ok [([2, 1], 1), ([1, 1], 1)] := by decide +kernel
example : factorizeModP [0, 0, 1, 0, 1] 3 3 [] = .ok [([1, 0, 1], 1), ([0, 1], 2)] := run_x4_add_x2
example : factorizeModP [1, 0, 0, 1] 2 2 [] = .ok [([1, 1], 1), ([1, 1, 1], 1)] := by decide +kernel
example : factorizeModP [2, 0, 1] 3 3 [[0,0,0,0],[0,0,0,64]] = .ok [([2, 1], 1), ([1, 1], 1)] := run_x2_sub_one
example : factorizeModP [5, 0, 3] 3 3 [] = .ok [] := constant_input 3 (by decide) _ _ _ (by decide +kernel)
example : factorizeModP [2, 0, 1] 3 0 [[0,0,0,0],[0,0,0,64]] = .ok [([2, 1], 1), ([1, 1], 1)] := by
  exact (pusize_irrelevant_small_degree 3 (by norm_num) [2, 0, 1] (by decide) 0 3 _).trans run_x2_sub_one
example : PCong (3 : Int) (C 1 * factorProduct [([1, 0, 1], 1), ([0, 1], 2)]) (toPoly [0, 0, 1, 0, 1]) := by
  exact product_identity 3 (by norm_num) [0, 0, 1, 0, 1] 3 [] _ (fun _ => rfl) (fun h => by omega) run_x4_add_x2


/-! ## Irreducibility and distinctness -/

/-- Stage 2 is sound and complete: for every prime p and every non-zero
squarefree `poly` reduced modulo p, every irreducible factor of the part that `degree` returns under
the label d has degree exactly d, and every irreducible factor q of `poly` divides a returned part
labelled deg q. Hence a divisor of degree d of the part labelled d is irreducible. -/
theorem distinct_degree_sound (p : Nat) (hp : p.Prime) (poly : List Int) (ds : Factors)
    (hred : Reduced (p : Int) poly) (hcan : Canon poly) (hne : poly ≠ [])
    (hsq : Squarefree ((toPoly poly).map (Int.castRingHom (ZMod p))))
    (h : degree poly (p : Int) = .ok ds) :
    (∀ x ∈ ds, ∀ q : (ZMod p)[X], Irreducible q → q ∣ (toPoly x.1).map (Int.castRingHom (ZMod p)) →
      q.natDegree = x.2) ∧
    (∀ q : (ZMod p)[X], Irreducible q → q ∣ (toPoly poly).map (Int.castRingHom (ZMod p)) →
      ∃ x ∈ ds, q ∣ (toPoly x.1).map (Int.castRingHom (ZMod p)) ∧ x.2 = q.natDegree) := by
  have : Fact p.Prime := ⟨hp⟩
  have hnz : GoodNZ p poly := ⟨⟨hred, hcan⟩, hne⟩
  have hs := degree_sound p poly ds hnz (sqF_of_squarefree p hsq) h
  obtain ⟨h1, _⟩ := NTV.PolyMod.degree_product p poly ds hnz h
  refine ⟨fun x hx => hs x hx, fun q hq hqd => ?_⟩
  have hqp : q ∣ pprod p ds := hqd.trans h1.symm.dvd
  obtain ⟨y, hy, hqy⟩ := (hq.prime.dvd_prod_iff).mp hqp
  obtain ⟨x, hx, rfl⟩ := List.mem_map.mp hy
  exact ⟨x, hx, hqy, (hs x hx q hq hqy).symm⟩

example : degree [1, 1, 0, 0, 1, 1] 3 = .ok [([2, 2], 1), ([2, 0, 0, 0, 2], 2)] := by decide +kernel

/-- **C08, irreducibility.** Every returned gᵢ is irreducible over F_p (its image in `(ZMod p)[X]` is
irreducible), for every prime p, every input and every draw stream -/
theorem factors_irreducible (p : Nat) (hp : p.Prime) (f : List Int) (pusize : Nat) (s : NTV.Draw.Stream)
    (fs : Factors) (hpu : p < 2 ^ 64 → pusize = p) (hlen : 2 ^ 64 ≤ p → f.length < 2 ^ 64)
    (h : factorizeModP f (p : Int) pusize s = .ok fs) :
    ∀ x ∈ fs, Irreducible ((toPoly x.1).map (Int.castRingHom (ZMod p))) :=
  fun x hx => ((factorization_correct p hp f pusize s fs hpu hlen h).1 x hx).2.2.2.2.2

/-- **C08, distinctness.** The returned gᵢ are pairwise distinct -/
theorem factors_distinct (p : Nat) (hp : p.Prime) (f : List Int) (pusize : Nat) (s : NTV.Draw.Stream)
    (fs : Factors) (hpu : p < 2 ^ 64 → pusize = p) (hlen : 2 ^ 64 ≤ p → f.length < 2 ^ 64)
    (h : factorizeModP f (p : Int) pusize s = .ok fs) : (fs.map Prod.fst).Nodup :=
  (factorization_correct p hp f pusize s fs hpu hlen h).2.1

/-- x² + 1 and x are irreducible modulo 3, by the theorem, from the run on x⁴ + x² -/
example : Irreducible ((toPoly ([1, 0, 1] : List Int)).map (Int.castRingHom (ZMod 3))) :=
  factors_irreducible 3 (by norm_num) [0, 0, 1, 0, 1] 3 [] _ (fun _ => rfl) (fun h => by omega) run_x4_add_x2
    ([1, 0, 1], 1) (by simp)

/-! ## Panic-freedom: on legal input the only failures are inconclusive runs

Legal input: p prime, f ≢ 0 (mod p) (for f ≡ 0 the Rust code panics: `squarefree` is called on the zero
polynomial), `pusize` = p when p fits a machine word, and the coefficient vector has fewer than 2⁶⁴ entries
(true of every `Vec`; without it the exponent arithmetic `e * k` on `usize` does overflow: f = x^(2⁶⁴),
p = 2). -/

/-- Stage 1 is total: `squarefree` returns a list for every prime p and every non-zero reduced input of
length < 2⁶⁴ (`pusize = p`, or arbitrary when deg < p) — no `usize` overflow in `e * k` / `e * pusize`, no
division by `pusize = 0`, and neither the fuel of the two loops nor that of `poly_gcd` is exhausted -/
theorem squarefree_total (p : Nat) (hp : p.Prime) (poly : List Int) (pusize : Nat)
    (hred : Reduced (p : Int) poly) (hcan : Canon poly) (hne : poly ≠ [])
    (hpu : pusize = p ∨ poly.length ≤ p) (hlen : poly.length < 2 ^ 64) :
    ∃ fs, squarefree poly (p : Int) pusize = .ok fs := by
  have : Fact p.Prime := ⟨hp⟩
  exact NTV.PolyMod.squarefree_total p poly pusize ⟨⟨hred, hcan⟩, hne⟩ hpu (by omega)

/-- Stage 2 is total: `degree` returns a list for every prime p and every non-zero reduced input -/
theorem degree_total (p : Nat) (hp : p.Prime) (poly : List Int)
    (hred : Reduced (p : Int) poly) (hcan : Canon poly) (hne : poly ≠ []) :
    ∃ ds, degree poly (p : Int) = .ok ds := by
  have : Fact p.Prime := ⟨hp⟩
  exact NTV.PolyMod.degree_total p poly ⟨⟨hred, hcan⟩, hne⟩

/-- Stage 3 for p = 2 is total: on a non-constant reduced `poly` whose image in 𝔽₂[x] is squarefree with all
irreducible factors of degree d (what stages 1 and 2 deliver), `final_split(poly, 2, d)` returns — nothing is
drawn, and the fuel |poly|² + 8 that the model gives to `final_split_2` is never exhausted: the trace map
u ↦ Σ_{i<d} u^(2^i) splits such a product at some odd power x^m, m < deg poly (so the Rust loop terminates) —
and every piece has degree d (`degU` = `deg()`) -/
theorem final_split_two_total (poly : List Int) (d : Nat) (s : NTV.Draw.Stream)
    (hred : Reduced ((2 : Nat) : Int) poly) (hcan : Canon poly) (hlen : 2 ≤ poly.length)
    (hsq : Squarefree ((toPoly poly).map (Int.castRingHom (ZMod 2))))
    (hfac : ∀ q : (ZMod 2)[X], Irreducible q → q ∣ (toPoly poly).map (Int.castRingHom (ZMod 2)) →
      q.natDegree = d) :
    ∃ res, finalSplit poly 2 d s = .ok (res, s) ∧ ∀ x ∈ res, degU x = d := by
  have hne : poly ≠ [] := by rintro rfl; simp at hlen
  have hnz : GoodNZ 2 poly := ⟨⟨hred, hcan⟩, hne⟩
  have hl := nd_length 2 hnz
  have heq : EqDeg 2 d poly := ⟨hnz, by omega, hfac⟩
  exact finalSplit_two_total poly d s heq (sqF_of_squarefree 2 hsq)

/-- **C08 panic-freedom.** For every prime p, every f ≢ 0 mod p with fewer than 2⁶⁴ coefficients, `pusize`
= p when p < 2⁶⁴, and EVERY draw stream: a run of `factorize_mod_p` that does not return a factor list
fails with `inconclusive stream` (the supplied random chunks ran out — not a behaviour of the code). No Rust
panic is possible: no `usize` overflow, no division by zero, `unreachable!()` is unreachable, the degree
`assert_eq!` of the normalisation loop holds (every piece returned by `final_split` has degree exactly d).
And `inconclusive fuel` is impossible: the fuel of `squarefree`, `degree`, `poly_gcd`, `final_split_odd` and
`final_split_2` is never exhausted (all these loops terminate). -/
theorem no_panic (p : Nat) (hp : p.Prime) (f : List Int) (pusize : Nat) (s : NTV.Draw.Stream) (e : String)
    (hf : (toPoly f).map (Int.castRingHom (ZMod p)) ≠ 0)
    (hpu : p < 2 ^ 64 → pusize = p) (hlen : f.length < 2 ^ 64)
    (h : factorizeModP f (p : Int) pusize s = .error e) : e = "inconclusive stream" := by
  have : Fact p.Prime := ⟨hp⟩
  unfold factorizeModP at h
  have hnz : GoodNZ p (polyMod f p) := goodNZ_of_mp_ne_zero p (good_polyMod p hp.pos f) (by rw [mp_polyMod]; exact hf)
  have hpu' := (pusize_legal hpu fun _ => hlen).imp_right (length_polyMod_le f p).trans
  obtain ⟨sq, h1⟩ := NTV.PolyMod.squarefree_total p (polyMod f p) pusize hnz hpu'
    ((length_polyMod_le f p).trans hlen.le)
  obtain ⟨_, q2, q3⟩ := NTV.PolyMod.squarefree_product p (polyMod f p) pusize sq hnz hpu' h1
  simp only at h
  rw [h1, ok_bind'] at h
  have hfa := (factorAll_post p sq [] s (fun x hx => ⟨q2 x hx, q3.of_dvd p (mem_dvd_pprod p hx)⟩)).bind
    (R := fun _ => True) (f := fun x : Factors × NTV.Draw.Stream => pure x.1) fun _ _ => trivial
  rw [h] at hfa
  exact hfa

/-- "f mod p non-zero" in elementary terms: some coefficient is not divisible by p -/
theorem nonzero_mod_iff (p : ℕ) (f : List Int) :
    (toPoly f).map (Int.castRingHom (ZMod p)) ≠ 0 ↔ ∃ j, ¬ (p : Int) ∣ f.getD j 0 := by
  rw [Ne, Polynomial.ext_iff, not_forall]
  refine exists_congr fun j => ?_
  rw [coeff_map, coeff_toPoly, coeff_zero, eq_intCast, ZMod.intCast_zmod_eq_zero_iff_dvd]

/-! non-vacuity: the inconclusive case occurs (x² − 1 mod 3 needs draws), with exactly this message; the
hypothesis f ≢ 0 is needed (the zero polynomial panics); the theorem applied to a concrete input -/
example : factorizeModP [2, 0, 1] 3 3 [] = .error "inconclusive stream" := by decide +kernel
example : factorizeModP [3, 6] 3 3 [] = .error "panic other" := by decide +kernel
example : ∀ s e, factorizeModP [2, 0, 1] ((3 : Nat) : Int) 3 s = .error e → e = "inconclusive stream" :=
  fun s e h => no_panic 3 (by norm_num) [2, 0, 1] 3 s e
    ((nonzero_mod_iff 3 [2, 0, 1]).mpr ⟨0, by decide⟩) (fun _ => rfl) (by decide) h

end NTV.C08
