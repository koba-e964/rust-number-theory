import NTV.Proofs.Lemmas.PolyDivZ
import NTV.Proofs.Lemmas.PolyDivExact
import NTV.Proofs.Lemmas.ContPP
/-! # C09 — polynomial arithmetic is exact ring arithmetic on a canonical representation.
`R` is any commutative ring with decidable equality (the code is used at `BigInt` ↦ `Int` and
`BigRational` ↦ `Rat`). `toPoly : List R → R[X]` is the abstraction map, `Canon` = no trailing zero. -/
open Polynomial
namespace NTV.C09
open NTV.PolyG
section
variable {R : Type} [CommRing R] [DecidableEq R]

/-- refinement: the list operations compute the polynomial-ring operations -/
theorem refine_add (a b : List R) : toPoly (add a b) = toPoly a + toPoly b := toPoly_add a b
theorem refine_sub (a b : List R) : toPoly (sub a b) = toPoly a - toPoly b := toPoly_sub a b
theorem refine_mul (a b : List R) : toPoly (mul a b) = toPoly a * toPoly b := toPoly_mul a b
theorem refine_neg (a : List R) : toPoly (neg a) = - toPoly a := toPoly_neg a
theorem refine_fromRaw (l : List R) : toPoly (fromRaw l) = toPoly l ∧ Canon (fromRaw l) :=
  ⟨toPoly_fromRaw l, canon_fromRaw l⟩

/-- every operation returns a canonical list (given canonical arguments) -/
theorem canonical_results [NoZeroDivisors R] (a b : List R) (ha : Canon a) (hb : Canon b) :
    Canon (add a b) ∧ Canon (sub a b) ∧ Canon (mul a b) ∧ Canon (neg a) :=
  ⟨canon_add a b ha hb, canon_sub a b ha hb, canon_mul a b, canon_neg a ha⟩

/-- mathematically equal polynomials compare equal: on canonical lists, list equality is
polynomial equality -/
theorem eq_iff (a b : List R) (ha : Canon a) (hb : Canon b) : a = b ↔ toPoly a = toPoly b :=
  ⟨fun h => h ▸ rfl, toPoly_inj a b ha hb⟩

/-- the commutative-ring laws, as equalities of the stored lists -/
theorem ring_laws [NoZeroDivisors R] (a b c : List R) (ha : Canon a) (hb : Canon b) (hc : Canon c) :
    add a b = add b a ∧ mul a b = mul b a ∧
    add (add a b) c = add a (add b c) ∧ mul (mul a b) c = mul a (mul b c) ∧
    mul a (add b c) = add (mul a b) (mul a c) ∧
    add a [] = a ∧ mul a [] = [] ∧ add a (neg a) = [] ∧ sub a b = add a (neg b) := by
  have cab := canon_add a b ha hb
  have cbc := canon_add b c hb hc
  refine ⟨?_, ?_, ?_, ?_, ?_, ?_, ?_, ?_, ?_⟩
  · exact toPoly_inj _ _ cab (canon_add b a hb ha) (by rw [toPoly_add, toPoly_add, add_comm])
  · exact toPoly_inj _ _ (canon_mul a b) (canon_mul b a) (by rw [toPoly_mul, toPoly_mul, mul_comm])
  · exact toPoly_inj _ _ (canon_add _ _ cab hc) (canon_add _ _ ha cbc) (by simp only [toPoly_add, add_assoc])
  · exact toPoly_inj _ _ (canon_mul _ _) (canon_mul _ _) (by simp only [toPoly_mul, mul_assoc])
  · exact toPoly_inj _ _ (canon_mul _ _) (canon_add _ _ (canon_mul _ _) (canon_mul _ _))
      (by simp only [toPoly_mul, toPoly_add, mul_add])
  · exact toPoly_inj _ _ (canon_add _ _ ha canon_nil) ha (by simp [toPoly_add, toPoly])
  · exact toPoly_inj _ _ (canon_mul _ _) canon_nil (by simp [toPoly_mul, toPoly])
  · exact toPoly_inj _ _ (canon_add _ _ ha (canon_neg a ha)) canon_nil (by simp [toPoly_add, toPoly_neg, toPoly])
  · exact toPoly_inj _ _ (canon_sub _ _ ha hb) (canon_add _ _ ha (canon_neg b hb))
      (by simp only [toPoly_sub, toPoly_add, toPoly_neg, sub_eq_add_neg])

/-- evaluation (`Polynomial::of`, with the repaired loop bound) is polynomial evaluation, hence a ring
homomorphism in the polynomial argument; the zero polynomial evaluates to 0 -/
theorem eval_hom (a b : List R) (x : R) :
    NTV.PolyG.eval (add a b) x = NTV.PolyG.eval a x + NTV.PolyG.eval b x ∧
    NTV.PolyG.eval (mul a b) x = NTV.PolyG.eval a x * NTV.PolyG.eval b x ∧
    NTV.PolyG.eval ([] : List R) x = 0 ∧ NTV.PolyG.eval [1] x = 1 := by
  refine ⟨?_, ?_, ?_, ?_⟩
  · simp only [eval_eq, toPoly_add, eval_add]
  · simp only [eval_eq, toPoly_mul, eval_mul]
  · simp [NTV.PolyG.eval]
  · simp [NTV.PolyG.eval]
end

/-- the formal derivative is Mathlib's `derivative`, hence satisfies the product rule -/
theorem differential_product_rule (a b : List Int) :
    toPoly (differential (mul a b)) =
      toPoly (differential a) * toPoly b + toPoly a * toPoly (differential b) ∧ Canon (differential a) := by
  refine ⟨?_, canon_differential a⟩
  simp only [toPoly_differential, toPoly_mul, derivative_mul]

/-- pseudo-division contract (`pseudo_div_rem_bigint`), for deg a ≥ deg b and b ≠ 0 -/
theorem pseudoDivRem_contract (a b : List Int) (ha : a ≠ []) (hb : b ≠ []) (hcb : Canon b) (hab : b.length ≤ a.length) :
    C (lc b ^ (a.length - b.length + 1)) * toPoly a
      = toPoly (pseudoDivRem a b).1 * toPoly b + toPoly (pseudoDivRem a b).2 ∧
    (pseudoDivRem a b).2.length < b.length ∧ Canon (pseudoDivRem a b).1 ∧ Canon (pseudoDivRem a b).2 :=
  pseudoDivRem_spec a b ha hb hcb hab

/-- the short-cut branch: zero arguments or deg a < deg b return (0, a) -/
theorem pseudoDivRem_shortcut (a b : List Int) (h : a = [] ∨ b = [] ∨ a.length < b.length) :
    pseudoDivRem a b = ([], a) := by
  unfold pseudoDivRem
  rcases h with h | h | h
  · simp [h]
  · simp [h]
  · simp [h]

/-- monic division (`div_rem_bigint`): panics (none) iff b is not monic; otherwise a = q·b + r with deg r < deg b -/
theorem divRemMonic_contract (a b : List Int) (ha : a ≠ []) (hcb : Canon b) (hab : b.length ≤ a.length) :
    (isMonic b = false → divRemMonic a b = none) ∧
    (isMonic b = true → ∃ q r, divRemMonic a b = some (q, r) ∧ toPoly a = toPoly q * toPoly b + toPoly r ∧
        r.length < b.length) := by
  constructor
  · intro h; simp [divRemMonic, h]
  · intro h
    have hb : b ≠ [] := by intro e; simp [isMonic, e] at h
    have hlc : lc b = 1 := by simpa [isMonic, hb] using h
    obtain ⟨h1, h2, _, _⟩ := pseudoDivRem_spec a b ha hb hcb hab
    refine ⟨(pseudoDivRem a b).1, (pseudoDivRem a b).2, by simp [divRemMonic, h], ?_, h2⟩
    rw [← h1, hlc]; simp

/-- rational division contract (`div_rem_bigrational`) -/
theorem divRemRat_contract (a b : List Rat) (ha : a ≠ []) (hb : b ≠ []) (hcb : Canon b) (hab : b.length ≤ a.length) :
    toPoly a = toPoly (divRemRat a b).1 * toPoly b + toPoly (divRemRat a b).2 ∧
    (divRemRat a b).2.length < b.length ∧ Canon (divRemRat a b).2 := divRemRat_spec a b ha hb hcb hab

/-- exact division returns the quotient if and only if b divides a in ℤ[x] (a, b non-zero canonical):
soundness — a returned q satisfies a = q·b; completeness — if a = q'·b for some q' then a quotient is
returned. The zero cases: b = 0 gives `none`, a = 0 (b ≠ 0) gives `some 0`. -/
theorem divExact_iff (a b : List Int) (ha : a ≠ []) (hb : b ≠ []) (hca : Canon a) (hcb : Canon b) :
    (∃ q, divExact a b = some q) ↔ (∃ q' : List Int, toPoly a = toPoly q' * toPoly b) := by
  constructor
  · rintro ⟨q, hq⟩; exact ⟨q, (divExact_sound a b q hq).2.1⟩
  · rintro ⟨q', hq'⟩; exact divExact_complete a b q' ha hb hca hcb hq'

theorem divExact_sound_full (a b q : List Int) (h : divExact a b = some q) :
    b ≠ [] ∧ toPoly a = toPoly q * toPoly b ∧ Canon q := divExact_sound a b q h

theorem divExact_zero_cases (a b : List Int) :
    divExact a [] = none ∧ (b ≠ [] → divExact [] b = some []) := by
  refine ⟨by simp [divExact], ?_⟩
  intro hb
  have : b.isEmpty = false := List.isEmpty_eq_false_iff.mpr hb
  simp [divExact, this]

/-- content times primitive part reproduces the polynomial; the primitive part has gcd-1 coefficients
and a positive leading coefficient -/
theorem contPP_full (a : List Int) (ha : a ≠ []) (hca : Canon a) :
    C (contPP a).1 * toPoly (contPP a).2 = toPoly a ∧
    (∀ d : Int, (∀ c ∈ (contPP a).2, d ∣ c) → d ∣ 1) ∧
    0 < lc (contPP a).2 ∧ Canon (contPP a).2 := contPP_spec a ha hca

/-- the zero polynomial gives (0, 1) -/
theorem contPP_zero : contPP [] = (0, [1]) := by simp [contPP]

/-- non-vacuity of the hypotheses above -/
example : ([1, 0, 1] : List Int) ≠ [] ∧ Canon ([3, 2, 1] : List Int) ∧ ([3, 2, 1] : List Int).length ≤ [1, 0, 1, 0, 1].length := by
  refine ⟨by simp, ?_, by simp⟩
  intro h; simp

end NTV.C09
