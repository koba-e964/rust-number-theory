import NTV.Model.Resultant
import NTV.Proofs.Lemmas.GcdShape
import NTV.Proofs.Lemmas.GcdDvd
import NTV.Proofs.Lemmas.Subres2Gcd
import Mathlib.Algebra.Polynomial.Basic
import Mathlib.Tactic
/-! # C10 — gcd in ℤ[x].
`resultantSmartGcdE f g` returns `(polynomial, flag)`, the flag saying that every truncated division was exact. -/
open Polynomial
namespace NTV.C10
open NTV.PolyG NTV.Res

/-- gcd(0, g) is g as given -/
theorem gcd_zero_left (g : List Int) : resultantSmartGcdE [] g = some (.ok (g, true)) := by
  simp [resultantSmartGcdE]

/-- soundness of the certificate the oracle checks on every explored case: if u·f + v·g = c·d for an
integer c, then every common divisor of f and g in ℤ[x] divides c·d -/
theorem gcd_certificate_sound (f g d u v e : ℤ[X]) (c : ℤ)
    (hbez : u * f + v * g = C c * d) (hef : e ∣ f) (heg : e ∣ g) : e ∣ C c * d := by
  rw [← hbez]
  exact dvd_add (Dvd.dvd.mul_left hef u) (Dvd.dvd.mul_left heg v)

/-- shape of the result, conditional form (a run whose flag is set; `gcd_flag` shows it always is): for
non-zero canonical f, g the routine returns d·pp with d = gcd(cont f, cont g) > 0 and pp
primitive with positive leading coefficient — so the result has positive leading coefficient and
content exactly gcd(cont f, cont g) -/
theorem result_shape_partial (f g r : List Int) (hf : f ≠ []) (hg : g ≠ []) (hcf : Canon f) (hcg : Canon g)
    (h : resultantSmartGcdE f g = some (.ok (r, true))) :
    ∃ pp : List Int, ∃ d : Int, d = (Int.gcd (contPP f).1 (contPP g).1 : Int) ∧ 0 < d ∧
      toPoly r = C d * toPoly pp ∧ 0 < lc pp ∧ Canon pp ∧
      (∀ e : Int, (∀ c ∈ pp, e ∣ c) → e ∣ 1) := by
  obtain ⟨f2, -, hc2, hne2, rfl⟩ := resultantSmartGcdE_exact f g r hf hg hcf hcg h
  obtain ⟨-, s2, s3, s4⟩ := contPP_spec f2 hne2 hc2
  exact ⟨(contPP f2).2, _, rfl, Int.natCast_pos.mpr (Nat.pos_of_ne_zero fun e =>
    contPP_fst_ne_zero f hf hcf (Int.gcd_eq_zero_iff.mp e).1), toPoly_resPolyMul _ _, s3, s4, s2⟩

/-- C10, conditional form (a run whose flag is set; `gcd_flag` shows it always is): for
non-zero canonical f, g the returned polynomial is a greatest common divisor of f and g in ℤ[x]: it
divides both, and every common divisor in ℤ[x] divides it. Together with `result_shape_partial`
(positive leading coefficient) this determines it uniquely. -/
theorem is_gcd_partial (f g r : List Int) (hf : f ≠ []) (hg : g ≠ []) (hcf : Canon f) (hcg : Canon g)
    (h : resultantSmartGcdE f g = some (.ok (r, true))) :
    toPoly r ∣ toPoly f ∧ toPoly r ∣ toPoly g ∧
    ∀ e : ℤ[X], e ∣ toPoly f → e ∣ toPoly g → e ∣ toPoly r :=
  ⟨(gcd_dvd f g r hf hg hcf hcg h).1, (gcd_dvd f g r hf hg hcf hcg h).2,
   fun e h1 h2 => gcd_greatest f g r hf hg hcf hcg h e h1 h2⟩

/-- uniqueness: two greatest common divisors with positive leading coefficient are equal -/
theorem gcd_unique (f g : ℤ[X]) (r s : ℤ[X]) (hr : r ∣ f ∧ r ∣ g ∧ ∀ e, e ∣ f → e ∣ g → e ∣ r)
    (hs : s ∣ f ∧ s ∣ g ∧ ∀ e, e ∣ f → e ∣ g → e ∣ s)
    (hrl : 0 < r.leadingCoeff) (hsl : 0 < s.leadingCoeff) : r = s := by
  have h1 : r ∣ s := hs.2.2 r hr.1 hr.2.1
  have h2 : s ∣ r := hr.2.2 s hs.1 hs.2.1
  obtain ⟨u, hu⟩ := associated_of_dvd_dvd h1 h2
  obtain ⟨c, hc, hcu⟩ := Polynomial.isUnit_iff.mp u.isUnit
  rw [← hcu] at hu
  rcases Int.isUnit_iff.mp hc with rfl | rfl
  · simpa using hu
  · exfalso
    have : s = - r := by rw [← hu]; simp
    rw [this, leadingCoeff_neg] at hsl
    exact lt_asymm hrl (neg_pos.mp hsl)

/-- non-vacuity: an explicit pair on which the routine runs with the flag set -/
example : resultantSmartGcdE [-2, 0, 2] [2, 4, 2] = some (.ok ([2, 2], true)) := by decide +kernel

/-- on non-zero canonical input `resultant_smart_gcd` neither panics nor runs out of fuel, and all its
truncated divisions are exact (fundamental theorem of subresultant PRS) -/
theorem gcd_total (f g : List Int) (hf : f ≠ []) (hg : g ≠ []) (hcf : Canon f) (hcg : Canon g) :
    ∃ r, resultantSmartGcdE f g = some (.ok (r, true)) := resultantSmartGcd_total f g hf hg hcf hcg

/-- the exactness flag is always set -/
theorem gcd_flag (f g r : List Int) (ok : Bool) (hf : f ≠ []) (hg : g ≠ []) (hcf : Canon f) (hcg : Canon g)
    (h : resultantSmartGcdE f g = some (.ok (r, ok))) : ok = true :=
  resultantSmartGcd_flag f g hf hg hcf hcg r ok h

/-- shape of the result: for non-zero canonical f, g whatever the routine
returns is d·pp with d = gcd(cont f, cont g) > 0 and pp primitive with positive leading coefficient -/
theorem result_shape (f g r : List Int) (ok : Bool) (hf : f ≠ []) (hg : g ≠ []) (hcf : Canon f) (hcg : Canon g)
    (h : resultantSmartGcdE f g = some (.ok (r, ok))) :
    ∃ pp : List Int, ∃ d : Int, d = (Int.gcd (contPP f).1 (contPP g).1 : Int) ∧ 0 < d ∧
      toPoly r = C d * toPoly pp ∧ 0 < lc pp ∧ Canon pp ∧
      (∀ e : Int, (∀ c ∈ pp, e ∣ c) → e ∣ 1) := by
  have hok := gcd_flag f g r ok hf hg hcf hcg h
  subst hok
  exact result_shape_partial f g r hf hg hcf hcg h

/-- C10: for non-zero canonical f, g the returned polynomial is a greatest
common divisor of f and g in ℤ[x]: it divides both and every common divisor in ℤ[x] divides it.
With `result_shape` (positive leading coefficient) and `gcd_unique` this determines it uniquely; by
`gcd_total` the routine always returns. -/
theorem is_gcd (f g r : List Int) (ok : Bool) (hf : f ≠ []) (hg : g ≠ []) (hcf : Canon f) (hcg : Canon g)
    (h : resultantSmartGcdE f g = some (.ok (r, ok))) :
    toPoly r ∣ toPoly f ∧ toPoly r ∣ toPoly g ∧
    ∀ e : ℤ[X], e ∣ toPoly f → e ∣ toPoly g → e ∣ toPoly r := by
  have hok := gcd_flag f g r ok hf hg hcf hcg h
  subst hok
  exact is_gcd_partial f g r hf hg hcf hcg h

/-- non-vacuity: a pair with a defective remainder sequence -/
example : resultantSmartGcdE [0, -1, 0, 0, 0, 1] [-1, 0, 1] = some (.ok ([-1, 0, 1], true)) := by decide +kernel

end NTV.C10
