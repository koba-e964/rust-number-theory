import NTV.Proofs.Lemmas.HenselAlg
import NTV.Proofs.Lemmas.HenselModel
import NTV.Proofs.Lemmas.PolyModBasics
import NTV.Proofs.Lemmas.PolyDivremMod
import NTV.Proofs.Lemmas.HenselMulti
import NTV.Model.PolyModHensel
/-! # C11 — Hensel lifting.
First the building blocks (algebraic core, one call of `hensel_lift`, the division contract); the
property itself is proved in full at the end of the file: `witness_spec`, `lift_two_spec`,
`lift_factorization_spec`. -/
open Polynomial
namespace NTV.C11

/-- algebraic core of `hensel_lift` (Cohen 3.5.5) in ℤ[X]: for ANY quotient t,
c ≡ a·b (mod q), a·u + b·v ≡ 1 (mod r), r ∣ q ⇒ c ≡ a₁·b₁ (mod q·r), a₁ ≡ a, b₁ ≡ b (mod q) -/
theorem hensel_step_algebra (q r : ℤ) (hrq : r ∣ q) (a b c u v f t F : ℤ[X])
    (hc : c - a * b = C q * F) (hf : NTV.Hensel.PCong r f F) (huv : NTV.Hensel.PCong r (a * u + b * v) 1) :
    NTV.Hensel.PCong (q * r) c ((a + C q * (v * f - a * t)) * (b + C q * (u * f + b * t))) ∧
    NTV.Hensel.PCong q (a + C q * (v * f - a * t)) a ∧ NTV.Hensel.PCong q (b + C q * (u * f + b * t)) b :=
  NTV.Hensel.hensel_step q r hrq a b c u v f t F hc hf huv

/-- the model of `hensel_lift` itself, full: for all integers p, q and all coefficient lists,
c ≡ a·b (mod q) and a·u + b·v ≡ 1 (mod gcd(p,q)) imply that the returned (a₁, b₁, m) has m = q·gcd(p,q),
c ≡ a₁·b₁ (mod m), a₁ ≡ a and b₁ ≡ b (mod q) — whatever quotient the inner division produces -/
theorem henselLift_full (p q : Int) (c a b u v : List Int)
    (hc : NTV.Hensel.PCong q (NTV.PolyG.toPoly c) (NTV.PolyG.toPoly a * NTV.PolyG.toPoly b))
    (huv : NTV.Hensel.PCong (Int.gcd p q : Int)
      (NTV.PolyG.toPoly a * NTV.PolyG.toPoly u + NTV.PolyG.toPoly b * NTV.PolyG.toPoly v) 1) :
    (NTV.PolyMod.henselLift p q c a b u v).2.2 = q * (Int.gcd p q : Int) ∧
    NTV.Hensel.PCong (q * (Int.gcd p q : Int)) (NTV.PolyG.toPoly c)
      (NTV.PolyG.toPoly (NTV.PolyMod.henselLift p q c a b u v).1 *
        NTV.PolyG.toPoly (NTV.PolyMod.henselLift p q c a b u v).2.1) ∧
    NTV.Hensel.PCong q (NTV.PolyG.toPoly (NTV.PolyMod.henselLift p q c a b u v).1) (NTV.PolyG.toPoly a) ∧
    NTV.Hensel.PCong q (NTV.PolyG.toPoly (NTV.PolyMod.henselLift p q c a b u v).2.1) (NTV.PolyG.toPoly b) :=
  NTV.Hensel.henselLift_spec p q c a b u v hc huv

/-- for e = 1 the lifting loop does not run: the factors are returned unchanged -/
theorem exponent_one_unchanged (p : Int) (c : List Int) (factors : List (List Int)) :
    NTV.PolyMod.liftFactorization p 1 c factors = .ok factors := by
  simp [NTV.PolyMod.liftFactorization, NTV.PolyMod.liftSteps, pure, Except.pure]

/-- the division primitive every stage is built on, `poly_divrem(a, b, p)`, satisfies its contract for
every prime p not dividing lc(b): a ≡ q·b + r (mod p), deg r < deg b, results canonical -/
theorem division_contract (a b : List Int) (p : Nat) (hp : p.Prime) (ha : a ≠ []) (hb : b ≠ [])
    (hab : b.length ≤ a.length) (hlc : IsCoprime (NTV.PolyG.lc b) (p : Int)) :
    NTV.Hensel.PCong p (NTV.PolyG.toPoly a)
      (NTV.PolyG.toPoly (NTV.PolyMod.polyDivrem a b p).1 * NTV.PolyG.toPoly b +
        NTV.PolyG.toPoly (NTV.PolyMod.polyDivrem a b p).2) ∧
    (NTV.PolyMod.polyDivrem a b p).2.length < b.length ∧
    NTV.PolyG.Canon (NTV.PolyMod.polyDivrem a b p).1 ∧ NTV.PolyG.Canon (NTV.PolyMod.polyDivrem a b p).2 :=
  NTV.PolyMod.polyDivrem_contract_prime a b p hp ha hb hab hlc

/-! ## The property, in full

Notation: coefficient lists are low degree first; `toPoly l` is the polynomial of ℤ[X] a list denotes;
`lc l` is the last coefficient (`lc l = 1` says: non-empty and monic, hence canonical); `Canon l` = no
trailing zero; `Reduced m l` = all coefficients in [0, m); `PCong m F G` = F ≡ G modulo m in ℤ[X]. -/
open NTV.PolyG NTV.PolyMod NTV.Hensel

/-- C11 (Bezout witness). For every prime p and canonical a, b with coefficients in [0, p) that are
coprime over F_p, `poly_coprime_witness(a, b, p)` raises no error (the gcd found is a non-zero constant,
the fuel of the model suffices) and returns u, v with a·u + b·v ≡ 1 (mod p); u, v are canonical with
coefficients in [0, p). -/
theorem witness_spec (p : Nat) (hp : p.Prime) (a b : List Int) (hca : Canon a) (hcb : Canon b)
    (hra : Reduced (p : Int) a) (hrb : Reduced (p : Int) b)
    (hco : ∃ U V : ℤ[X], PCong (p : Int) (toPoly a * U + toPoly b * V) 1) :
    ∃ u v, polyCoprimeWitness a b p = .ok (u, v) ∧
      PCong (p : Int) (toPoly a * toPoly u + toPoly b * toPoly v) 1 ∧
      Reduced (p : Int) u ∧ Reduced (p : Int) v ∧ Canon u ∧ Canon v :=
  polyCoprimeWitness_spec p hp a b (lcOK_of_reduced _ a hca hra) (lcOK_of_reduced _ b hcb hrb)
    ((coprime_iff_map p _ _).mp hco)

/-- C11 (Bezout witness, as the lift uses it): the same for arguments that are not reduced modulo p
(the lift passes products reduced modulo p^k): it suffices that p does not divide the leading
coefficients. -/
theorem witness_spec_unreduced (p : Nat) (hp : p.Prime) (a b : List Int)
    (hla : a ≠ [] → ¬ (p : Int) ∣ lc a) (hlb : b ≠ [] → ¬ (p : Int) ∣ lc b)
    (hco : ∃ U V : ℤ[X], PCong (p : Int) (toPoly a * U + toPoly b * V) 1) :
    ∃ u v, polyCoprimeWitness a b p = .ok (u, v) ∧
      PCong (p : Int) (toPoly a * toPoly u + toPoly b * toPoly v) 1 ∧
      Reduced (p : Int) u ∧ Reduced (p : Int) v ∧ Canon u ∧ Canon v :=
  polyCoprimeWitness_spec p hp a b hla hlb ((coprime_iff_map p _ _).mp hco)

/-- the hypotheses of `witness_spec` hold for x + 2 and x² + 3x + 4 over F_5 (the factors of x³ − 2),
and the model returns u = 2x + 2, v = 3 -/
example : ∃ u v, polyCoprimeWitness [2, 1] [4, 3, 1] (5 : Nat) = .ok (u, v) ∧
    PCong ((5 : Nat) : Int) (toPoly [2, 1] * toPoly u + toPoly [4, 3, 1] * toPoly v) 1 ∧
    Reduced ((5 : Nat) : Int) u ∧ Reduced ((5 : Nat) : Int) v ∧ Canon u ∧ Canon v := by
  refine witness_spec 5 (by norm_num) [2, 1] [4, 3, 1] (by intro h; simp) (by intro h; simp) ?_ ?_ ?_
  · exact reduced_of_mem _ (by decide) _ (by decide)
  · exact reduced_of_mem _ (by decide) _ (by decide)
  · refine ⟨toPoly [-3, -3], toPoly [3], ?_⟩
    rw [← toPoly_mul, ← toPoly_mul, ← toPoly_add, ← toPoly_one]
    exact pcong_of_sub_eq [1] (by decide)
example : polyCoprimeWitness [2, 1] [4, 3, 1] 5 = .ok ([2, 2], [3]) := by decide +kernel

/-- C11 (one lifting step, shape). For all integers p and q > 1 and all lists with a monic:
the first polynomial a₁ returned by `hensel_lift(p, q, c, a, b, u, v)` is monic of the degree of a, and
a₁, b₁ are canonical with coefficients in [0, q·gcd(p, q)). If moreover c is monic of degree
deg a + deg b, c ≡ a·b (mod q) and a·u + b·v ≡ 1 (mod gcd(p, q)) — the hypotheses under which
`henselLift_full` gives c ≡ a₁·b₁ (mod q·gcd(p,q)), a₁ ≡ a, b₁ ≡ b (mod q) — then b₁ is monic of the
degree of b. -/
theorem lift_two_spec (p q : Int) (hq : 1 < q) (c a b u v : List Int) (ha : lc a = 1) :
    (lc (henselLift p q c a b u v).1 = 1 ∧ (henselLift p q c a b u v).1.length = a.length ∧
      Canon (henselLift p q c a b u v).1 ∧ Canon (henselLift p q c a b u v).2.1 ∧
      Reduced (q * (Int.gcd p q : Int)) (henselLift p q c a b u v).1 ∧
      Reduced (q * (Int.gcd p q : Int)) (henselLift p q c a b u v).2.1) ∧
    (lc c = 1 → c.length + 1 = a.length + b.length →
      PCong q (toPoly c) (toPoly a * toPoly b) →
      PCong (Int.gcd p q : Int) (toPoly a * toPoly u + toPoly b * toPoly v) 1 →
      lc (henselLift p q c a b u v).2.1 = 1 ∧ (henselLift p q c a b u v).2.1.length = b.length) := by
  obtain ⟨s1, s2, s3, s4, s5⟩ := henselLift_shape p q hq c a b u v ha
  exact ⟨⟨s1, s2, (monic_toPoly _ s1).2.2.2, s5, s3, s4⟩,
    fun hcm hlen hc huv => henselLift_shape_b p q hq c a b u v ha hcm hlen hc huv⟩

/-- Cohen's example (the Rust unit test `hensel_lift_works_0`): C = X² + 2X + 3, A = X − 3, B = X − 4,
p = q = 9: the hypotheses hold and the result is (X + 60)(X + 23) modulo 81 -/
example : lc ([-3, 1] : List Int) = 1 ∧ lc ([3, 2, 1] : List Int) = 1 ∧
    PCong 9 (toPoly [3, 2, 1]) (toPoly [-3, 1] * toPoly [-4, 1]) ∧
    PCong (Int.gcd 9 9 : Int) (toPoly [-3, 1] * toPoly [1] + toPoly [-4, 1] * toPoly [-1]) 1 := by
  refine ⟨by decide, by decide, ?_, ?_⟩
  · rw [← toPoly_mul]
    exact pcong_of_sub_eq [-1, 1] (by decide)
  · rw [← toPoly_mul, ← toPoly_mul, ← toPoly_add, ← toPoly_one]
    exact pcong_of_sub_eq [] (by decide)
example : henselLift 9 9 [3, 2, 1] [-3, 1] [-4, 1] [1] [-1] = ([60, 1], [23, 1], 81) := by decide +kernel

/-- **C11 (the property).** Let p be prime, e ≥ 1, c ∈ ℤ[x] with p ∤ lc(c), and f₁, …, f_k (k ≥ 1) monic
with coefficients in [0, p), pairwise coprime over F_p (what "distinct monic irreducible" gives; it
contains "c squarefree mod p"), with c ≡ lc(c)·∏ fᵢ (mod p). Then `lift_factorization(p, e, c, [f₁..f_k])`
raises no error and returns g₁, …, g_k, in this order, with: gᵢ monic, canonical, coefficients in
[0, p^e), deg gᵢ = deg fᵢ, gᵢ ≡ fᵢ (mod p), and lc(c)·∏ gᵢ ≡ c (mod p^e)
(equivalently ∏ gᵢ ≡ c·lc(c)⁻¹). -/
theorem lift_factorization_spec (p : Nat) (hp : p.Prime) (e : Nat) (he : 1 ≤ e) (c : List Int)
    (hlc : ¬ (p : Int) ∣ lc c) (factors : List (List Int)) (hne : factors ≠ [])
    (hmon : ∀ f ∈ factors, lc f = 1) (hred : ∀ f ∈ factors, Reduced (p : Int) f)
    (hcop : factors.Pairwise (fun f g => ∃ U V : ℤ[X], PCong (p : Int) (toPoly f * U + toPoly g * V) 1))
    (hprod : PCong (p : Int) (toPoly c) (C (lc c) * (factors.map toPoly).prod)) :
    ∃ gs, liftFactorization p e c factors = .ok gs ∧ gs.length = factors.length ∧
      List.Forall₂ (fun g f => lc g = 1 ∧ Canon g ∧ Reduced ((p : Int) ^ e) g ∧ g.length = f.length ∧
        PCong (p : Int) (toPoly g) (toPoly f)) gs factors ∧
      PCong ((p : Int) ^ e) (C (lc c) * (gs.map toPoly).prod) (toPoly c) := by
  have hcop' : (factors.map (red p)).Pairwise IsCoprime := by
    rw [List.pairwise_map]
    exact hcop.imp (fun h => (coprime_iff_map p _ _).mp h)
  have hcne := ne_nil_of_lc_ne_zero c (fun e => hlc (by rw [e]; exact dvd_zero _))
  have hclen := length_of_prod_cong p c hlc factors hmon hprod
  -- the given factors satisfy the invariant of the outer loop at modulus p¹
  have h0 : StageInv p c factors ((p : Int) ^ 1) factors := by
    rw [pow_one]
    refine ⟨?_, hprod.symm⟩
    rw [List.forall₂_same]
    intro f hf
    exact ⟨hmon f hf, (monic_toPoly f (hmon f hf)).2.2.2, hred f hf, rfl, PCong.refl _ _⟩
  obtain ⟨gs, hok, hinv⟩ := liftSteps_spec p hp c hlc factors hne hcop' hclen (e - 1) 1 factors (le_refl _) h0
  rw [show 1 + (e - 1) = e by omega] at hinv
  rw [pow_one] at hok
  refine ⟨gs, ?_, hinv.1.length_eq, hinv.1, hinv.2⟩
  rw [liftFactorization, degU_eq c hcne, coefAt, lc_eq_getD c hcne]
  exact hok

/-- the same with the product made monic: ∏ gᵢ ≡ c·w (mod p^e) for every inverse w of lc(c) modulo p^e -/
theorem lift_factorization_monic (p : Nat) (e : Nat) (c : List Int) (gs : List (List Int)) (w : Int)
    (hw : lc c * w ≡ 1 [ZMOD (p : Int) ^ e])
    (h : PCong ((p : Int) ^ e) (C (lc c) * (gs.map toPoly).prod) (toPoly c)) :
    PCong ((p : Int) ^ e) ((gs.map toPoly).prod) (C w * toPoly c) := by
  exact (pcong_C_mul_cancel hw _).symm.trans (PCong.mul (PCong.refl _ (C w)) h)

/-- the Rust unit test `lift_factorization_works_0`: x³ − 2 ≡ (x + 2)(x² + 3x + 4) (mod 5), e = 3:
the hypotheses of `lift_factorization_spec` hold, and the model returns (x + 72)(x² + 53x + 59) -/
example : ∃ gs, liftFactorization (5 : Nat) 3 [-2, 0, 0, 1] [[2, 1], [4, 3, 1]] = .ok gs ∧ gs.length = 2 ∧
    List.Forall₂ (fun g f => lc g = 1 ∧ Canon g ∧ Reduced (((5 : Nat) : Int) ^ 3) g ∧ g.length = f.length ∧
      PCong ((5 : Nat) : Int) (toPoly g) (toPoly f)) gs [[2, 1], [4, 3, 1]] ∧
    PCong (((5 : Nat) : Int) ^ 3) (C (lc [-2, 0, 0, 1]) * (gs.map toPoly).prod) (toPoly [-2, 0, 0, 1]) := by
  refine lift_factorization_spec 5 (by norm_num) 3 (by norm_num) [-2, 0, 0, 1] (by decide)
    [[2, 1], [4, 3, 1]] (by simp) (by decide) ?_ ?_ ?_
  · intro f hf j
    simp only [List.mem_cons, List.not_mem_nil, or_false] at hf
    rcases hf with rfl | rfl
    · exact reduced_of_mem _ (by decide) _ (by decide) j
    · exact reduced_of_mem _ (by decide) _ (by decide) j
  · simp only [List.pairwise_cons, List.mem_cons, List.not_mem_nil, or_false, forall_eq, false_imp_iff,
      implies_true, List.Pairwise.nil, and_true]
    refine ⟨toPoly [-3, -3], toPoly [3], ?_⟩
    rw [← toPoly_mul, ← toPoly_mul, ← toPoly_add, ← toPoly_one]
    exact pcong_of_sub_eq [1] (by decide)
  · rw [List.map_cons, List.map_cons, List.map_nil, List.prod_cons, List.prod_cons, List.prod_nil, mul_one,
      ← toPoly_mul, ← toPoly_polyMul]
    exact pcong_of_sub_eq [-2, -2, -1] (by decide)
example : liftFactorization 5 3 [-2, 0, 0, 1] [[2, 1], [4, 3, 1]] = .ok [[72, 1], [59, 53, 1]] := by
  decide +kernel

/-- the factors come back in the order they were given -/
example : liftFactorization 5 3 [-2, 0, 0, 1] [[4, 3, 1], [2, 1]] = .ok [[59, 53, 1], [72, 1]] := by
  decide +kernel

end NTV.C11
