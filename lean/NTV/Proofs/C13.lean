import NTV.Proofs.Lemmas.PrimeStream
import NTV.Proofs.Lemmas.PrimeWitness
import NTV.Proofs.Lemmas.RabinMonierCount
import NTV.Proofs.Lemmas.DrawUniform
import NTV.Proofs.Lemmas.ErrProb
import Mathlib.Tactic.NormNum.Prime
/-! # C13 — the Miller–Rabin test `prime::is_prime`
`isPrime n s` is the model of `prime::is_prime` reading its random bases from the stream `s` of raw
RNG chunks (`none` = the stream ran out before the test finished). Four parts:
one-sidedness (a prime is never rejected, for every history of draws; a composite has a rejecting base);
the Rabin–Monier bound on composites, in three steps — (R1) a round of the model is the textbook
strong-probable-prime test, (R2) at most (n − 1)/4 of the bases pass it, (R3) hence at most a 4^(−20)
fraction of the vectors of 20 bases is accepted; the decoder `gen_bigint_range` produces every base from
the same number of single chunks; and (R3) once more as a statement about Mathlib's uniform `PMF` on
base vectors. -/
namespace NTV.C13
open NTV.Prime

/-- n ≤ 1 is rejected without drawing anything -/
theorem le_one_rejected (n : Int) (hn : n ≤ 1) (s : NTV.Draw.Stream) : isPrime n s = some false := by
  rw [isPrime, isPrimeS, if_pos hn]
  rfl

/-- even n > 2 is rejected without drawing anything -/
theorem even_rejected (n : Int) (hn : 2 < n) (he : n % 2 = 0) (s : NTV.Draw.Stream) :
    isPrime n s = some false := by
  rw [isPrime, isPrimeS_even n hn he]; rfl

/-- one-sidedness, full: a prime is never rejected, whatever the random generator serves -/
theorem prime_never_rejected (n : Nat) (hn : n.Prime) (s : NTV.Draw.Stream) :
    isPrime (n : Int) s ≠ some false := by
  rcases hn.eq_two_or_odd with rfl | hodd
  · exact fun h => by cases h
  · have : Fact n.Prime := ⟨hn⟩
    have h2 : 2 < n := lt_of_le_of_ne hn.two_le fun h => absurd (h.symm ▸ hodd : 2 % 2 = 1) (by decide)
    rw [isPrime, isPrimeS_odd n hodd hn.one_lt, Ne, Option.map_eq_some_iff]
    rintro ⟨⟨b, rest⟩, hr, rfl⟩
    exact rounds_prime n h2 _ _ rfl 20 s rest hr

/-- consequently a `false` answer proves compositeness (or n ≤ 1) -/
theorem false_means_not_prime (n : Nat) (s : NTV.Draw.Stream) (h : isPrime (n : Int) s = some false) :
    ¬ n.Prime := fun hp => prime_never_rejected n hp s h

/-- the version with an explicit list of bases in [1, n): every round passes for a prime -/
theorem prime_passes_all_bases (n : Nat) (hn : n.Prime) (bases : List Nat)
    (hb : ∀ r ∈ bases, 1 ≤ r ∧ r < n) : isPrimeWith (n : Int) bases = true :=
  isPrimeWith_prime n hn bases hb

/-- `modpow` as used by the rounds is modular exponentiation -/
theorem modpow_spec (b e n : Nat) (hn : 0 < n) : powMod b e n = b ^ e % n := powMod_eq b e n hn

/-- composites are really rejected by some base: every proper prime divisor q of n > 2 is a base in
[1, n) whose round fails -/
theorem composite_has_witness (n q : Nat) (hn : 2 < n) (hq : q.Prime) (hqn : q ∣ n) (hlt : q < n) :
    1 ≤ q ∧ q < n ∧ mrRound n (splitTwos n (n - 1) 0).1 (splitTwos n (n - 1) 0).2 q = false :=
  witness_exists n q hn hq hqn hlt

/-- non-vacuity: 7 is prime, so the theorem applies -/
example : (7 : Nat).Prime := by norm_num

/-! ## The error bound on composites (Rabin–Monier)

A composite n is accepted only if all 20 random bases are *strong liars*; at most (n − 1)/4 of the
n − 1 possible bases are, hence at most ((n−1)/4)^20 of the (n−1)^20 equally likely base vectors are
accepted: error probability ≤ 4^(−20) under independent uniform bases. -/

/-- (R1) one round of the model with base `a` is exactly the textbook strong-probable-prime test:
`a^d ≡ 1` or `a^(d·2^i) ≡ −1 (mod n)` for some `i < c`. -/
theorem round_iff_strong_probable_prime (n d c a : Nat) (hn : 3 ≤ n) :
    mrRound n d c a = true ↔
      (a ^ d ≡ 1 [MOD n] ∨ ∃ i, i < c ∧ a ^ (d * 2 ^ i) ≡ n - 1 [MOD n]) :=
  strongLiar_iff n d c a hn

/-- the decomposition the model computes: n − 1 = d·2^c with d odd, c ≥ 1 (n odd, n > 1) -/
theorem splitTwos_correct (n : Nat) (hodd : n % 2 = 1) (hn : 1 < n) :
    Odd (splitTwos n (n - 1) 0).1 ∧ 1 ≤ (splitTwos n (n - 1) 0).2 ∧
      n - 1 = (splitTwos n (n - 1) 0).1 * 2 ^ (splitTwos n (n - 1) 0).2 :=
  splitTwos_decomp n hodd hn

/-- (R2) **Rabin–Monier bound**: for every odd composite n, at most (n − 1)/4 of the bases
1 ≤ a ≤ n − 1 pass a round of the model (the round as run by `is_prime`, with its own d, c). -/
theorem strong_liars_le_quarter (n : Nat) (hodd : n % 2 = 1) (hn : 1 < n) (hcomp : ¬ n.Prime) :
    ((Finset.Icc 1 (n - 1)).filter (fun a =>
      mrRound n (splitTwos n (n - 1) 0).1 (splitTwos n (n - 1) 0).2 a = true)).card ≤ (n - 1) / 4 :=
  NTV.Prime.strong_liars_le_quarter n hodd hn hcomp

/-- the bound is attained at n = 9: the strong liars are exactly 1 and 8, and 2 = (9 − 1)/4 -/
example : ((Finset.Icc 1 (9 - 1)).filter (fun a =>
      mrRound 9 (splitTwos 9 (9 - 1) 0).1 (splitTwos 9 (9 - 1) 0).2 a = true)) = {1, 8} := by
  decide +kernel

/-- non-vacuity of the hypotheses: 9 and 561 (a Carmichael number) are odd composites -/
example : 9 % 2 = 1 ∧ 1 < 9 ∧ ¬ (9 : Nat).Prime := by norm_num
example : 561 % 2 = 1 ∧ 1 < 561 ∧ ¬ (561 : Nat).Prime := by norm_num

/-- (R3) of the (n−1)^20 vectors of 20 bases in [1, n−1], at most ((n−1)/4)^20 make the test
(`isPrimeWith`) accept an odd composite n. -/
theorem accepting_bases_le (n : Nat) (hodd : n % 2 = 1) (hn : 1 < n) (hcomp : ¬ n.Prime) :
    ((Fintype.piFinset (fun _ : Fin 20 => Finset.Icc 1 (n - 1))).filter
      (fun f => isPrimeWith (n : Int) (List.ofFn f) = true)).card ≤ ((n - 1) / 4) ^ 20 :=
  card_accepting_le n 20 hodd hn hcomp

/-- (R3) error probability ≤ 4^(−20) for **every** composite n > 1 (even ones are rejected outright):
4^20 · #(accepted base vectors) ≤ (n−1)^20 = #(all base vectors in [1, n−1]^20). -/
theorem error_probability_le (n : Nat) (hn : 1 < n) (hcomp : ¬ n.Prime) :
    4 ^ 20 * ((Fintype.piFinset (fun _ : Fin 20 => Finset.Icc 1 (n - 1))).filter
      (fun f => isPrimeWith (n : Int) (List.ofFn f) = true)).card ≤ (n - 1) ^ 20 ∧
    (Fintype.piFinset (fun _ : Fin 20 => Finset.Icc 1 (n - 1))).card = (n - 1) ^ 20 :=
  ⟨four_pow_mul_card_accepting_le n 20 hn hcomp, card_all_bases n 20⟩

/-- the verdict of the stream-driven test is a function of the 20 bases that
`gen_bigint_range(1, n)` decodes from the stream (`drawBases n 20 s`): it is `isPrimeWith` on them.
So the distribution of the verdict is the one induced by the distribution of the decoded bases. -/
theorem verdict_from_decoded_bases (n : Int) (s : NTV.Draw.Stream) (bs : List Nat)
    (rest : NTV.Draw.Stream) (h : drawBases n 20 s = some (bs, rest)) :
    isPrime n s = some (isPrimeWith n bs) :=
  isPrime_eq_isPrimeWith n s bs rest h

/-- the decoded bases lie in [1, n − 1] -/
theorem decoded_bases_in_range (n : Int) (hn : 1 < n) (s : NTV.Draw.Stream) (bs : List Nat)
    (rest : NTV.Draw.Stream) (h : drawBases n 20 s = some (bs, rest)) :
    bs.length = 20 ∧ ∀ r ∈ bs, 1 ≤ r ∧ (r : Int) < n :=
  drawBases_bounds n hn 20 s bs rest h

/-- the clause at the level of the stream: a composite n > 1 is answered `true` only when the
vector of the 20 bases decoded from the stream falls in the set `accepting n 20` of accepted vectors
`Fin 20 → ℕ` with entries in [1, n − 1], which by `accepting_card_bound` is at most a 4^(−20) fraction
of all (n−1)^20 base vectors. -/
theorem composite_accepted_only_on_liar_vectors (n : Nat) (hn : 1 < n) (hcomp : ¬ n.Prime)
    (s : NTV.Draw.Stream) (h : isPrime (n : Int) s = some true) :
    ∃ f ∈ accepting n 20, ∃ rest, drawBases (n : Int) 20 s = some (List.ofFn f, rest) := by
  rcases Nat.mod_two_eq_zero_or_one n with he | hodd
  · have h2 : n ≠ 2 := by rintro rfl; exact hcomp Nat.prime_two
    have hn2 : 2 < n := lt_of_le_of_ne hn (Ne.symm h2)
    rw [isPrime, isPrimeS_even (n : Int) (by exact_mod_cast hn2) (by exact_mod_cast he)] at h
    cases h
  · have hroll := h
    rw [isPrime, isPrimeS_odd n hodd hn, Option.map_eq_some_iff] at hroll
    obtain ⟨⟨b, rest⟩, hroll, rfl⟩ := hroll
    obtain ⟨bs, hbs⟩ := drawBases_of_roundsS_true n _ _ 20 s rest hroll
    obtain ⟨hl, hb⟩ := drawBases_bounds (n : Int) (by exact_mod_cast hn) 20 s bs rest hbs
    have hv := isPrime_eq_isPrimeWith (n : Int) s bs rest hbs
    rw [h] at hv
    have hv' : isPrimeWith (n : Int) bs = true := (Option.some.inj hv).symm
    obtain ⟨f, rfl⟩ : ∃ f : Fin 20 → Nat, List.ofFn f = bs := hl ▸ ⟨bs.get, List.ofFn_get bs⟩
    refine ⟨f, ?_, rest, hbs⟩
    simp only [accepting, Finset.mem_filter, Fintype.mem_piFinset, Finset.mem_Icc]
    refine ⟨fun i => ?_, hv'⟩
    have := hb (f i) (List.mem_ofFn.mpr ⟨i, rfl⟩)
    exact ⟨this.1, Nat.le_sub_one_of_lt (by exact_mod_cast this.2)⟩

/-- the first half of `error_probability_le` with the filter named `accepting n 20` -/
theorem accepting_card_bound (n : Nat) (hn : 1 < n) (hcomp : ¬ n.Prime) :
    4 ^ 20 * (accepting n 20).card ≤ (n - 1) ^ 20 :=
  four_pow_mul_card_accepting_le n 20 hn hcomp

/-! ### the bases are uniform when the RNG bytes are

`gen_bigint_range(1, n)` reads chunks of 4·len bytes (len = number of u32 digits of n − 1) and
rejects a chunk when the decoded value is ≥ n − 1. The decoder is *balanced*: every base
r ∈ [1, n − 1] is produced by exactly the same number 2^(32·len − bits) of the 256^(4·len)
well-formed chunks. Hence, if the RNG serves independent uniform bytes, each drawn base is uniform on
[1, n − 1] and the 20 bases are independent — the hypothesis under which `error_probability_le`
reads "probability ≤ 4^(−20)". (Counting statements about single chunks only: the retry after a
rejected chunk and a measure over byte streams are not stated.) -/

/-- every base r ∈ [1, n−1] is decoded from exactly 2^(32·len − bits) well-formed chunks -/
theorem base_draw_uniform (n r : Int) (hr : 1 ≤ r ∧ r < n) :
    ((NTV.Draw.chunks (NTV.Draw.lenOf (NTV.Draw.bitLen (n - 1).toNat))).filter
        (fun c => NTV.Draw.range 1 n [c] = some (r, []))).card =
      2 ^ (32 * NTV.Draw.lenOf (NTV.Draw.bitLen (n - 1).toNat) - NTV.Draw.bitLen (n - 1).toNat) :=
  NTV.Draw.range_fibre_card 1 n r hr

/-- the well-formed chunks are exactly the byte strings of the length the decoder expects -/
theorem chunks_spec (len : Nat) (c : List Nat) :
    c ∈ NTV.Draw.chunks len ↔ c.length = 4 * len ∧ ∀ b ∈ c, b < 256 := by
  unfold NTV.Draw.chunks
  simp only [Finset.mem_image, Finset.mem_range]
  constructor
  · rintro ⟨N, _, rfl⟩
    exact ⟨NTV.Draw.bytesOf_length len N, NTV.Draw.bytesOf_lt len N⟩
  · rintro ⟨hl, hb⟩
    obtain ⟨h1, h2⟩ := NTV.Draw.bytesOf_valueOf len c hl hb
    exact ⟨NTV.Draw.valueOf c, h2, h1⟩

example : NTV.Draw.range 1 10 [[0, 0, 0, 0xF0], [0, 0, 0, 80]] = some (6, []) := by decide +kernel

/-! ### the error bound as a probability (Mathlib `PMF`)

`PMF.uniformOfFinset` on the (non-empty, since n > 1) finite set [1, n−1]^20 of base vectors is the
distribution of 20 independent bases each uniform on [1, n − 1] (`uniform_bases_is_product`). Under it the
event "the test accepts n" has probability ≤ (1/4)^20 for every composite n > 1. The measure is on
base vectors only, not on byte streams. -/

open scoped ENNReal in
/-- (R3, measure form) **error probability ≤ 4^(−20)**: for every composite n > 1, under the uniform
distribution on base vectors in [1, n−1]^20, the set of vectors on which `isPrimeWith` answers `true`
has (outer) measure at most (1/4)^20. -/
theorem error_probability_measure (n : Nat) (hn : 1 < n) (hcomp : ¬ n.Prime) :
    (PMF.uniformOfFinset (Fintype.piFinset (fun _ : Fin 20 => Finset.Icc 1 (n - 1)))
        (NTV.Prime.baseVectors_nonempty n 20 hn)).toOuterMeasure
      {f | isPrimeWith (n : Int) (List.ofFn f) = true} ≤ (1 / 4 : ℝ≥0∞) ^ 20 :=
  uniformBases_accept_le n 20 hn hcomp

open scoped ENNReal in
/-- the same with the measure `PMF.toMeasure` on the (discrete) measurable space `Fin 20 → ℕ` -/
theorem error_probability_toMeasure (n : Nat) (hn : 1 < n) (hcomp : ¬ n.Prime) :
    (PMF.uniformOfFinset (Fintype.piFinset (fun _ : Fin 20 => Finset.Icc 1 (n - 1)))
        (NTV.Prime.baseVectors_nonempty n 20 hn)).toMeasure
      {f | isPrimeWith (n : Int) (List.ofFn f) = true} ≤ (1 / 4 : ℝ≥0∞) ^ 20 := by
  rw [PMF.toMeasure_apply_eq_toOuterMeasure_apply _ (MeasurableSet.of_discrete)]
  exact uniformBases_accept_le n 20 hn hcomp

/-- product form: the uniform mass function on [1, n−1]^20 is the product of 20 uniform mass functions
on [1, n−1] — the 20 bases are independent and each uniform on [1, n − 1]. -/
theorem uniform_bases_is_product (n : Nat) (hn : 1 < n) (f : Fin 20 → Nat) :
    PMF.uniformOfFinset (Fintype.piFinset (fun _ : Fin 20 => Finset.Icc 1 (n - 1)))
        (NTV.Prime.baseVectors_nonempty n 20 hn) f =
      ∏ i : Fin 20, PMF.uniformOfFinset (Finset.Icc 1 (n - 1)) (NTV.Prime.icc_nonempty n hn) (f i) :=
  uniformBases_apply_eq_prod n 20 hn f

/-- non-vacuity: the hypotheses hold for n = 9 and n = 561, and the event is not empty for n = 9
(the all-ones vector is accepted), so the bound is about a genuinely positive probability. -/
example : 1 < 9 ∧ ¬ (9 : Nat).Prime ∧ 1 < 561 ∧ ¬ (561 : Nat).Prime := by norm_num
example : isPrimeWith 9 (List.ofFn (fun _ : Fin 20 => 1)) = true := by decide +kernel

end NTV.C13
