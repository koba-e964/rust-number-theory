import NTV.Proofs.Lemmas.AlgLaws
import NTV.Proofs.Lemmas.TableProofs2
import NTV.Proofs.Lemmas.NormResFinal
/-! # C14 — arithmetic in ℚ[x]/(f): property theorems about the model `NTV.Alg`

`f : List Int` is the minimal polynomial (`Canon f`: non-zero leading coefficient; `2 ≤ f.length`:
degree n ≥ 1; any leading coefficient, monic or not), `modulus f : ℚ[X]` its image in ℚ[X];
`Reduced f a`: the stored expression `a : List Rat` is canonical (no trailing zero) of degree < n.
`toPoly` is the abstraction map to Mathlib polynomials. Helper lemmas are in
`NTV.Proofs.Lemmas.AlgProofs` (the loop invariants of `mul_with_mod`) and `NTV.Proofs.Lemmas.AlgLaws`. -/
open Polynomial
namespace NTV.C14
open NTV.Alg
open NTV.PolyG (Canon toPoly toPoly_add toPoly_sub)

/-- the product's representative is the remainder of the polynomial product modulo f, canonical, of
degree < n; no assertion fires on reduced operands -/
theorem product_is_remainder (f : List Int) (hf : Canon f) (hn : 2 ≤ f.length) (a b : List Rat)
    (ha : Reduced f a) (hb : Reduced f b) :
    ∃ r, mul f a b = .ok r ∧ toPoly r = (toPoly a * toPoly b) % modulus f ∧ Reduced f r := by
  obtain ⟨r, h1, h2, h3⟩ := mul_ok f hf hn a b ha hb
  exact ⟨r, h1, h3, h2⟩

/-- sums and differences are the polynomial sums and differences and stay reduced -/
theorem sum_and_difference (f : List Int) (a b : List Rat) (ha : Reduced f a) (hb : Reduced f b) :
    toPoly (add a b) = toPoly a + toPoly b ∧ Reduced f (add a b) ∧
    toPoly (sub a b) = toPoly a - toPoly b ∧ Reduced f (sub a b) :=
  ⟨toPoly_add a b, reduced_add f a b ha hb, toPoly_sub a b, reduced_sub f a b ha hb⟩

/-- multiplication is commutative (equality of the stored lists) -/
theorem mul_comm (f : List Int) (hf : Canon f) (hn : 2 ≤ f.length) (a b : List Rat)
    (ha : Reduced f a) (hb : Reduced f b) : mul f a b = mul f b a := by
  obtain ⟨r, h1, hr, hc⟩ := mul_cls f hf hn a b ha hb
  rw [h1, mul_eq_of_cls f hf hn b a r hb ha hr (by rw [hc, _root_.mul_comm])]

/-- multiplication is associative: both bracketings succeed with the same stored list -/
theorem mul_assoc (f : List Int) (hf : Canon f) (hn : 2 ≤ f.length) (a b c : List Rat)
    (ha : Reduced f a) (hb : Reduced f b) (hc : Reduced f c) :
    ∃ ab bc r, mul f a b = .ok ab ∧ mul f b c = .ok bc ∧ mul f ab c = .ok r ∧ mul f a bc = .ok r := by
  obtain ⟨ab, h1, hab, c1⟩ := mul_cls f hf hn a b ha hb
  obtain ⟨bc, h2, hbc, c2⟩ := mul_cls f hf hn b c hb hc
  obtain ⟨r, h3, hr, c3⟩ := mul_cls f hf hn ab c hab hc
  exact ⟨ab, bc, r, h1, h2, h3,
    mul_eq_of_cls f hf hn a bc r ha hbc hr (by rw [c3, c1, c2, _root_.mul_assoc])⟩

/-- multiplication distributes over addition -/
theorem left_distrib (f : List Int) (hf : Canon f) (hn : 2 ≤ f.length) (a b c : List Rat)
    (ha : Reduced f a) (hb : Reduced f b) (hc : Reduced f c) :
    ∃ ab ac, mul f a b = .ok ab ∧ mul f a c = .ok ac ∧ mul f a (add b c) = .ok (add ab ac) := by
  obtain ⟨ab, h1, hab, c1⟩ := mul_cls f hf hn a b ha hb
  obtain ⟨ac, h2, hac, c2⟩ := mul_cls f hf hn a c ha hc
  have e1 : toPoly (add b c) = toPoly b + toPoly c := toPoly_add b c
  have e2 : toPoly (add ab ac) = toPoly ab + toPoly ac := toPoly_add ab ac
  exact ⟨ab, ac, h1, h2, mul_eq_of_cls f hf hn a (add b c) _ ha (reduced_add f b c hb hc)
    (reduced_add f ab ac hab hac) (by rw [e1, e2, RingHom.map_add, RingHom.map_add, c1, c2, mul_add])⟩

/-- 1 is neutral and 0 absorbing -/
theorem one_and_zero (f : List Int) (hf : Canon f) (hn : 2 ≤ f.length) (a : List Rat) (ha : Reduced f a) :
    mul f a [1] = .ok a ∧ mul f [1] a = .ok a ∧ mul f a [] = .ok [] ∧ mul f [] a = .ok [] := by
  have h1 : mul f a [1] = .ok a :=
    mul_eq_of_cls f hf hn a [1] a ha (reduced_one f hn) ha
      (by simp only [toPoly, map_one, mul_zero, add_zero, mul_one])
  refine ⟨h1, by rw [← mul_comm f hf hn a [1] ha (reduced_one f hn)]; exact h1, ?_, ?_⟩
  · cases a <;> rfl
  · rfl

/-- binary exponentiation computes the power: the representative of `a^e` is the remainder of the
polynomial power (in particular no assertion fires on the way) -/
theorem power_is_remainder (f : List Int) (hf : Canon f) (hn : 2 ≤ f.length) (a : List Rat)
    (ha : Reduced f a) (e : Nat) :
    ∃ r, pow f a e = .ok r ∧ toPoly r = (toPoly a ^ e) % modulus f ∧ Reduced f r := by
  obtain ⟨r, h1, hr, c⟩ := pow_cls f hf hn a ha e
  refine ⟨r, h1, ?_, hr⟩
  rw [← mod_self_of_reduced f hf hn r hr]
  apply mod_eq_of_dvd_sub
  rw [← cls_eq_iff, c, map_pow]

/-- a^(s+t) = a^s · a^t, as an equality of the stored lists -/
theorem pow_add (f : List Int) (hf : Canon f) (hn : 2 ≤ f.length) (a : List Rat) (ha : Reduced f a)
    (s t : Nat) :
    ∃ rs rt r, pow f a s = .ok rs ∧ pow f a t = .ok rt ∧ pow f a (s + t) = .ok r ∧ mul f rs rt = .ok r := by
  obtain ⟨rs, h1, hrs, c1⟩ := pow_cls f hf hn a ha s
  obtain ⟨rt, h2, hrt, c2⟩ := pow_cls f hf hn a ha t
  obtain ⟨r, h3, hr, c3⟩ := pow_cls f hf hn a ha (s + t)
  exact ⟨rs, rt, r, h1, h2, h3, mul_eq_of_cls f hf hn rs rt r hrs hrt hr (by rw [c1, c2, c3, _root_.pow_add])⟩

/-- (a b)^s = a^s b^s -/
theorem mul_pow (f : List Int) (hf : Canon f) (hn : 2 ≤ f.length) (a b : List Rat)
    (ha : Reduced f a) (hb : Reduced f b) (s : Nat) :
    ∃ ab as bs r, mul f a b = .ok ab ∧ pow f a s = .ok as ∧ pow f b s = .ok bs ∧
      pow f ab s = .ok r ∧ mul f as bs = .ok r := by
  obtain ⟨ab, h0, hab, c0⟩ := mul_cls f hf hn a b ha hb
  obtain ⟨as, h1, has, c1⟩ := pow_cls f hf hn a ha s
  obtain ⟨bs, h2, hbs, c2⟩ := pow_cls f hf hn b hb s
  obtain ⟨r, h3, hr, c3⟩ := pow_cls f hf hn ab hab s
  exact ⟨ab, as, bs, r, h0, h1, h2, h3,
    mul_eq_of_cls f hf hn as bs r has hbs hr (by rw [c1, c2, c3, c0, _root_.mul_pow])⟩

end NTV.C14

/-! ## C14, second sentence — the multiplication table of an order (`order.rs`, `mult_table.rs`)

An order is given by its basis matrix `basis : QMat`: `n` rows of `n` rationals, the coordinates of
ω_0, …, ω_{n−1} in the power basis 1, θ, …, θ^{n−1} of ℚ[x]/(f), `n = deg f ≥ 1`, non-singular
(`toM n n basis` is the Mathlib matrix). `NTV.Ord.omega basis i = fromRaw (row i)` is ω_i as an element
of `NTV.Alg` (this is `create_num`); `NTV.Ord.elt basis a` is the element `Σ_i a_i ω_i` for an integer
coordinate vector `a` and `NTV.Ord.comb basis x` the same for rational coordinates (both canonical
expressions of degree < n: `Setup.reduced_comb`, `elt_degree_lt`; their coefficients: `elt_coef`). `NTV.Ord.IsTable f basis n t` says that `t` is `n × n × n` and that
`ω_i ⋆ ω_j = Σ_k t[i][j][k] · ω_k`; `NTV.Ord.Closed f basis n` that every product `ω_i ⋆ ω_j` is an
integral combination of the ω_k. Helper lemmas: `NTV.Proofs.Lemmas.TableAbs` (the algebra in the quotient
ring), `TableProofs`, `TableProofs2` (the list-level models).
The labels number the clauses of the sentence: (1) the table is integral (1a: its entries; 1b: when it exists), (2) `mul` agrees with
ℚ[x]/(f), (3) trace and norm (3a the regular matrix, 3b trace and determinant, 3c additivity, 3d multiplicativity, 3e/3e′ the
resultant), (4) `inv` (4′: when it applies). -/
namespace NTV.C14
open NTV.Ord NTV.Alg Matrix
open NTV.RowOps (toM Rect ent)
open NTV.PolyG (Canon coefAt fromRaw)

theorem elt_coef (basis : QMat) (a : List Int) (c : Nat) (hc : c < basis.length) :
    coefAt (elt basis a) c = ∑ i ∈ Finset.range basis.length, ((a.getD i 0 : Int) : Rat) * ent basis i c :=
  elt_getD basis a c hc

/-- **(1a)** the table returned by `get_mult_table` is `n × n × n` and its entries are the (integral)
coordinates of the products of the basis vectors: `ω_i ⋆ ω_j = Σ_k t[i][j][k] · ω_k` -/
theorem table_entries (f : List Int) (basis : QMat) (n : Nat) (hf : Canon f) (hlen : f.length = n + 1)
    (hn : 1 ≤ n) (hr : Rect n n basis) (hdet : (toM n n basis).det ≠ 0) (t : Table)
    (h : getMultTable basis f = .ok t) : IsTable f basis n t := by
  have S : Setup f basis n := ⟨hf, hlen, hn, hr, hdet⟩
  by_cases hall : AllInt f basis n
  · rw [S.getMultTable_ok hall] at h
    injection h with h
    subst h
    exact S.isTable_tableOf hall
  · rw [S.getMultTable_err hall] at h
    cases h

/-- **(1b)** `get_mult_table` succeeds exactly when the ℤ-span of the basis is closed under
multiplication; otherwise the integrality assertion fires (and nothing else can happen) -/
theorem table_exists_iff_closed (f : List Int) (basis : QMat) (n : Nat) (hf : Canon f)
    (hlen : f.length = n + 1) (hn : 1 ≤ n) (hr : Rect n n basis) (hdet : (toM n n basis).det ≠ 0) :
    (Closed f basis n → ∃ t, getMultTable basis f = .ok t) ∧
    (¬ Closed f basis n → getMultTable basis f = .error "panic assert") := by
  have S : Setup f basis n := ⟨hf, hlen, hn, hr, hdet⟩
  rw [S.closed_iff]
  exact ⟨fun h => ⟨_, S.getMultTable_ok h⟩, S.getMultTable_err⟩

/-- **(2)** `MultTable::mul` agrees with the arithmetic of ℚ[x]/(f) on coordinate vectors:
`(Σ a_i ω_i) ⋆ (Σ b_j ω_j) = Σ c_k ω_k` for the returned `c` -/
theorem tmul_agrees (f : List Int) (basis : QMat) (n : Nat) (hf : Canon f) (hlen : f.length = n + 1)
    (hn : 1 ≤ n) (hr : Rect n n basis) (hdet : (toM n n basis).det ≠ 0) (t : Table)
    (ht : IsTable f basis n t) (a b : List Int) (ha : a.length = n) (hb : b.length = n) :
    ∃ c, tmul t a b = .ok c ∧ c.length = n ∧ mul f (elt basis a) (elt basis b) = .ok (elt basis c) := by
  have S : Setup f basis n := ⟨hf, hlen, hn, hr, hdet⟩
  refine ⟨tmulList t n a b, tmul_eq t a b ht.1 ha hb, length_tmulList t a b, ?_⟩
  apply S.mul_comb
  rw [vecQ_map_cast, vecQ_map_cast, vecQ_map_cast, vecZ_tmulList]
  exact (S.ctx t ht).mul_agrees _ _

/-- **(3a)** `regular t a` (the matrix built by `norm` and `inv`) is the matrix of the multiplication by
`a` in the basis ω, for row vectors: `a ⋆ (Σ x_j ω_j) = Σ y_k ω_k` whenever `y = x ᵥ* regular t a`
(for all rational coordinate vectors `x`) -/
theorem regular_is_mult_matrix (f : List Int) (basis : QMat) (n : Nat) (hf : Canon f)
    (hlen : f.length = n + 1) (hn : 1 ≤ n) (hr : Rect n n basis) (hdet : (toM n n basis).det ≠ 0)
    (t : Table) (ht : IsTable f basis n t) (a : List Int) (x y : List Rat)
    (hy : (fun k : Fin n => y.getD k 0) = (fun j : Fin n => x.getD j 0) ᵥ* toM n n (regular t a)) :
    Rect n n (regular t a) ∧ mul f (elt basis a) (comb basis x) = .ok (comb basis y) := by
  have S : Setup f basis n := ⟨hf, hlen, hn, hr, hdet⟩
  refine ⟨regular_rect t a ht.1, ?_⟩
  apply S.mul_comb
  rw [vecQ_map_cast]
  rw [toM_regular t a ht.1] at hy
  show _ = NTV.TableAbs.psi _ _ (fun k : Fin n => y.getD k 0)
  rw [hy]
  exact (S.ctx t ht).reg_is_mult _ _

/-- **(3b)** `MultTable::trace` and `MultTable::norm` return the trace and the determinant of that
matrix (the truncation `to_integer` in `norm` is exact) -/
theorem trace_norm (f : List Int) (basis : QMat) (n : Nat) (hf : Canon f) (hlen : f.length = n + 1)
    (hn : 1 ≤ n) (hr : Rect n n basis) (hdet : (toM n n basis).det ≠ 0) (t : Table)
    (ht : IsTable f basis n t) (a : List Int) (ha : a.length = n) :
    ∃ tr nm : Int, ttrace t a = .ok tr ∧ tnorm t a = .ok nm ∧
      ((tr : Int) : Rat) = Matrix.trace (toM n n (regular t a)) ∧
      ((nm : Int) : Rat) = Matrix.det (toM n n (regular t a)) := by
  have S : Setup f basis n := ⟨hf, hlen, hn, hr, hdet⟩
  refine ⟨_, _, ttrace_eq t a ht.1 ha.ge, tnorm_eq t a ht.1 ha.ge, ?_, ?_⟩
  · rw [(S.ctx t ht).trace_eq, toM_regular t a ht.1]
    simp only [Matrix.trace, diag_apply, Int.cast_sum, NTV.TableAbs.castM, map_apply]
  · rw [toM_regular t a ht.1, NTV.TableAbs.det_castM]

/-- **(3c)** the trace is additive -/
theorem trace_additive (t : Table) (n : Nat) (ht : t.length = n) (a b : List Int) (ha : a.length = n)
    (hb : b.length = n) :
    ∃ ta tb : Int, ttrace t a = .ok ta ∧ ttrace t b = .ok tb ∧
      ttrace t (List.zipWith (· + ·) a b) = .ok (ta + tb) := by
  refine ⟨_, _, ttrace_eq t a ht ha.ge, ttrace_eq t b ht hb.ge, ?_⟩
  rw [ttrace_eq t _ ht (by rw [List.length_zipWith, ha, hb, min_self])]
  have hv : ∀ i : Fin n, vecZ (List.zipWith (· + ·) a b) n i = vecZ a n i + vecZ b n i := fun i => by
    have h1 : (i : Nat) < a.length := by rw [ha]; exact i.2
    have h2 : (i : Nat) < b.length := by rw [hb]; exact i.2
    simp only [vecZ, List.getD_eq_getElem?_getD, List.getElem?_zipWith, List.getElem?_eq_getElem h1,
      List.getElem?_eq_getElem h2, Option.getD_some]
  simp only [hv, add_mul, Finset.sum_add_distrib]

/-- **(3d)** the norm is multiplicative: `norm (a ⋆ b) = norm a · norm b` -/
theorem norm_multiplicative (f : List Int) (basis : QMat) (n : Nat) (hf : Canon f)
    (hlen : f.length = n + 1) (hn : 1 ≤ n) (hr : Rect n n basis) (hdet : (toM n n basis).det ≠ 0)
    (t : Table) (ht : IsTable f basis n t) (a b : List Int) (ha : a.length = n) (hb : b.length = n) :
    ∃ (c : List Int) (na nb : Int), tmul t a b = .ok c ∧ tnorm t a = .ok na ∧ tnorm t b = .ok nb ∧
      tnorm t c = .ok (na * nb) := by
  have S : Setup f basis n := ⟨hf, hlen, hn, hr, hdet⟩
  refine ⟨tmulList t n a b, _, _, tmul_eq t a b ht.1 ha hb, tnorm_eq t a ht.1 ha.ge,
    tnorm_eq t b ht.1 hb.ge, ?_⟩
  rw [tnorm_eq t _ ht.1 (length_tmulList t a b).ge, vecZ_tmulList, (S.ctx t ht).det_mul]

/-- **(4)** `MultTable::inv`. The routine reads row 0 of the inverse matrix, which is the coordinate
vector of the inverse because `ω_0 = 1` (hypothesis `h0`: the first basis row is `1, 0, …, 0`, as for
every HNF basis of an order). For `a` of non-zero norm it returns `(b, d)` with `d = |norm a|` and
`a ⋆ b = d`, both through the table (`d·ω_0`) and in ℚ[x]/(f) (the constant `d`); the truncations
`to_integer` are exact (this is part of the statement: `b` is integral and `a ⋆ b = d` exactly). -/
theorem tinv_spec (f : List Int) (basis : QMat) (n : Nat) (hf : Canon f) (hlen : f.length = n + 1)
    (hn : 1 ≤ n) (hr : Rect n n basis) (hdet : (toM n n basis).det ≠ 0) (t : Table)
    (ht : IsTable f basis n t) (h0 : basis.getD 0 [] = 1 :: List.replicate (n - 1) 0)
    (a : List Int) (ha : a.length = n) (nm : Int) (hnm : tnorm t a = .ok nm) (hne : nm ≠ 0) :
    ∃ b : List Int, tinv t a = .ok (b, (nm.natAbs : Int)) ∧ b.length = n ∧
      tmul t a b = .ok ((nm.natAbs : Int) :: List.replicate (n - 1) 0) ∧
      mul f (elt basis a) (elt basis b) = .ok [(((nm.natAbs : Int) : Int) : Rat)] := by
  have S : Setup f basis n := ⟨hf, hlen, hn, hr, hdet⟩
  rw [tnorm_eq t a ht.1 ha.ge] at hnm
  injection hnm with hnm
  subst hnm
  obtain ⟨Minv, hM, hinv⟩ := tinv_eq t a ht.1 ha.ge hn hne
  generalize hd : ((NTV.TableAbs.reg (tabT t n) (vecZ a n)).det.natAbs : Int) = d at hinv ⊢
  have hd0 : d ≠ 0 := hd ▸ Int.natCast_ne_zero.mpr (Int.natAbs_ne_zero.mpr hne)
  have C := S.ctx t ht
  set i0 : Fin n := ⟨0, by omega⟩ with hi0
  have hΩ : omegaK f basis n i0 = 1 := by
    unfold omegaK
    show cls f (NTV.PolyG.toPoly (basis.getD 0 [])) = 1
    rw [h0, toPoly_unit_row, C_1, RingHom.map_one]
  generalize hb : (List.range n).map (fun i => toInteger (ent Minv 0 i * ((d : Int) : Rat))) = b at hinv
  have hbl : b.length = n := by rw [← hb, List.length_map, List.length_range]
  -- the truncations are exact: `Minv · d` is the adjugate up to sign
  have hbk : NTV.TableAbs.castV (vecZ b n) = ((d : Int) : ℚ) • (toM n n Minv i0) := by
    funext k
    have hval := NTV.TableAbs.left_inv_mul_natAbs_det _ _ hM i0 k
    rw [hd] at hval
    show ((b.getD k 0 : ℤ) : ℚ) = _ * toM n n Minv i0 k
    rw [← hb, getD_map_range n _ _ k k.2, show ent Minv 0 k = toM n n Minv i0 k from rfl, hval,
      toInteger_intCast, ← hval, _root_.mul_comm]
  have hprod : NTV.TableAbs.psi (qK f) (omegaK f basis n) (NTV.TableAbs.castV (vecZ a n)) * NTV.TableAbs.psi (qK f) (omegaK f basis n) (NTV.TableAbs.castV (vecZ b n))
      = qK f ((d : Int) : ℚ) := by
    rw [hbk, NTV.TableAbs.psi_smul, mul_left_comm, C.inv_row (vecZ a n) (toM n n Minv) hM i0 hΩ, mul_one]
  have hunit : NTV.TableAbs.psi (qK f) (omegaK f basis n) (NTV.TableAbs.castV (vecZ (d :: List.replicate (n - 1) 0) n))
      = qK f ((d : Int) : ℚ) := by
    rw [castV_unit hn d, NTV.TableAbs.psi_smul, NTV.TableAbs.psi_single, hΩ, mul_one]
  refine ⟨b, hinv, hbl, ?_, ?_⟩
  · rw [tmul_eq t a b ht.1 ha hbl]
    congr 1
    apply list_eq_of_vecZ (n := n) _ _ (length_tmulList t a b)
      (by rw [List.length_cons, List.length_replicate]; omega)
    rw [vecZ_tmulList]
    apply castV_inj
    apply C.inj
    rw [← C.mul_agrees, hprod, hunit]
  · have hred : Reduced f [((d : Int) : Rat)] := by
      refine ⟨?_, by rw [S.len, List.length_singleton, Nat.add_sub_cancel]; exact hn⟩
      intro _
      rw [List.getLast_singleton]
      exact Int.cast_ne_zero.mpr hd0
    refine S.mul_comb_of_cls _ _ _ hred ?_
    rw [vecQ_map_cast, vecQ_map_cast, hprod]
    simp only [qK, map_intCast, NTV.PolyG.toPoly, mul_zero, add_zero]

/-- **(4′)** when `f` is irreducible over ℚ (ℚ[x]/(f) is a field) every non-zero `a` has a non-zero
norm, so `inv` succeeds for every non-zero `a` -/
theorem norm_ne_zero_of_irreducible (f : List Int) (basis : QMat) (n : Nat) (hf : Canon f)
    (hlen : f.length = n + 1) (hn : 1 ≤ n) (hr : Rect n n basis) (hdet : (toM n n basis).det ≠ 0)
    (t : Table) (ht : IsTable f basis n t) (hirr : Irreducible (modulus f))
    (a : List Int) (ha : a.length = n) (hne : ∃ i < n, a.getD i 0 ≠ 0) :
    ∃ nm : Int, tnorm t a = .ok nm ∧ nm ≠ 0 := by
  have S : Setup f basis n := ⟨hf, hlen, hn, hr, hdet⟩
  have := noZeroDivisors_of_irreducible hirr
  refine ⟨_, tnorm_eq t a ht.1 ha.ge, ?_⟩
  apply (S.ctx t ht).det_ne_zero
  intro h
  obtain ⟨i, hi, hai⟩ := hne
  exact hai (congrFun h ⟨i, hi⟩)

/-! ### non-vacuity: ℤ[i], a non-closed lattice, and the maximal order of Dedekind's cubic field -/

/-- ℤ[i]: `f = x² + 1`, basis 1, θ -/
theorem gauss_table :
    getMultTable [[1, 0], [0, 1]] [1, 0, 1] = .ok [[[1, 0], [0, 1]], [[0, 1], [-1, 0]]] := by
  decide +kernel

example : getMultTable [[1, 0], [0, 1]] [1, 0, 1] = .ok [[[1, 0], [0, 1]], [[0, 1], [-1, 0]]] :=
  gauss_table

/-- the lattice ℤ + ℤ·θ/2 is not closed under multiplication -/
example : getMultTable [[1, 0], [0, 1/2]] [1, 0, 1] = .error "panic assert" := by decide +kernel

theorem gauss_canon : Canon ([1, 0, 1] : List Int) := fun _ => one_ne_zero

theorem gauss_rect : Rect 2 2 ([[1, 0], [0, 1]] : QMat) := ⟨rfl, by decide⟩

theorem gauss_det : (toM 2 2 ([[1, 0], [0, 1]] : QMat)).det ≠ 0 := by
  rw [det_of_determinant gauss_rect (v := 1) (by decide +kernel)]
  exact one_ne_zero

theorem gauss_isTable : IsTable [1, 0, 1] [[1, 0], [0, 1]] 2 [[[1, 0], [0, 1]], [[0, 1], [-1, 0]]] :=
  table_entries [1, 0, 1] [[1, 0], [0, 1]] 2 gauss_canon rfl (by norm_num) gauss_rect gauss_det _
    gauss_table

example : tmul [[[1, 0], [0, 1]], [[0, 1], [-1, 0]]] [2, 3] [4, 1] = .ok [5, 14] := by decide +kernel
theorem gauss_tnorm : tnorm [[[1, 0], [0, 1]], [[0, 1], [-1, 0]]] [2, 3] = .ok 13 := by decide +kernel

example : tnorm [[[1, 0], [0, 1]], [[0, 1], [-1, 0]]] [2, 3] = .ok 13 := gauss_tnorm
example : ttrace [[[1, 0], [0, 1]], [[0, 1], [-1, 0]]] [2, 3] = .ok 4 := by decide +kernel
example : tinv [[[1, 0], [0, 1]], [[0, 1], [-1, 0]]] [2, 3] = .ok ([2, -3], 13) := by decide +kernel

/-- the hypotheses of `tinv_spec` are satisfiable (2 + 3i in ℤ[i]) -/
example : ∃ b : List Int, tinv [[[1, 0], [0, 1]], [[0, 1], [-1, 0]]] [2, 3] = .ok (b, 13) ∧ b.length = 2 ∧
    tmul [[[1, 0], [0, 1]], [[0, 1], [-1, 0]]] [2, 3] b = .ok [13, 0] ∧
    mul [1, 0, 1] (elt [[1, 0], [0, 1]] [2, 3]) (elt [[1, 0], [0, 1]] b) = .ok [13] :=
  tinv_spec [1, 0, 1] [[1, 0], [0, 1]] 2 gauss_canon rfl (by norm_num) gauss_rect gauss_det _
    gauss_isTable rfl [2, 3] rfl 13 gauss_tnorm (by norm_num)

/-- the maximal order of Dedekind's cubic field: `f = x³ − x² − 2x − 8`, basis 1, θ, (θ + θ²)/2 -/
theorem dedekind_table : getMultTable [[1, 0, 0], [0, 1, 0], [0, 1/2, 1/2]] [-8, -2, -1, 1] =
    .ok [[[1, 0, 0], [0, 1, 0], [0, 0, 1]], [[0, 1, 0], [0, -1, 2], [4, 0, 2]],
      [[0, 0, 1], [4, 0, 2], [6, 2, 3]]] := by decide +kernel

example : getMultTable [[1, 0, 0], [0, 1, 0], [0, 1/2, 1/2]] [-8, -2, -1, 1] =
    .ok [[[1, 0, 0], [0, 1, 0], [0, 0, 1]], [[0, 1, 0], [0, -1, 2], [4, 0, 2]],
      [[0, 0, 1], [4, 0, 2], [6, 2, 3]]] := dedekind_table

theorem dedekind_rect : Rect 3 3 ([[1, 0, 0], [0, 1, 0], [0, 1/2, 1/2]] : QMat) := ⟨rfl, by decide⟩

theorem dedekind_det : (toM 3 3 ([[1, 0, 0], [0, 1, 0], [0, 1/2, 1/2]] : QMat)).det ≠ 0 := by
  rw [det_of_determinant dedekind_rect (v := 1/2) (by decide +kernel)]
  norm_num

theorem dedekind_isTable : IsTable [-8, -2, -1, 1] [[1, 0, 0], [0, 1, 0], [0, 1/2, 1/2]] 3
    [[[1, 0, 0], [0, 1, 0], [0, 0, 1]], [[0, 1, 0], [0, -1, 2], [4, 0, 2]], [[0, 0, 1], [4, 0, 2], [6, 2, 3]]] :=
  table_entries [-8, -2, -1, 1] [[1, 0, 0], [0, 1, 0], [0, 1/2, 1/2]] 3 (fun _ => one_ne_zero) rfl (by norm_num)
    dedekind_rect dedekind_det _ dedekind_table

example : tinv [[[1, 0, 0], [0, 1, 0], [0, 0, 1]], [[0, 1, 0], [0, -1, 2], [4, 0, 2]],
    [[0, 0, 1], [4, 0, 2], [6, 2, 3]]] [1, 2, 3] = .ok ([-74, -10, 23], 404) := by decide +kernel

end NTV.C14

/-! ## C14 — the norm is the determinant of the multiplication-by-a map: `N(g(θ)) = Res(f, g) / lc(f)^{deg g}`

`G = toPoly (elt basis a)` is the polynomial of degree < n representing `Σ_i a_i ω_i` in the power basis
(its coefficients are given by `elt_coef`), `F = (toPoly f).map (Int.castRingHom ℚ)` the minimal polynomial
in ℚ[X] (degree `n`, leading coefficient `lc f ≠ 0`, monic or not). `Polynomial.resultant F G` is Mathlib's
resultant (determinant of the Sylvester matrix for the degrees `F.natDegree = n` and `G.natDegree`).
Helper lemmas: `NTV.Proofs.Lemmas.NormResMat` (`det G(M) = Res(χ_M, G)` for a square matrix `M` over a
field), `NormResAdj` (`N_{k[X]/(F)/k}(G) · lc(F)^{deg G} = Res(F, G)`), `NormResCtx` (`det (regular t a)` is
the algebra norm, i.e. does not depend on the basis), `NormResFinal`. -/
namespace NTV.C14
open NTV.Ord NTV.Alg Matrix Polynomial
open NTV.RowOps (toM Rect ent)
open NTV.PolyG (Canon coefAt fromRaw toPoly lc)

theorem elt_degree_lt (basis : QMat) (n : Nat) (hr : Rect n n basis) (a : List Int) :
    (toPoly (elt basis a)).degree < n := by
  rw [degree_lt_iff_coeff_zero]
  intro m hm
  rw [NTV.PolyG.coeff_toPoly]
  have := elt_length_le basis a
  exact NTV.PolyG.getD_of_length_le _ m (by rw [hr.1] at this; omega)

/-- **(3e)** `MultTable::norm` returns `Res(f, g) / lc(f)^{deg g}`, where `g` (degree < n) is the
polynomial with `g(θ) = Σ a_i ω_i`: with `nm` the returned integer,
`nm · lc(f)^{deg g} = Res(f, g)` (hypotheses of `trace_norm`) -/
theorem norm_is_resultant (f : List Int) (basis : QMat) (n : Nat) (hf : Canon f) (hlen : f.length = n + 1)
    (hn : 1 ≤ n) (hr : Rect n n basis) (hdet : (toM n n basis).det ≠ 0) (t : Table)
    (ht : IsTable f basis n t) (a : List Int) (ha : a.length = n) :
    ∃ nm : Int, tnorm t a = .ok nm ∧
      ((nm : Int) : ℚ) * ((lc f : Int) : ℚ) ^ (toPoly (elt basis a)).natDegree
        = Polynomial.resultant ((toPoly f).map (Int.castRingHom ℚ)) (toPoly (elt basis a)) := by
  have S : Setup f basis n := ⟨hf, hlen, hn, hr, hdet⟩
  refine ⟨_, tnorm_eq t a ht.1 ha.ge, ?_⟩
  have : NeZero n := .of_pos hn
  obtain ⟨-, hF⟩ := modulus_facts f hf S.two_le
  rw [← modulus_eq_map, ← modulus_leadingCoeff f hf (by intro e; rw [e] at hlen; simp at hlen),
    ← NTV.NormRes.norm_mk_mul_pow (modulus f) _ hF, ← (S.ctx t ht).norm_eq_det S.finrank (vecZ a n),
    ← vecQ_map_cast, ← S.cls_comb]
  -- `elt basis a` is `comb basis` of the cast coordinates and `cls f` is `AdjoinRoot.mk (modulus f)`
  rfl

/-- **(3e′)** power basis (`basis` = identity, the order ℤ[θ] of a monic `f`, or the lattice
`1, θ, …, θ^{n−1}` in general): for `g ∈ ℤ[x]` given by its `n` coefficients,
`norm(g(θ)) · lc(f)^{deg g} = Res(f, g)` over ℤ -/
theorem norm_is_resultant_power_basis (f : List Int) (n : Nat) (hf : Canon f) (hlen : f.length = n + 1)
    (hn : 1 ≤ n) (t : Table) (ht : IsTable f (identityQ n) n t) (g : List Int) (hg : g.length = n) :
    ∃ nm : Int, tnorm t g = .ok nm ∧
      nm * lc f ^ (toPoly g).natDegree = Polynomial.resultant (toPoly f) (toPoly g) := by
  obtain ⟨nm, h1, h2⟩ := norm_is_resultant f (identityQ n) n hf hlen hn (identityQ_rect n)
    (by rw [identityQ_toM]; simp) t ht g hg
  refine ⟨nm, h1, ?_⟩
  have hinj : Function.Injective (Int.castRingHom ℚ) := Int.cast_injective
  rw [toPoly_elt_identityQ n g (le_of_eq hg)] at h2
  have h3 := resultant_map_map (toPoly f) (toPoly g) (toPoly f).natDegree (toPoly g).natDegree
    (Int.castRingHom ℚ)
  rw [natDegree_map_eq_of_injective hinj, natDegree_map_eq_of_injective hinj] at h2
  rw [h3] at h2
  apply hinj
  rw [← h2]
  simp

/-! ### non-vacuity: `N(2 + 3i) = 13 = Res(x² + 1, 3x + 2)` -/

example : identityQ 2 = [[1, 0], [0, 1]] := by decide +kernel

/-- the hypotheses of `norm_is_resultant_power_basis` are satisfiable (ℤ[i], `g = 2 + 3x`), and the
theorem computes the resultant -/
example : Polynomial.resultant (toPoly ([1, 0, 1] : List Int)) (toPoly ([2, 3] : List Int)) = 13 := by
  obtain ⟨nm, h1, h2⟩ := norm_is_resultant_power_basis [1, 0, 1] 2 gauss_canon rfl (by norm_num)
    [[[1, 0], [0, 1]], [[0, 1], [-1, 0]]] gauss_isTable [2, 3] rfl
  rw [gauss_tnorm] at h1
  injection h1 with h1
  subst h1
  rw [← h2]
  simp [lc]

/-- the same through the general statement (`G = 2 + 3x ∈ ℚ[x]`) -/
example : ∃ nm : Int, tnorm [[[1, 0], [0, 1]], [[0, 1], [-1, 0]]] [2, 3] = .ok nm ∧
    ((nm : Int) : ℚ) * ((lc ([1, 0, 1] : List Int) : Int) : ℚ) ^ (toPoly (elt [[1, 0], [0, 1]] [2, 3])).natDegree
      = Polynomial.resultant ((toPoly ([1, 0, 1] : List Int)).map (Int.castRingHom ℚ))
          (toPoly (elt [[1, 0], [0, 1]] [2, 3])) :=
  norm_is_resultant [1, 0, 1] [[1, 0], [0, 1]] 2 gauss_canon rfl (by norm_num) gauss_rect gauss_det _
    gauss_isTable [2, 3] rfl

end NTV.C14
