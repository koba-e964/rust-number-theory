import NTV.Proofs.Lemmas.OrdProofs
import NTV.Proofs.Lemmas.OrdCanon
import NTV.Proofs.Lemmas.OrdSpan
import NTV.Proofs.Lemmas.OrdUnionPower
import NTV.Proofs.C05
/-! # C15 — orders as lattices: property theorems about the model `NTV.Ord`
(index and discriminant; canonical storage by `from_basis`; `union`; the power-basis order of a monic θ)

An order is its stored basis `A : List (List Rat)` with `Rect n n A` (n rows of length n);
`toM n n A` is the corresponding Mathlib matrix. `index A B` models `order::index(a, b)` = (A : B),
`discriminantOrd A f` models `Order::discriminant`. Helper lemmas are in
`NTV.Proofs.Lemmas.OrdProofs` (index, discriminant), `OrdCanon`, `OrdSpan` (`hnf_reduce`, `from_basis`),
`OrdUnionLat`, `OrdUnionSpan`, `OrdUnionCanon` (`union`) and `OrdUnionPower` (identity matrix); the determinant routine is tied to `Matrix.det` by C18. -/
open Matrix
namespace NTV.C15
open NTV.Ord
open NTV.RowOps (toM Rect)

/-- `index(A, B)` answers `i` exactly when `det B = i · det A`: the index is the quotient of the
determinants, and the explicit panic fires exactly when that quotient is not an integer -/
theorem index_is_determinant_quotient (A B : QMat) (n : Nat) (hA : Rect n n A) (hB : Rect n n B)
    (hdet : (toM n n A).det ≠ 0) :
    (∀ i : Int, index A B = .ok i ↔ (toM n n B).det = (i : Rat) * (toM n n A).det) ∧
    (∀ e, index A B = .error e →
      e = "panic other" ∧ ∀ i : Int, (toM n n B).det ≠ (i : Rat) * (toM n n A).det) := by
  refine ⟨index_ok_iff A B n hA hB hdet, fun e h => ?_⟩
  rw [index_unfold A B n hA hB, if_neg hdet] at h
  split at h
  · cases h
  · rename_i hni
    refine ⟨(Except.error.inj h).symm, fun i hi => hni ?_⟩
    exact (isInteger_iff _).mpr ⟨i, by rw [hi, mul_div_cancel_right₀ _ hdet]⟩

/-- for B ⊂ A with integer change of basis `C` (`B = C · A`) the index is `det C` — never a panic -/
theorem index_is_det_of_change_of_basis (A B : QMat) (n : Nat) (hA : Rect n n A) (hB : Rect n n B)
    (hdet : (toM n n A).det ≠ 0) (C : Matrix (Fin n) (Fin n) Int)
    (hC : toM n n B = C.map (Int.castRingHom Rat) * toM n n A) :
    index A B = .ok C.det := by
  rw [index_ok_iff A B n hA hB hdet, hC, det_mul, det_map_intCast]

/-- (A : C) = (A : B)(B : C) -/
theorem index_multiplicative (A B C : QMat) (n : Nat) (hA : Rect n n A) (hB : Rect n n B)
    (hC : Rect n n C) (hdA : (toM n n A).det ≠ 0) (hdB : (toM n n B).det ≠ 0) (i j : Int)
    (h1 : index A B = .ok i) (h2 : index B C = .ok j) : index A C = .ok (i * j) := by
  rw [index_ok_iff A B n hA hB hdA] at h1
  rw [index_ok_iff B C n hB hC hdB] at h2
  rw [index_ok_iff A C n hA hC hdA, h2, h1]
  push_cast
  ring

/-- disc(B) = (A : B)² · disc(A): when the discriminant of `A` and the index exist, the
discriminant of `B` is computed without a panic and has this value (in particular it is an integer) -/
theorem discriminant_index_relation (A B : QMat) (n : Nat) (hA : Rect n n A) (hB : Rect n n B)
    (hdA : (toM n n A).det ≠ 0) (f : List Int) (dA i : Int)
    (h1 : discriminantOrd A f = .ok dA) (h2 : index A B = .ok i) :
    discriminantOrd B f = .ok (i * i * dA) := by
  rw [index_ok_iff A B n hA hB hdA] at h2
  obtain ⟨d, fl, hd, hdeg, hden, hv⟩ := (discriminantOrd_ok_iff A n hA f dA).mp h1
  apply (discriminantOrd_ok_iff B n hB f (i * i * dA)).mpr
  refine ⟨d, fl, hd, hdeg, hden, ?_⟩
  unfold discValue at hv ⊢
  generalize (((NTV.PolyG.coefAt f (NTV.PolyG.degU f)) ^ (2 * (NTV.PolyG.degU f - 1)) : Int) : Rat) = D
    at hv hden ⊢
  have hcast : ((i * i * dA : Int) : Rat) = (i : Rat) * i * dA := by push_cast; ring
  rw [h2, hcast, ← hv]
  ring

/-- equal modules have index ±1: if `B = U · A` with `U` unimodular then (A : B) = ±1 -/
theorem index_of_unimodular_rebasing (A B : QMat) (n : Nat) (hA : Rect n n A) (hB : Rect n n B)
    (hdet : (toM n n A).det ≠ 0) (U : Matrix (Fin n) (Fin n) Int) (hU : U.det = 1 ∨ U.det = -1)
    (hC : toM n n B = U.map (Int.castRingHom Rat) * toM n n A) :
    index A B = .ok 1 ∨ index A B = .ok (-1) := by
  rw [index_is_det_of_change_of_basis A B n hA hB hdet U hC]
  rcases hU with h | h
  · exact .inl (by rw [h])
  · exact .inr (by rw [h])

/-- canonical storage, first half: an order built from any ℚ-basis is stored in a form that depends only on
the ℤ-module — if B = U·A for an integer matrix U with unit determinant (i.e. A and B are bases of the
same module) then `Order::from_basis` returns the same value for both (so `==` on orders is equality of
modules); no rank hypothesis is needed -/
theorem equal_modules_give_equal_orders (A B : QMat) (n : Nat) (hn : 0 < n) (hA : Rect n n A) (hB : Rect n n B)
    (U : Matrix (Fin n) (Fin n) ℤ) (hU : IsUnit U.det)
    (hrel : toM n n B = U.map (Int.castRingHom ℚ) * toM n n A) :
    fromBasis B = fromBasis A := hnfReduce_canonical A B n hn hA hB U hU hrel

/-- canonical storage, second half: for every non-singular n×n rational matrix A, `Order::from_basis`
returns (never a panic) an n×n matrix O = U·A with U an integer matrix of unit determinant — the stored
rows are a ℤ-basis of exactly the module generated by the rows of A -/
theorem stored_basis_spans_input (A : QMat) (n : Nat) (hn : 0 < n) (hA : Rect n n A) (hdet : (toM n n A).det ≠ 0) :
    ∃ O : QMat, fromBasis A = .ok O ∧ Rect n n O ∧
      ∃ U : Matrix (Fin n) (Fin n) ℤ, IsUnit U.det ∧ toM n n O = U.map (Int.castRingHom ℚ) * toM n n A :=
  fromBasis_spans A n hn hA hdet

/-- hence `from_basis` is idempotent on its own outputs (a stored order is a fixed point) -/
theorem from_basis_idempotent (A : QMat) (n : Nat) (hn : 0 < n) (hA : Rect n n A) (hdet : (toM n n A).det ≠ 0)
    (O : QMat) (h : fromBasis A = .ok O) : fromBasis O = .ok O := by
  obtain ⟨O', h', hO, U, hU, hrel⟩ := fromBasis_spans A n hn hA hdet
  rw [h] at h'
  cases h'
  rw [equal_modules_give_equal_orders A O n hn hA hO U hU hrel, h]

theorem half_rect_det :
    Rect 2 2 ([[1/2, 1/2], [0, 1]] : QMat) ∧ (toM 2 2 ([[1/2, 1/2], [0, 1]] : QMat)).det ≠ 0 := by
  have hr : Rect 2 2 ([[1/2, 1/2], [0, 1]] : QMat) := ⟨rfl, by decide⟩
  refine ⟨hr, ?_⟩
  rw [det_of_determinant hr (v := 1/2) (by decide +kernel)]
  norm_num

/-- non-vacuity -/
example : Rect 2 2 ([[1/2, 1/2], [0, 1]] : QMat) ∧ (toM 2 2 ([[1/2, 1/2], [0, 1]] : QMat)).det ≠ 0 :=
  half_rect_det

/-! ## `order::union`: the smallest module containing both arguments -/

/-- the union is the sum of the two modules: for non-singular n×n rational matrices `A`, `B`, `union A B`
returns (never a panic) an n×n matrix `O` whose rows generate over ℤ exactly the vectors
`c·A + d·B` (c, d integer row vectors) — the smallest ℤ-module containing both arguments; moreover `O` is
non-singular and a stored order (a fixed point of `Order::from_basis`) -/
theorem union_spans (A B : QMat) (n : Nat) (hn : 0 < n) (hA : Rect n n A) (hB : Rect n n B)
    (hdA : (toM n n A).det ≠ 0) (hdB : (toM n n B).det ≠ 0) :
    ∃ O : QMat, union A B = .ok O ∧ Rect n n O ∧ (toM n n O).det ≠ 0 ∧ fromBasis O = .ok O ∧
      ∀ v : Fin n → ℚ,
        (∃ c : Fin n → ℤ, (fun i => (c i : ℚ)) ᵥ* toM n n O = v) ↔
        (∃ c d : Fin n → ℤ, (fun i => (c i : ℚ)) ᵥ* toM n n A + (fun i => (d i : ℚ)) ᵥ* toM n n B = v) :=
  union_full A B n hn hA hB hdA hdB

/-- hence every module (rows of a matrix `C`) containing the rows of `A` and of `B` contains the union -/
theorem union_least (A B C : QMat) (n : Nat) (hn : 0 < n) (hA : Rect n n A) (hB : Rect n n B)
    (hdA : (toM n n A).det ≠ 0) (hdB : (toM n n B).det ≠ 0)
    (PA PB : Matrix (Fin n) (Fin n) ℤ)
    (hCA : toM n n A = PA.map (Int.castRingHom ℚ) * toM n n C)
    (hCB : toM n n B = PB.map (Int.castRingHom ℚ) * toM n n C) :
    ∃ O : QMat, union A B = .ok O ∧
      ∃ P : Matrix (Fin n) (Fin n) ℤ, toM n n O = P.map (Int.castRingHom ℚ) * toM n n C := by
  obtain ⟨O, hO, _, _, _, hmod⟩ := union_full A B n hn hA hB hdA hdB
  refine ⟨O, hO, ?_⟩
  apply exists_mul_of_rows_inMod
  intro i
  obtain ⟨c, d, h⟩ := (hmod _).mp (InMod.row (toM n n O) i)
  refine ⟨c ᵥ* PA + d ᵥ* PB, ?_⟩
  rw [← h, hCA, hCB, castV_add, castV_vecMul, castV_vecMul, Matrix.add_vecMul, Matrix.vecMul_vecMul,
    Matrix.vecMul_vecMul]

/-- the union is commutative (equality of the returned values) -/
theorem union_comm (A B : QMat) (n : Nat) (hn : 0 < n) (hA : Rect n n A) (hB : Rect n n B)
    (hdA : (toM n n A).det ≠ 0) (hdB : (toM n n B).det ≠ 0) : union A B = union B A := by
  obtain ⟨O, hO, rO, dO, sO, mO⟩ := union_full A B n hn hA hB hdA hdB
  obtain ⟨O', hO', rO', _, sO', mO'⟩ := union_full B A n hn hB hA hdB hdA
  rw [hO, hO']
  congr 1
  apply (stored_eq_of_same_module O O' n hn rO rO' dO sO sO' ?_).symm
  intro v
  rw [mO v, mO' v]
  exact ⟨fun ⟨c, d, h⟩ => ⟨d, c, (add_comm _ _).trans h⟩, fun ⟨c, d, h⟩ => ⟨d, c, (add_comm _ _).trans h⟩⟩

/-- if the module of `B` is inside the module of the stored order `A` (`B = C·A`, `C` integral) the union
is `A` itself -/
theorem union_absorb (A B : QMat) (n : Nat) (hn : 0 < n) (hA : Rect n n A) (hB : Rect n n B)
    (hdA : (toM n n A).det ≠ 0) (hdB : (toM n n B).det ≠ 0) (hst : fromBasis A = .ok A)
    (C : Matrix (Fin n) (Fin n) ℤ) (hC : toM n n B = C.map (Int.castRingHom ℚ) * toM n n A) :
    union A B = .ok A ∧ union B A = .ok A := by
  have key : union A B = .ok A := by
    obtain ⟨O, hO, rO, dO, sO, mO⟩ := union_full A B n hn hA hB hdA hdB
    rw [hO]
    congr 1
    apply stored_eq_of_same_module A O n hn hA rO hdA hst sO
    intro v
    rw [mO v]
    constructor
    · rintro ⟨c, d, rfl⟩
      refine ⟨c + d ᵥ* C, ?_⟩
      rw [hC, castV_add, castV_vecMul, Matrix.add_vecMul, Matrix.vecMul_vecMul]
    · rintro ⟨c, rfl⟩
      exact ⟨c, 0, by rw [castV_zero, Matrix.zero_vecMul, add_zero]⟩
  exact ⟨key, by rw [← union_comm A B n hn hA hB hdA hdB]; exact key⟩

/-- the union is idempotent on stored orders -/
theorem union_idem (O : QMat) (n : Nat) (hn : 0 < n) (hO : Rect n n O) (hdO : (toM n n O).det ≠ 0)
    (hst : fromBasis O = .ok O) : union O O = .ok O :=
  (union_absorb O O n hn hO hO hdO hdO hst 1 (by simp)).1

/-- both arguments are contained in the union with integer index: `index(union A B, A)` and
`index(union A B, B)` are computed without a panic, and they are the determinants of the integral
matrices expressing `A` and `B` on the basis of the union -/
theorem union_contains (A B : QMat) (n : Nat) (hn : 0 < n) (hA : Rect n n A) (hB : Rect n n B)
    (hdA : (toM n n A).det ≠ 0) (hdB : (toM n n B).det ≠ 0) :
    ∃ (O : QMat) (PA PB : Matrix (Fin n) (Fin n) ℤ), union A B = .ok O ∧
      toM n n A = PA.map (Int.castRingHom ℚ) * toM n n O ∧
      toM n n B = PB.map (Int.castRingHom ℚ) * toM n n O ∧
      index O A = .ok PA.det ∧ index O B = .ok PB.det := by
  obtain ⟨O, hO, rO, dO, _, mO⟩ := union_full A B n hn hA hB hdA hdB
  obtain ⟨PA, hPA⟩ := exists_mul_of_rows_inMod (toM n n O) (toM n n A) (fun i => (mO _).mpr
    ⟨Pi.single i 1, 0, by rw [castV_single, castV_zero, Matrix.single_one_vecMul, Matrix.zero_vecMul, add_zero]; rfl⟩)
  obtain ⟨PB, hPB⟩ := exists_mul_of_rows_inMod (toM n n O) (toM n n B) (fun i => (mO _).mpr
    ⟨0, Pi.single i 1, by rw [castV_single, castV_zero, Matrix.single_one_vecMul, Matrix.zero_vecMul, zero_add]; rfl⟩)
  exact ⟨O, PA, PB, hO, hPA, hPB, index_is_det_of_change_of_basis O A n rO hA dO PA hPA,
    index_is_det_of_change_of_basis O B n rO hB dO PB hPB⟩

/-- non-vacuity: two non-singular matrices; a non-singular stored order exists (any output of `from_basis`) -/
example : Rect 2 2 ([[1/2, 1/2], [0, 1]] : QMat) ∧ (toM 2 2 ([[1/2, 1/2], [0, 1]] : QMat)).det ≠ 0 ∧
    Rect 2 2 ([[1, 0], [0, 1/3]] : QMat) ∧ (toM 2 2 ([[1, 0], [0, 1/3]] : QMat)).det ≠ 0 := by
  have hr : Rect 2 2 ([[1, 0], [0, 1/3]] : QMat) := ⟨rfl, by decide⟩
  refine ⟨half_rect_det.1, half_rect_det.2, hr, ?_⟩
  rw [det_of_determinant hr (v := 1/3) (by decide +kernel)]
  norm_num

example : ∃ O : QMat, Rect 2 2 O ∧ (toM 2 2 O).det ≠ 0 ∧ fromBasis O = .ok O := by
  obtain ⟨hA, hd⟩ := half_rect_det
  obtain ⟨O, hO, rO, dO, sO, _⟩ := union_full _ _ 2 (by decide) hA hA hd hd
  exact ⟨O, rO, dO, sO⟩

/-! ## the power-basis order of a monic θ -/

theorem canon_of_monic (f : List Int) (hmonic : NTV.PolyG.lc f = 1) : NTV.PolyG.Canon f := by
  intro h
  rw [NTV.PolyG.getLast_eq_getD f h, NTV.PolyG.lc_eq_getD f h, hmonic]
  exact one_ne_zero

/-- for monic f of degree n ≥ 1 the power-basis order Z[θ] is stored as the identity matrix by
`trivial_order_monic`, and (for n ≥ 2, where `Algebraic::new(f)` = x is a reduced element) also by
`Order::singly_gen` — the rows 1, θ, …, θ^(n−1) are the unit vectors; its discriminant is exactly what
`discriminant(f)` returns (same value, same panics), hence Mathlib's `Polynomial.discr f` whenever the
exactness flag of the subresultant recurrence holds (C05) -/
theorem power_basis_discriminant (f : List Int) (n : Nat) (hn : 1 ≤ n) (hfl : f.length = n + 1)
    (hmonic : NTV.PolyG.lc f = 1) :
    trivialOrderMonic f = .ok (identityQ n) ∧
    (2 ≤ n → singlyGen f = .ok (identityQ n)) ∧
    discriminantOrd (identityQ n) f =
      (match NTV.Res.discriminant f with
       | .ok (d, _) => .ok d
       | .error e => .error ("panic " ++ e)) ∧
    (∀ d : Int, NTV.Res.discriminant f = .ok (d, true) →
      discriminantOrd (identityQ n) f = .ok (NTV.PolyG.toPoly f).discr) := by
  have hne : f ≠ [] := List.ne_nil_of_length_eq_add_one hfl
  have hemp : f.isEmpty = false := List.isEmpty_eq_false_iff.mpr hne
  have hdeg : NTV.PolyG.degU f = n := NTV.PolyG.degU_of_length hfl
  have hcoef : NTV.PolyG.coefAt f (NTV.PolyG.degU f) = 1 := by
    rw [hdeg]
    have := NTV.PolyG.lc_eq_getD f hne
    rw [hfl, Nat.add_sub_cancel] at this
    unfold NTV.PolyG.coefAt
    rw [this, hmonic]
  have hcanon := canon_of_monic f hmonic
  have hdisc : ∀ d fl, NTV.Res.discriminant f = .ok (d, fl) → discriminantOrd (identityQ n) f = .ok d := by
    intro d fl h
    rw [discriminantOrd_ok_iff (identityQ n) n (identityQ_rect n) f d]
    refine ⟨d, fl, h, hdeg ▸ Nat.ne_of_gt hn, ?_, ?_⟩
    · rw [hcoef, one_pow, Int.cast_one]
      exact one_ne_zero
    · unfold discValue
      rw [hcoef, identityQ_toM, Matrix.det_one, mul_one, mul_one, one_pow, Int.cast_one, div_one]
  refine ⟨?_, ?_, ?_, ?_⟩
  · unfold trivialOrderMonic
    rw [hdeg]
    simp only [hemp, Bool.false_eq_true, if_false]
    exact hnfReduce_identityQ n (by omega)
  · intro h2
    exact singlyGen_identity f hcanon n h2 hfl
  · cases h : NTV.Res.discriminant f with
    | ok p => obtain ⟨d, fl⟩ := p; exact hdisc d fl h
    | error e =>
      unfold discriminantOrd
      rw [NTV.LinAlg.determinant_eq _ n (identityQ_rect n), h]
      rfl
  · intro d h
    rw [hdisc d true h, NTV.C05.discriminant_is_discr_partial f hcanon (by omega) d h]

/-- a linear `min_poly`: `singly_gen(Algebraic::new(f))` panics (θ = x is not reduced modulo a polynomial of
degree 1, the assertion `b_deg < n` of `mul_with_mod` fires), which is why `2 ≤ n` is needed above -/
theorem singly_gen_linear_panics (c0 c1 : Int) : singlyGen [c0, c1] = .error "panic assert" := by
  rfl

/-- non-vacuity: f = x² − 2x + 37 (θ = 1 + 6i) -/
example : ([37, -2, 1] : List Int).length = 2 + 1 ∧ NTV.PolyG.lc ([37, -2, 1] : List Int) = 1 := by
  decide

/-- **the discriminant of the power-basis order is `Polynomial.discr f`** , with no hypothesis on the
exactness flag: for monic f of degree n ≥ 1 the power-basis order Z[θ] is stored as the identity matrix, and
`Order::discriminant` on it returns — never a panic — exactly Mathlib's discriminant of f
(by `NTV.C05.discriminant_is_discr`: the subresultant recurrence and the final division are exact). -/
theorem power_basis_discriminant_full (f : List Int) (n : Nat) (hn : 1 ≤ n) (hfl : f.length = n + 1)
    (hmonic : NTV.PolyG.lc f = 1) :
    trivialOrderMonic f = .ok (identityQ n) ∧
    (2 ≤ n → singlyGen f = .ok (identityQ n)) ∧
    discriminantOrd (identityQ n) f = .ok (NTV.PolyG.toPoly f).discr := by
  obtain ⟨h1, h2, _, h4⟩ := power_basis_discriminant f n hn hfl hmonic
  have hcanon := canon_of_monic f hmonic
  exact ⟨h1, h2, h4 _ (NTV.C05.discriminant_is_discr f hcanon (by omega))⟩

/-- non-vacuity and instance: f = x² − 2x + 37, disc = 4 − 148 = −144 -/
example : discriminantOrd (identityQ 2) [37, -2, 1] = .ok (NTV.PolyG.toPoly ([37, -2, 1] : List Int)).discr :=
  (power_basis_discriminant_full [37, -2, 1] 2 (by decide) (by decide) (by decide)).2.2

example : discriminantOrd (identityQ 2) [37, -2, 1] = .ok (-144) := by decide +kernel

end NTV.C15
