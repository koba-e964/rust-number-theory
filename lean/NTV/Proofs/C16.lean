import NTV.Model.Ideal
import NTV.Proofs.C02
import NTV.Proofs.Lemmas.IdealProofsC
import NTV.Proofs.Lemmas.IdealProofsD
import NTV.Proofs.Lemmas.IdealNormB
import NTV.Proofs.Lemmas.IdealNormD
import NTV.Proofs.Lemmas.IdealNormE
import NTV.Proofs.C14
import Mathlib.Algebra.Polynomial.SpecificDegree
import NTV.Proofs.Lemmas.InvDiffD
import NTV.Proofs.Lemmas.OrdProofs
import NTV.Proofs.C05
import NTV.Proofs.Lemmas.MaxOrderClosedC
import NTV.Proofs.Lemmas.IdealInvE
import NTV.Proofs.Lemmas.IdealInvF
/-! # C16 — ideal arithmetic.
Ideals are lattices in Hermite normal form. The lattice-level clauses (sum = smallest lattice containing
both, results canonical, norm = index) are theorems via C02. The ring-theoretic clauses are proved for an
abstract multiplication table: closure under the order, commutativity/associativity/distributivity, norm of a
principal ideal, multiplicativity of the norm and `I · I⁻¹ = (a)` in a Dedekind table ring (in particular the
maximal order returned by Round 2), and the inverse different (`inv_diff_norm`,
`trace_matrix_det_is_discriminant`, `inv_diff_disc`, `inv_diff_membership`). `NTV.Spec.Ideal` certifies the same
clauses on every explored case. -/
namespace NTV.C16
open NTV.Ideal
-- `norm` and `star` also exist at the root (`Norm.norm`, `Star.star`); as aliases in this namespace the model's names
-- are found first, so that the elaborator does not try (and fail) the other reading at every occurrence
export NTV.Ideal (norm)
export NTV.IdealP (star)

/-- the sum is the normal form of the stacked bases … -/
theorem sum_is_hnf_of_stack (i j : HNF) : add i j = hnfNew (i ++ j) := rfl

/-- … hence depends only on the lattice generated by both arguments: any other generating set K of
that lattice gives the same ideal (so the sum is the smallest lattice containing both, in canonical
form; commutativity and idempotence are instances) -/
theorem sum_depends_only_on_lattice (i j K : HNF) (n n' m : Nat) (hr : NTV.Hnf.Rect n m (i ++ j))
    (hr' : NTV.Hnf.Rect n' m K) (hn : 0 < n) (hn' : 0 < n') (hm : 0 < m)
    (hsame : ∀ v : Fin m → ℤ, NTV.Hnf.InLattice n m (i ++ j) v ↔ NTV.Hnf.InLattice n' m K v) :
    add i j = hnfNew K := by
  simp only [add, hnfNew, NTV.C02.canonical (i ++ j) K n n' m hr hr' hn hn' hm hsame]

/-- the norm of an ideal given by a square full-rank generating matrix A is |det A|, the index of the
lattice in ℤⁿ -/
theorem norm_is_index (A : NTV.Hnf.Mat) (n : Nat) (hr : NTV.Hnf.Rect n n A) (hn : 0 < n)
    (H U : NTV.Hnf.Mat) (hres : NTV.Hnf.hnfWithU A = some (H, U, 0)) :
    norm H = |(NTV.Hnf.toM n n A).det| := NTV.C02.determinant_is_index A n hr hn H U hres

/-- membership is decided by "adding the principal ideal changes nothing" -/
theorem contains_def (t : Table) (i : HNF) (x : List Int) (px s : HNF)
    (h1 : principal t x = .ok px) (h2 : add i px = .ok s) : contains t i x = .ok (s == i) := by
  simp [contains, h1, h2, bind, Except.bind, pure, Except.pure]


/-! ## Ring-theoretic clauses, for an abstract multiplication table

Vocabulary (all from `NTV.IdealP`, Proofs/Lemmas/IdealProofs*.lean):
* `vec n a : Fin n → ℤ` — the coordinate vector of a list `a` of length n;
* `star t n x y` — the product defined by the table, `(x ⋆ y)_k = Σ_{i,j} x_i y_j t[i][j][k]`; it is what
  `NTV.Ord.tmul` computes (`tmul_computes_star`) and is ℤ-bilinear for every table (`starB`);
* `Lat m A : Submodule ℤ (Fin m → ℤ)` — the ℤ-span of the rows of `A`, i.e. the row lattice
  `NTV.Hnf.InLattice` of C02 (`lattice_is_row_lattice`);
* `Wid m A` — every row of `A` has length m (no non-emptiness is needed: an empty basis is the zero ideal);
* `TableRing t n` — t is an n×n×n table whose product `tmul t` is commutative, associative and has
  `e_0 = (1,0,…,0)` as identity; it follows from the same equations on basis vectors (`TableRing.of_basis`,
  decidable), or on the structure constants `t[i][j][k]` (`TableRing.of_consts`, which the examples below evaluate);
* `IsOIdeal t n I` — `Lat n I` is closed under `a ⋆ ·` for every a ∈ ℤⁿ (enough: for the basis vectors,
  `isOIdeal_of_basis`). -/
open NTV.IdealP
open NTV.Hnf (InLattice)

/-- `Lat` is the row lattice of C02 -/
theorem lattice_is_row_lattice (m : Nat) (A : HNF) (v : Fin m → ℤ) :
    v ∈ Lat m A ↔ InLattice A.length m A v := mem_Lat_iff rfl v

/-- the table is n×n×n (the Rust code indexes `table[i][j][k]` for all i, j, k < n; the model reads 0 outside,
so the shape is a precondition of every statement below) -/
def Cubic (t : Table) (n : Nat) : Prop := t.length = n ∧ ∀ r ∈ t, r.length = n ∧ ∀ s ∈ r, s.length = n

theorem tableRing_cubic {t : Table} {n : Nat} (T : TableRing t n) : Cubic t n := ⟨T.len, T.shape⟩

/-- `tmul` returns (no panic) exactly when both lengths are the table's, and then the coordinates of `a ⋆ b` -/
theorem tmul_computes_star (t : Table) (n : Nat) (a b : List Int) (ht : Cubic t n) (ha : a.length = n)
    (hb : b.length = n) :
    ∃ c, NTV.Ord.tmul t a b = .ok c ∧ c.length = n ∧ vec n c = star t n (vec n a) (vec n b) :=
  tmul_spec ht.1 ha hb

/-- the sum never panics on rectangular operands; its lattice is L(I) + L(J) … -/
theorem sum_lattice (I J : HNF) (m : Nat) (hI : Wid m I) (hJ : Wid m J) (hm : 0 < m) :
    ∃ S, add I J = .ok S ∧ Wid m S ∧ Lat m S = Lat m I ⊔ Lat m J ∧
      ∀ v, v ∈ Lat m S ↔ ∃ a ∈ Lat m I, ∃ b ∈ Lat m J, a + b = v := by
  obtain ⟨S, h1, h2, _, h4⟩ := add_total hI hJ hm
  exact ⟨S, h1, h2, h4, fun v => by rw [h4, Submodule.mem_sup]⟩

/-- … the smallest lattice containing both -/
theorem sum_is_smallest (I J S : HNF) (m : Nat) (hI : Wid m I) (hJ : Wid m J) (hm : 0 < m)
    (h : add I J = .ok S) :
    Lat m I ≤ Lat m S ∧ Lat m J ≤ Lat m S ∧
      ∀ K : Submodule ℤ (Fin m → ℤ), Lat m I ≤ K → Lat m J ≤ K → Lat m S ≤ K := by
  obtain ⟨_, _, h4⟩ := add_spec hI hJ hm h
  rw [h4]
  exact ⟨le_sup_left, le_sup_right, fun K h1 h2 => sup_le h1 h2⟩

/-- the product never panics on rectangular operands of the table's width (any table); its lattice is the
ℤ-span of the pairwise products of the rows, which is the set of finite sums Σ x_k ⋆ y_k with x_k ∈ L(I),
y_k ∈ L(J) -/
theorem product_lattice (t : Table) (n : Nat) (I J : HNF) (ht : Cubic t n) (hn : 0 < n) (hI : Wid n I)
    (hJ : Wid n J) :
    ∃ P, mul t I J = .ok P ∧ Wid n P ∧
      Lat n P = Submodule.span ℤ {u | ∃ v ∈ I, ∃ w ∈ J, u = star t n (vec n v) (vec n w)} ∧
      ∀ u, u ∈ Lat n P ↔ ∃ l : List ((Fin n → ℤ) × (Fin n → ℤ)),
        (∀ xy ∈ l, xy.1 ∈ Lat n I ∧ xy.2 ∈ Lat n J) ∧ u = (l.map (fun xy => star t n xy.1 xy.2)).sum := by
  obtain ⟨P, h1, h2, _, h4⟩ := mul_total ht.1 hn hI hJ
  refine ⟨P, h1, h2, by rw [h4, prodLat_Lat_eq_span], fun u => ?_⟩
  rw [h4, mem_map₂_iff_list]
  rfl

/-- the product is commutative (identical outputs) -/
theorem mul_comm (t : Table) (n : Nat) (T : TableRing t n) (I J : HNF) (hI : Wid n I) (hJ : Wid n J) :
    mul t I J = mul t J I :=
  mul_congr T.len T.pos hI hJ hJ hI (prodLat_comm T _ _)

/-- the product is associative: none of the four calls panics and (I·J)·K and I·(J·K) are the same output -/
theorem mul_assoc (t : Table) (n : Nat) (T : TableRing t n) (I J K : HNF) (hI : Wid n I) (hJ : Wid n J)
    (hK : Wid n K) :
    ∃ IJ JK R, mul t I J = .ok IJ ∧ mul t J K = .ok JK ∧ mul t IJ K = .ok R ∧ mul t I JK = .ok R := by
  obtain ⟨IJ, h1, hW1, _, hL1⟩ := mul_total T.len T.pos hI hJ
  obtain ⟨JK, h2, hW2, _, hL2⟩ := mul_total T.len T.pos hJ hK
  obtain ⟨R, h3, _, _, _⟩ := mul_total T.len T.pos hW1 hK
  refine ⟨IJ, JK, R, h1, h2, h3, ?_⟩
  rw [← h3]
  symm
  apply mul_congr T.len T.pos hW1 hK hI hW2
  rw [hL1, hL2, prodLat_assoc T]

/-- the product distributes over the sum: no call panics and I·(J+K) and I·J + I·K are the same output
(any table: only bilinearity is used) -/
theorem mul_add_distrib (t : Table) (n : Nat) (hc : Cubic t n) (hn : 0 < n) (I J K : HNF)
    (hI : Wid n I) (hJ : Wid n J) (hK : Wid n K) :
    ∃ S IJ IK R, add J K = .ok S ∧ mul t I J = .ok IJ ∧ mul t I K = .ok IK ∧
      mul t I S = .ok R ∧ add IJ IK = .ok R := by
  have ht := hc.1
  obtain ⟨S, h1, hW1, _, _⟩ := add_total hJ hK hn
  obtain ⟨IJ, h2, _⟩ := mul_total ht hn hI hJ
  obtain ⟨IK, h3, _⟩ := mul_total ht hn hI hK
  obtain ⟨R, h4, _⟩ := mul_total ht hn hI hW1
  exact ⟨S, IJ, IK, R, h1, h2, h3, h4, by rw [← h4, mul_add_distrib_core ht hn hI hJ hK h1 h2 h3]⟩

/-- a principal ideal is an ideal of the order, with lattice x ⋆ ℤⁿ -/
theorem principal_is_ideal (t : Table) (n : Nat) (T : TableRing t n) (x : List Int) (hx : x.length = n) :
    ∃ P, principal t x = .ok P ∧ Wid n P ∧ IsOIdeal t n P ∧
      ∀ v, v ∈ Lat n P ↔ ∃ y, v = star t n (vec n x) y := by
  obtain ⟨P, h1, h2, _, h4, h5⟩ := principal_total T hx
  refine ⟨P, h1, h2, h5, fun v => ?_⟩
  rw [h4, LinearMap.mem_range]
  constructor
  · rintro ⟨y, rfl⟩; exact ⟨y, rfl⟩
  · rintro ⟨y, rfl⟩; exact ⟨y, rfl⟩

/-- the sum of two ideals of the order is an ideal of the order -/
theorem sum_of_ideals (t : Table) (n : Nat) (I J S : HNF) (hn : 0 < n) (hI : Wid n I) (hJ : Wid n J)
    (oI : IsOIdeal t n I) (oJ : IsOIdeal t n J) (h : add I J = .ok S) : IsOIdeal t n S :=
  isOIdeal_of_lat_sup (add_spec hI hJ hn h).2.2 oI oJ

/-- the product of two ideals of the order is an ideal of the order -/
theorem product_of_ideals (t : Table) (n : Nat) (T : TableRing t n) (I J P : HNF) (hI : Wid n I)
    (hJ : Wid n J) (oI : IsOIdeal t n I) (h : mul t I J = .ok P) : IsOIdeal t n P :=
  isOIdeal_of_lat_mul T (mul_spec T.len T.pos hI hJ h).2.2 oI

/-- membership: for an ideal `I` of the order in normal form (`I = HNF::new(I₀)`, which is how ideals
arise) and `x` of the table's length, `contains` does not panic and answers whether x ∈ L(I) -/
theorem contains_iff (t : Table) (n : Nat) (T : TableRing t n) (I₀ I : HNF) (hI₀ : Wid n I₀)
    (hnf : NTV.Ideal.hnfNew I₀ = .ok I) (oI : IsOIdeal t n I) (x : List Int) (hx : x.length = n) :
    (∃ b, contains t I x = .ok b) ∧ (contains t I x = .ok true ↔ vec n x ∈ Lat n I) := by
  obtain ⟨b, h1, h2⟩ := contains_spec T hI₀ hnf oI hx
  refine ⟨⟨b, h1⟩, ?_⟩
  rw [← h2, h1]
  constructor
  · intro h; cases h; rfl
  · intro h; rw [h]

/-- intersection with ℤ: for a full-rank (n rows) ideal in normal form, `cap_z` returns c > 0 with
{z ∈ ℤ | z·e_0 ∈ L(I)} = cℤ (e_0 is the identity of the order) -/
theorem capZ_spec (n : Nat) (hn : 0 < n) (I₀ I : HNF) (hI₀ : Wid n I₀) (hnf : NTV.Ideal.hnfNew I₀ = .ok I)
    (hfull : I.length = n) :
    ∃ c, capZ I = .ok c ∧ 0 < c ∧ ∀ z : ℤ, z • e n ⟨0, hn⟩ ∈ Lat n I ↔ c ∣ z := by
  obtain ⟨hW, ⟨pv, hH⟩, _⟩ := ideal_hnfNew_spec hI₀ hn hnf
  exact capZ_core hn hW hH hfull

/-! ### non-vacuity: ℤ[√-5] (f = x² + 5, basis 1, θ), I = (2, 1 + √-5) as in the tests of src/ideal.rs -/

/-- the multiplication table of ℤ[√-5]: what `get_mult_table` returns for the power basis 1, θ of x² + 5
(`sqrtm5_table`) -/
def t5 : Table := [[[1, 0], [0, 1]], [[0, 1], [-5, 0]]]
/-- generators of (2, 1 + √-5) used by the Rust tests, and its normal form -/
def I5gen : HNF := [[1, 1], [5, 1], [2, 0], [0, 2]]
def I5 : HNF := [[2, 0], [1, 1]]

theorem t5_ring : TableRing t5 2 := TableRing.of_consts (by decide +kernel)
example : TableRing [[[1, 0], [0, 1]], [[0, 1], [-5, 0]]] 2 := t5_ring
theorem I5_hnf : NTV.Ideal.hnfNew I5gen = .ok I5 := by decide +kernel
theorem I5_wid : Wid 2 I5 := by unfold Wid I5; decide
theorem I5gen_wid : Wid 2 I5gen := by unfold Wid I5gen; decide
theorem t5_principal_two : principal t5 [2, 0] = .ok [[2, 0], [0, 2]] := by decide +kernel
theorem I5_sq : mul t5 I5 I5 = .ok [[2, 0], [0, 2]] := by decide +kernel

/-- (2, 1 + √-5) = (2) + (1 + √-5) is an ideal of the order, being a sum of principal ideals -/
theorem I5_ideal : IsOIdeal t5 2 I5 := by
  have hP := principal_spec t5_ring (x := [2, 0]) rfl t5_principal_two
  have hQ := principal_spec t5_ring (x := [1, 1]) (P := [[6, 0], [1, 1]]) rfl (by decide +kernel)
  exact sum_of_ideals t5 2 _ _ I5 (by decide) hP.1 hQ.1 hP.2.2.2 hQ.2.2.2 (by decide +kernel)

example : mul t5 I5 I5 = .ok [[2, 0], [0, 2]] ∧ principal t5 [2, 0] = .ok [[2, 0], [0, 2]] :=
  ⟨I5_sq, t5_principal_two⟩
example : mul t5 I5 I5gen = mul t5 I5gen I5 := mul_comm t5 2 t5_ring I5 I5gen I5_wid I5gen_wid
example : ∃ IJ JK R, mul t5 I5 I5 = .ok IJ ∧ mul t5 I5 I5gen = .ok JK ∧ mul t5 IJ I5gen = .ok R ∧
    mul t5 I5 JK = .ok R := mul_assoc t5 2 t5_ring I5 I5 I5gen I5_wid I5_wid I5gen_wid
example : vec 2 [3, 1] ∈ Lat 2 I5 :=
  ((contains_iff t5 2 t5_ring I5gen I5 I5gen_wid I5_hnf I5_ideal [3, 1] rfl).2).mp (by decide +kernel)
example : vec 2 [3, 2] ∉ Lat 2 I5 := fun h => by
  have := ((contains_iff t5 2 t5_ring I5gen I5 I5gen_wid I5_hnf I5_ideal [3, 2] rfl).2).mpr h
  exact absurd this (by decide +kernel)
example : ∃ c, capZ I5 = .ok c ∧ 0 < c ∧ ∀ z : ℤ, z • e 2 ⟨0, by decide⟩ ∈ Lat 2 I5 ↔ c ∣ z :=
  capZ_spec 2 (by decide) I5gen I5 I5gen_wid I5_hnf rfl
example : capZ I5 = .ok 2 := rfl
example := sum_lattice I5 I5gen 2 I5_wid I5gen_wid (by decide)
example := product_lattice t5 2 I5 I5gen (tableRing_cubic t5_ring) (by decide) I5_wid I5gen_wid
example := mul_add_distrib t5 2 (tableRing_cubic t5_ring) (by decide) I5 I5gen I5 I5_wid I5gen_wid I5_wid
example := principal_is_ideal t5 2 t5_ring [1, 1] rfl
example : IsOIdeal t5 2 [[2, 0], [0, 2]] :=
  product_of_ideals t5 2 t5_ring I5 I5 _ I5_wid I5_wid I5_ideal I5_sq


/-! ## The inverse different (`MultTable::get_inv_diff`), last sentence of C16

`traceMatrix t n : Matrix (Fin n) (Fin n) ℤ` is the matrix `Tr` built by the first loop of `get_inv_diff`:
`Tr i j` is what `MultTable::trace` returns on the coordinate vector `t[i][j]` of ω_i ω_j
(`trace_matrix_entry`). The routine inverts `Tr` over ℚ, clears denominators by their lcm `d` and returns
`(d, HNF(d·Tr⁻¹))`. Helper lemmas: `NTV.Proofs.Lemmas.InvDiffA` (list level), `InvDiffB` (Hankel determinant of
power traces = discriminant of the characteristic polynomial), `InvDiffC`, `InvDiffD` (ℚ[X]/(f)).
The three clauses are labelled (I1) norm relation, (I2) determinant = discriminant, (I3) membership. -/
open NTV.InvDiff (traceMatrix)
open NTV.RowOps (toM Rect)

/-- `Tr i j` is the value of `MultTable::trace` on the table entry `t[i][j]` (no panic on a cubic table) -/
theorem trace_matrix_entry (t : Table) (n : Nat) (hc : Cubic t n) (i j : Fin n) :
    NTV.Ord.ttrace t ((t.getD i []).getD j []) = .ok (traceMatrix t n i j) := by
  obtain ⟨hi', hj', h⟩ := NTV.InvDiff.ttrace_entry t n hc i j i.2 j.2
  have e : (t.getD i []).getD j [] = (t[i.val])[j.val] := by
    rw [List.getD_eq_getElem?_getD, List.getD_eq_getElem?_getD, List.getElem?_eq_getElem hi', Option.getD_some,
      List.getElem?_eq_getElem hj', Option.getD_some]
  rw [e, h]
  rfl

/-- **(I1) norm relation.** For an `n × n × n` table (n ≥ 1): when the trace matrix is non-singular,
`get_inv_diff` returns (no panic) `(d, H)` with `d > 0`, `H` a full-rank numerator (n rows of length n) and
`norm(H) · |det Tr| = dⁿ`, i.e. `dⁿ / norm(numerator) = |det Tr|` exactly; and the routine panics
(`.unwrap()` of the inversion) exactly when `det Tr = 0`. -/
theorem inv_diff_norm (t : Table) (n : Nat) (hc : Cubic t n) (hn : 1 ≤ n) :
    ((traceMatrix t n).det ≠ 0 → ∃ d H, getInvDiff t = .ok (d, H) ∧ 0 < d ∧ H.length = n ∧ Wid n H ∧
        norm H * |(traceMatrix t n).det| = d ^ n) ∧
    ((traceMatrix t n).det = 0 ↔ getInvDiff t = .error "panic unwrap") := by
  have key : (traceMatrix t n).det ≠ 0 → ∃ d H, getInvDiff t = .ok (d, H) ∧ 0 < d ∧ H.length = n ∧
      Wid n H ∧ norm H * |(traceMatrix t n).det| = d ^ n := by
    intro hdet
    obtain ⟨B, H, _, _, _, h1, h2, h3, h4, h5, _⟩ := NTV.InvDiff.getInvDiff_nonsingular t n hc hn hdet
    exact ⟨_, H, h1, h2, h3, h4, h5⟩
  refine ⟨key, fun h => NTV.InvDiff.getInvDiff_singular t n hc h, fun h => ?_⟩
  by_contra hdet
  obtain ⟨d, H, h1, _⟩ := key hdet
  rw [h1] at h
  cases h

/-- **(I3) membership.** The numerator lattice of the inverse different is `d` times the dual of ℤⁿ under
the trace form: `v ∈ L(H)` iff `d` divides `Σ_k v_k Tr_kj` for every `j`, i.e. iff `(1/d)·v` has an
integral trace pairing with every basis vector ω_j. -/
theorem inv_diff_membership (t : Table) (n : Nat) (hc : Cubic t n) (hn : 1 ≤ n)
    (hdet : (traceMatrix t n).det ≠ 0) (d : Int) (H : HNF) (h : getInvDiff t = .ok (d, H))
    (v : Fin n → ℤ) :
    v ∈ Lat n H ↔ ∀ j : Fin n, d ∣ (Matrix.vecMul v (traceMatrix t n)) j := by
  obtain ⟨B, H', _, _, _, h1, _, _, _, _, hST, hLat⟩ :=
    NTV.InvDiff.getInvDiff_nonsingular t n hc hn hdet
  rw [h1] at h
  cases h
  rw [hLat, mem_Lat_iff (n := n) (NTV.Ord.scaled_rect B n).1]
  exact NTV.IdealInv.rowspan_quotient_iff _ _ _ hdet hST v

/-- **(I2) the determinant of the trace matrix is the discriminant of the order.** For the table of an
order (hypotheses of `NTV.C14.trace_norm`: `f` canonical of degree n ≥ 1 — any leading coefficient, no
irreducibility or squarefreeness assumption —, `basis` non-singular, `t` its multiplication table), with
`θ = AdjoinRoot.root (modulus f)` the class of `x` in ℚ[x]/(f) and `Tr_power = Algebra.traceMatrix ℚ (1, θ, …, θ^{n−1})`
Mathlib's trace matrix of the power basis:
* `Tr = P · Tr_power · Pᵀ` (P the basis matrix), hence `det Tr = (det P)² · det Tr_power`;
* `det Tr_power · lc(f)^{2(n−1)} = disc(f)` (Mathlib's `Polynomial.discr` of the integer polynomial); in
  particular `det Tr_power = disc(f)` for monic f;
* `Order::discriminant` returns (no panic) exactly `det Tr`. -/
theorem trace_matrix_det_is_discriminant (f : List Int) (basis : NTV.Ord.QMat) (n : Nat) (hf : NTV.PolyG.Canon f)
    (hlen : f.length = n + 1) (hn : 1 ≤ n) (hr : Rect n n basis) (hdet : (toM n n basis).det ≠ 0)
    (t : Table) (ht : NTV.Ord.IsTable f basis n t) :
    let θ := AdjoinRoot.root (NTV.Alg.modulus f)
    let TrPower := Algebra.traceMatrix ℚ (fun c : Fin n => θ ^ (c : ℕ))
    (traceMatrix t n).map (Int.castRingHom ℚ) = toM n n basis * TrPower * (toM n n basis).transpose ∧
    (((traceMatrix t n).det : ℤ) : ℚ) = (toM n n basis).det ^ 2 * TrPower.det ∧
    TrPower.det * ((NTV.PolyG.lc f : ℤ) : ℚ) ^ (2 * (n - 1)) = (((NTV.PolyG.toPoly f).discr : ℤ) : ℚ) ∧
    (NTV.PolyG.lc f = 1 → TrPower.det = (((NTV.PolyG.toPoly f).discr : ℤ) : ℚ)) ∧
    NTV.Ord.discriminantOrd basis f = .ok (traceMatrix t n).det := by
  intro θ TrPower
  have S : NTV.Ord.Setup f basis n := ⟨hf, hlen, hn, hr, hdet⟩
  have h2 := S.det_power_traceMatrix
  have hdeg : NTV.PolyG.degU f = n := by
    rw [NTV.PolyG.degU, if_neg (by simpa using S.ne_nil), hlen]; rfl
  have hcoef : NTV.PolyG.coefAt f (NTV.PolyG.degU f) = NTV.PolyG.lc f := by
    rw [hdeg, ← NTV.PolyG.lc_eq_getD f S.ne_nil, hlen]; rfl
  have hlcq : (((NTV.PolyG.lc f : ℤ) : ℚ)) ^ (2 * (n - 1)) ≠ 0 := pow_ne_zero _ S.lc_ne_zero
  refine ⟨S.traceMatrix_rel t ht, S.det_traceMatrix_eq t ht, h2, fun hmon => ?_, ?_⟩
  · rw [hmon, Int.cast_one, one_pow, mul_one] at h2
    exact h2
  · apply (NTV.Ord.discriminantOrd_ok_iff basis n hr f _).mpr
    refine ⟨(NTV.PolyG.toPoly f).discr, true, NTV.C05.discriminant_is_discr f hf (by omega), by omega, ?_, ?_⟩
    · rw [hcoef, hdeg, Int.cast_pow]; exact hlcq
    · unfold NTV.Ord.discValue
      rw [hcoef, hdeg, Int.cast_pow, div_eq_iff hlcq, S.det_traceMatrix t ht]
      ring

/-- **Combined: `dⁿ = norm(numerator) · |disc(O)|`.** For the table of an order as above whose defining
polynomial has non-zero discriminant (f squarefree — always the case for a minimal polynomial),
`get_inv_diff` returns (no panic) `(d, H)`, `Order::discriminant` returns (no panic) `D ≠ 0`, and
`dⁿ = norm(H) · |D|` — the relation `dⁿ / norm(numerator) = |disc|` asserted by the tests of
`mult_table.rs`, with an exact division. When `disc(f) = 0` the routine panics (`.unwrap()`). -/
theorem inv_diff_disc (f : List Int) (basis : NTV.Ord.QMat) (n : Nat) (hf : NTV.PolyG.Canon f)
    (hlen : f.length = n + 1) (hn : 1 ≤ n) (hr : Rect n n basis) (hdet : (toM n n basis).det ≠ 0)
    (t : Table) (ht : NTV.Ord.IsTable f basis n t) :
    ((NTV.PolyG.toPoly f).discr ≠ 0 → ∃ d H D, getInvDiff t = .ok (d, H) ∧
      NTV.Ord.discriminantOrd basis f = .ok D ∧ D ≠ 0 ∧ 0 < d ∧ H.length = n ∧ d ^ n = norm H * |D|) ∧
    ((NTV.PolyG.toPoly f).discr = 0 → getInvDiff t = .error "panic unwrap") := by
  have S : NTV.Ord.Setup f basis n := ⟨hf, hlen, hn, hr, hdet⟩
  obtain ⟨_, _, _, _, hD⟩ := trace_matrix_det_is_discriminant f basis n hf hlen hn hr hdet t ht
  have h0 := S.det_traceMatrix_eq_zero_iff t ht
  have hN := inv_diff_norm t n (NTV.Ord.isTable_shape t ht) hn
  constructor
  · intro hdisc
    have hTr : (traceMatrix t n).det ≠ 0 := mt h0.mp hdisc
    obtain ⟨d, H, h1, h2, h4, _, h5⟩ := hN.1 hTr
    exact ⟨d, H, _, h1, hD, hTr, h2, h4, h5.symm⟩
  · intro hdisc
    exact hN.2.mp (h0.mpr hdisc)

/-! ### non-vacuity: ℤ[√-5] (disc −20), ℤ[i] (disc −4), the maximal order of Dedekind's cubic field
(disc −503, basis 1, θ, (θ+θ²)/2 of determinant 1/2, f = x³ − x² − 2x − 8 of discriminant −2012) -/

theorem t5_cubic : Cubic t5 2 := tableRing_cubic t5_ring
theorem t5_trace : traceMatrix t5 2 = !![2, 0; 0, -10] := by decide +kernel
theorem t5_trace_det : (traceMatrix t5 2).det = -20 := by rw [t5_trace, Matrix.det_fin_two_of]; norm_num

theorem t5_invDiff : getInvDiff t5 = .ok (10, [[5, 0], [0, 1]]) := by decide +kernel
example : getInvDiff t5 = .ok (10, [[5, 0], [0, 1]]) := t5_invDiff
/-- 10² / 5 = 20 = |disc ℤ[√-5]| through the theorem -/
example : ∃ d H, getInvDiff t5 = .ok (d, H) ∧ 0 < d ∧ H.length = 2 ∧ Wid 2 H ∧
    norm H * |(traceMatrix t5 2).det| = d ^ 2 :=
  (inv_diff_norm t5 2 t5_cubic (by decide)).1 (by rw [t5_trace_det]; decide)
example : norm [[5, 0], [0, 1]] * |(-20 : ℤ)| = 10 ^ 2 := by decide +kernel
/-- √-5 (coordinates (0, 1)) is in the numerator lattice of (√-5)/10 · ℤ[√-5] … -/
example : vec 2 [0, 1] ∈ Lat 2 [[5, 0], [0, 1]] :=
  (inv_diff_membership t5 2 t5_cubic (by decide) (by rw [t5_trace_det]; decide) 10 _ t5_invDiff _).mpr
    (by rw [t5_trace]; decide +kernel)
/-- … and 1 is not -/
example : vec 2 [1, 0] ∉ Lat 2 [[5, 0], [0, 1]] := fun h =>
  absurd ((inv_diff_membership t5 2 t5_cubic (by decide) (by rw [t5_trace_det]; decide) 10 _
    t5_invDiff _).mp h) (by rw [t5_trace]; decide +kernel)

/-- a singular trace form: the table of ℚ[x]/(x²) panics -/
example : getInvDiff [[[1, 0], [0, 1]], [[0, 1], [0, 0]]] = .error "panic unwrap" := by decide +kernel

theorem canon_sq_add (c : ℤ) : NTV.PolyG.Canon [c, 0, 1] := by intro _; simp

/-- ℤ[i]: inverse different (1/2)·ℤ[i], 2² / 1 = 4 = |−4| -/
example : ∃ d H D, getInvDiff [[[1, 0], [0, 1]], [[0, 1], [-1, 0]]] = .ok (d, H) ∧
    NTV.Ord.discriminantOrd [[1, 0], [0, 1]] [1, 0, 1] = .ok D ∧ D ≠ 0 ∧ 0 < d ∧ H.length = 2 ∧
    d ^ 2 = norm H * |D| :=
  (inv_diff_disc [1, 0, 1] [[1, 0], [0, 1]] 2 (canon_sq_add 1) rfl (by norm_num) NTV.C14.gauss_rect
    NTV.C14.gauss_det _ NTV.C14.gauss_isTable).1 (by
      rw [← NTV.C05.discriminant_is_discr_partial [1, 0, 1] (canon_sq_add 1) (by decide) (-4)
        (by decide +kernel)]
      decide)

theorem gauss_invDiff : getInvDiff tGauss = .ok (2, [[1, 0], [0, 1]]) := by decide +kernel
example : getInvDiff [[[1, 0], [0, 1]], [[0, 1], [-1, 0]]] = .ok (2, [[1, 0], [0, 1]]) ∧
    NTV.Ord.discriminantOrd [[1, 0], [0, 1]] [1, 0, 1] = .ok (-4) := ⟨gauss_invDiff, by decide +kernel⟩

/-- Dedekind's cubic field, maximal order (not a power basis, non-trivial basis matrix): 503³ / 503² = 503 -/
example : getInvDiff [[[1, 0, 0], [0, 1, 0], [0, 0, 1]], [[0, 1, 0], [0, -1, 2], [4, 0, 2]],
      [[0, 0, 1], [4, 0, 2], [6, 2, 3]]] = .ok (503, [[503, 0, 0], [0, 503, 0], [108, 176, 1]]) ∧
    NTV.Ord.discriminantOrd [[1, 0, 0], [0, 1, 0], [0, 1/2, 1/2]] [-8, -2, -1, 1] = .ok (-503) := by
  decide +kernel
example := trace_matrix_det_is_discriminant [-8, -2, -1, 1] [[1, 0, 0], [0, 1, 0], [0, 1/2, 1/2]] 3
  (by intro _; simp) rfl (by norm_num) ⟨rfl, by simp⟩ NTV.C14.dedekind_det _ NTV.C14.dedekind_isTable


/-! ## The norm: index of the lattice, norm of a principal ideal, multiplicativity

Further vocabulary (`NTV.IdealP`, Proofs/Lemmas/IdealNorm*.lean):
* `RT T` — for `T : TableRing t n`, the commutative ring on ℤⁿ with product `⋆` and identity `e_0` (a type
  synonym of `Fin n → ℤ`; free of rank n over ℤ); `RT.toVec T : RT T ≃ₗ[ℤ] (Fin n → ℤ)` is the identity map;
* `toIdeal T I oI : Ideal (RT T)` — the ideal whose elements are the vectors of `Lat n I`, for an ideal `I`
  of the order (`oI : IsOIdeal t n I`).
An ideal "in normal form" is `I = HNF::new(I₀)` as before; "full rank" is `I.length = n` (n rows). -/

/-- **norm = index.** For a non-empty ideal in normal form, `norm` is the number of elements of ℤⁿ ⧸ L(I),
i.e. the index [ℤⁿ : L(I)] (`Nat.card` and `AddSubgroup.index` are 0 for an infinite quotient); it is
positive exactly when I has n rows. (For the empty matrix — the zero ideal — `norm` returns 1 although the
index is infinite: `norm_zero_ideal` below; the code does the same.) -/
theorem norm_is_lattice_index (n : Nat) (hn : 0 < n) (I₀ I : HNF) (hI₀ : Wid n I₀)
    (hnf : NTV.Ideal.hnfNew I₀ = .ok I) (hne : I ≠ []) :
    norm I = (Nat.card ((Fin n → ℤ) ⧸ Lat n I) : ℤ) ∧ norm I = ((Lat n I).toAddSubgroup.index : ℤ) ∧
      (0 < norm I ↔ I.length = n) := by
  obtain ⟨hW, ⟨pv, hH⟩, _⟩ := ideal_hnfNew_spec hI₀ hn hnf
  have h1 : norm I = (Nat.card ((Fin n → ℤ) ⧸ Lat n I) : ℤ) := by
    by_cases hfull : I.length = n
    · exact (norm_eq_card hn hW hH hfull).2
    · rw [norm_eq_zero_of_not_full hW hne hfull, card_quot_eq_zero_of_not_full hH hfull]; rfl
  -- `AddSubgroup.index` is by definition `Nat.card` of the quotient: the second conjunct is the first
  refine ⟨h1, h1, ?_⟩
  constructor
  · intro hpos
    by_contra hfull
    rw [norm_eq_zero_of_not_full hW hne hfull] at hpos
    exact absurd hpos (by simp)
  · intro hfull; exact (norm_eq_card hn hW hH hfull).1

/-- for a full-rank ideal the norm is positive, is the index, and `norm · ℤⁿ ⊆ L(I)` -/
theorem norm_full_rank (n : Nat) (hn : 0 < n) (I₀ I : HNF) (hI₀ : Wid n I₀)
    (hnf : NTV.Ideal.hnfNew I₀ = .ok I) (hfull : I.length = n) :
    0 < norm I ∧ norm I = (Nat.card ((Fin n → ℤ) ⧸ Lat n I) : ℤ) ∧ ∀ y : Fin n → ℤ, norm I • y ∈ Lat n I := by
  obtain ⟨hW, ⟨pv, hH⟩, _⟩ := ideal_hnfNew_spec hI₀ hn hnf
  obtain ⟨h1, h2⟩ := norm_eq_card hn hW hH hfull
  exact ⟨h1, h2, norm_smul_mem hn hW hH hfull⟩

/-- the zero ideal (empty basis) is reported with norm 1 -/
theorem norm_zero_ideal : norm [] = 1 := rfl

/-- **norm of a principal ideal.** For x of non-zero norm nm (`MultTable::norm`), `principal` returns a
full-rank ideal of the order whose norm is |nm|. -/
theorem norm_principal (t : Table) (n : Nat) (T : TableRing t n) (x : List Int) (hx : x.length = n)
    (nm : Int) (hnm : NTV.Ord.tnorm t x = .ok nm) (hne : nm ≠ 0) :
    ∃ P, principal t x = .ok P ∧ P.length = n ∧ Wid n P ∧ IsOIdeal t n P ∧ norm P = |nm| := by
  obtain ⟨P, h1, h2, h3, h4⟩ := principal_norm_core T.pos T.len hx hnm hne
  exact ⟨P, h1, h2, h3, (principal_spec T hx h1).2.2.2, h4⟩

/-- … and for a non-zero x of norm 0 (a zero divisor of the table ring) the ideal is not of full rank and its
norm is 0 = |nm|. For x = 0 the result is the empty basis, of norm 1 (`norm_zero_ideal`): the only case where
`norm (x) ≠ |norm x|`. -/
theorem norm_principal_zero_divisor (t : Table) (n : Nat) (T : TableRing t n) (x : List Int)
    (hx : x.length = n) (hnm : NTV.Ord.tnorm t x = .ok 0) (hx0 : ∃ i < n, x.getD i 0 ≠ 0) :
    ∃ P, principal t x = .ok P ∧ P ≠ [] ∧ P.length ≠ n ∧ norm P = 0 := by
  apply principal_norm_zero_core T hx hnm
  obtain ⟨i, hi, hxi⟩ := hx0
  intro h
  exact hxi (congrFun h ⟨i, hi⟩)

/-- the product of two full-rank ideals has full rank (no panic; every table ring) -/
theorem product_full_rank (t : Table) (n : Nat) (T : TableRing t n) (I₀ J₀ I J : HNF) (hI₀ : Wid n I₀)
    (hJ₀ : Wid n J₀) (hI : NTV.Ideal.hnfNew I₀ = .ok I) (hJ : NTV.Ideal.hnfNew J₀ = .ok J)
    (fI : I.length = n) (fJ : J.length = n) : ∃ P, mul t I J = .ok P ∧ P.length = n := by
  obtain ⟨wI, ⟨pvI, hHI⟩, _⟩ := ideal_hnfNew_spec hI₀ T.pos hI
  obtain ⟨wJ, ⟨pvJ, hHJ⟩, _⟩ := ideal_hnfNew_spec hJ₀ T.pos hJ
  obtain ⟨P, h, _⟩ := mul_total T.len T.pos wI wJ
  exact ⟨P, h, mul_full_rank T wI wJ hHI hHJ fI fJ h⟩

/-- ideals of the order are the ideals of the ring `RT T`: membership, … -/
theorem toIdeal_mem (t : Table) (n : Nat) (T : TableRing t n) (I : HNF) (oI : IsOIdeal t n I) (x : RT T) :
    x ∈ toIdeal T I oI ↔ RT.toVec T x ∈ Lat n I := Iff.rfl

/-- … the product of the model is the product of ideals, … -/
theorem toIdeal_product (t : Table) (n : Nat) (T : TableRing t n) (I J P : HNF) (hI : Wid n I) (hJ : Wid n J)
    (oI : IsOIdeal t n I) (oJ : IsOIdeal t n J) (h : mul t I J = .ok P) :
    ∃ oP : IsOIdeal t n P, toIdeal T P oP = toIdeal T I oI * toIdeal T J oJ :=
  ⟨product_of_ideals t n T I J P hI hJ oI h, toIdeal_mul T hI hJ oI oJ h _⟩

/-- … and the model's norm of a full-rank ideal is the number of elements of the quotient ring `RT T ⧸ I`
(Mathlib's `Submodule.cardQuot`, which is `Ideal.absNorm` for Dedekind domains) -/
theorem norm_is_cardQuot (t : Table) (n : Nat) (T : TableRing t n) (I₀ I : HNF) (hI₀ : Wid n I₀)
    (hnf : NTV.Ideal.hnfNew I₀ = .ok I) (hfull : I.length = n) (oI : IsOIdeal t n I) :
    norm I = (Submodule.cardQuot (toIdeal T I oI) : ℤ) ∧
      norm I = (Nat.card (RT T ⧸ toIdeal T I oI) : ℤ) := by
  obtain ⟨hW, ⟨pv, hH⟩, _⟩ := ideal_hnfNew_spec hI₀ T.pos hnf
  have := norm_eq_cardQuot T hW hH hfull oI
  exact ⟨this, by rw [this, Submodule.cardQuot_apply]⟩

/-- **the norm is multiplicative**, under the hypothesis `IsDedekindDomain (RT T)`, i.e. that the
ring defined by the table is a Dedekind domain. This is what a maximal order of a number field provides
(`norm_multiplicative_of_integrallyClosed`: domain + integrally closed suffices); for the maximal order returned by
Round 2 the hypothesis is discharged in `maximal_order_integrally_closed`, giving
`norm_multiplicative_maximal_order`. Without it the statement is false (`norm_not_multiplicative_nonmaximal`). For full-rank ideals I, J of the order in normal form, `mul` does
not panic, the product is a full-rank ideal of the order and `norm (I·J) = norm I · norm J`; moreover the norm
is Mathlib's `Ideal.absNorm`. -/
theorem norm_multiplicative (t : Table) (n : Nat) (T : TableRing t n) (hD : IsDedekindDomain (RT T))
    (I₀ J₀ I J : HNF) (hI₀ : Wid n I₀) (hJ₀ : Wid n J₀) (hI : NTV.Ideal.hnfNew I₀ = .ok I)
    (hJ : NTV.Ideal.hnfNew J₀ = .ok J) (fI : I.length = n) (fJ : J.length = n)
    (oI : IsOIdeal t n I) (oJ : IsOIdeal t n J) :
    ∃ P, mul t I J = .ok P ∧ P.length = n ∧ IsOIdeal t n P ∧ norm P = norm I * norm J ∧
      norm I = (Ideal.absNorm (toIdeal T I oI) : ℤ) ∧ norm J = (Ideal.absNorm (toIdeal T J oJ) : ℤ) := by
  obtain ⟨wI, ⟨pvI, hHI⟩, _⟩ := ideal_hnfNew_spec hI₀ T.pos hI
  obtain ⟨wJ, ⟨pvJ, hHJ⟩, _⟩ := ideal_hnfNew_spec hJ₀ T.pos hJ
  obtain ⟨P, h1, h2, _, h4, h5⟩ := norm_mul_core T wI wJ hHI hHJ fI fJ oI oJ
  exact ⟨P, h1, h2, h4, h5, norm_eq_absNorm T wI hHI fI oI, norm_eq_absNorm T wJ hHJ fJ oJ⟩

/-- the same when the table ring is a domain and integrally closed (a maximal order) -/
theorem norm_multiplicative_of_integrallyClosed (t : Table) (n : Nat) (T : TableRing t n)
    (hdom : IsDomain (RT T)) (hic : IsIntegrallyClosed (RT T))
    (I₀ J₀ I J : HNF) (hI₀ : Wid n I₀) (hJ₀ : Wid n J₀) (hI : NTV.Ideal.hnfNew I₀ = .ok I)
    (hJ : NTV.Ideal.hnfNew J₀ = .ok J) (fI : I.length = n) (fJ : J.length = n)
    (oI : IsOIdeal t n I) (oJ : IsOIdeal t n J) :
    ∃ P, mul t I J = .ok P ∧ P.length = n ∧ IsOIdeal t n P ∧ norm P = norm I * norm J := by
  have hD := RT.isDedekindDomain_of_integrallyClosed T
  obtain ⟨P, h1, h2, h3, h4, _⟩ := norm_multiplicative t n T hD I₀ J₀ I J hI₀ hJ₀ hI hJ fI fJ oI oJ
  exact ⟨P, h1, h2, h3, h4⟩

/-! ### non-vacuity: ℤ[i] (Dedekind), ℤ[√-5], and the non-maximal order ℤ[√-3] -/

/-- (1 + i) and (2 + i) in ℤ[i] -/
def G1 : HNF := [[2, 0], [1, 1]]
def G2 : HNF := [[5, 0], [2, 1]]

theorem G1_principal : principal tGauss [1, 1] = .ok G1 := by decide +kernel
theorem G2_principal : principal tGauss [2, 1] = .ok G2 := by decide +kernel
theorem G1_wid : Wid 2 G1 := by unfold Wid G1; decide
theorem G2_wid : Wid 2 G2 := by unfold Wid G2; decide
theorem G1_hnf : NTV.Ideal.hnfNew G1 = .ok G1 := by decide +kernel
theorem G2_hnf : NTV.Ideal.hnfNew G2 = .ok G2 := by decide +kernel

example : principal tGauss [1, 1] = .ok G1 ∧ principal tGauss [2, 1] = .ok G2 := ⟨G1_principal, G2_principal⟩
example : NTV.Ord.tnorm tGauss [1, 1] = .ok 2 ∧ NTV.Ord.tnorm tGauss [2, 1] = .ok 5 := by decide +kernel

/-- the hypotheses of `norm_principal` are satisfiable, and it computes norm (2 + i) = 5 -/
example : ∃ P, principal tGauss [2, 1] = .ok P ∧ P.length = 2 ∧ Wid 2 P ∧ IsOIdeal tGauss 2 P ∧ norm P = |5| :=
  norm_principal tGauss 2 tGauss_ring [2, 1] rfl 5 (by decide +kernel) (by decide)

theorem G1_ideal : IsOIdeal tGauss 2 G1 :=
  (principal_spec tGauss_ring (x := [1, 1]) rfl G1_principal).2.2.2

theorem G2_ideal : IsOIdeal tGauss 2 G2 :=
  (principal_spec tGauss_ring (x := [2, 1]) rfl G2_principal).2.2.2

/-- the hypotheses of `norm_multiplicative` are satisfiable: ℤ[i] is a Dedekind domain
(`gauss_isDedekindDomain`), I = (1 + i), J = (2 + i) -/
example : ∃ P, mul tGauss G1 G2 = .ok P ∧ P.length = 2 ∧ IsOIdeal tGauss 2 P ∧ norm P = norm G1 * norm G2 ∧
    norm G1 = (Ideal.absNorm (toIdeal tGauss_ring G1 G1_ideal) : ℤ) ∧
    norm G2 = (Ideal.absNorm (toIdeal tGauss_ring G2 G2_ideal) : ℤ) :=
  norm_multiplicative tGauss 2 tGauss_ring gauss_isDedekindDomain G1 G2 G1 G2 G1_wid G2_wid G1_hnf G2_hnf rfl rfl
    G1_ideal G2_ideal

example : mul tGauss G1 G2 = .ok [[10, 0], [7, 1]] ∧ norm [[10, 0], [7, 1]] = 10 ∧ norm G1 = 2 ∧ norm G2 = 5 := by
  decide +kernel

/-- norm = index on (2, 1 + √-5) ⊂ ℤ[√-5]: index 2 -/
example : norm I5 = (Nat.card ((Fin 2 → ℤ) ⧸ Lat 2 I5) : ℤ) ∧ norm I5 = ((Lat 2 I5).toAddSubgroup.index : ℤ) ∧
    (0 < norm I5 ↔ I5.length = 2) :=
  norm_is_lattice_index 2 (by decide) I5gen I5 I5gen_wid I5_hnf (by decide)
example : norm I5 = 2 := by decide +kernel
example := norm_full_rank 2 (by decide) I5gen I5 I5gen_wid I5_hnf rfl
example := product_full_rank t5 2 t5_ring I5gen I5gen I5 I5 I5gen_wid I5gen_wid I5_hnf I5_hnf rfl rfl
example := norm_is_cardQuot t5 2 t5_ring I5gen I5 I5gen_wid I5_hnf rfl I5_ideal
example := toIdeal_product t5 2 t5_ring I5 I5 [[2, 0], [0, 2]] I5_wid I5_wid I5_ideal I5_ideal I5_sq

/-- a zero divisor: the table of ℤ × ℤ in the basis e_0 = (1, 1), ω = (1, 0) (so ω² = ω); ω has norm 0 and (ω)
has rank 1 -/
def tSplit : Table := [[[1, 0], [0, 1]], [[0, 1], [0, 1]]]
theorem tSplit_ring : TableRing tSplit 2 := TableRing.of_consts (by decide +kernel)
example : ∃ P, principal tSplit [0, 1] = .ok P ∧ P ≠ [] ∧ P.length ≠ 2 ∧ norm P = 0 :=
  norm_principal_zero_divisor tSplit 2 tSplit_ring [0, 1] rfl (by decide +kernel) ⟨1, by decide, by decide⟩
example : principal tSplit [0, 1] = .ok [[0, 1]] := by decide +kernel
/-- the zero element: `principal` returns the empty basis, whose norm is 1 (not 0) -/
example : principal tGauss [0, 0] = .ok [] ∧ norm [] = 1 ∧ NTV.Ord.tnorm tGauss [0, 0] = .ok 0 := by
  decide +kernel

/-- the Dedekind hypothesis cannot be dropped: in the non-maximal order ℤ[√-3] the ideal I = (2, 1 + √-3) has
norm 2 but I·I = 2·I has norm 8 -/
def t3 : Table := [[[1, 0], [0, 1]], [[0, 1], [-3, 0]]]
theorem t3_ring : TableRing t3 2 := TableRing.of_consts (by decide +kernel)

theorem norm_not_multiplicative_nonmaximal :
    TableRing t3 2 ∧ NTV.Ideal.hnfNew [[2, 0], [1, 1]] = .ok [[2, 0], [1, 1]] ∧
      add [[2, 0], [0, 2]] [[4, 0], [1, 1]] = .ok [[2, 0], [1, 1]] ∧
      principal t3 [2, 0] = .ok [[2, 0], [0, 2]] ∧ principal t3 [1, 1] = .ok [[4, 0], [1, 1]] ∧
      mul t3 [[2, 0], [1, 1]] [[2, 0], [1, 1]] = .ok [[4, 0], [2, 2]] ∧
      norm [[2, 0], [1, 1]] = 2 ∧ norm [[4, 0], [2, 2]] = 8 :=
  ⟨t3_ring, by decide +kernel, by decide +kernel, by decide +kernel,
    by decide +kernel, by decide +kernel, by decide +kernel, by decide +kernel⟩


/-! ## The table of an order of ℚ[x]/(f) (setting of C14)

`basis` is the n × n non-singular basis matrix of the order with first row 1, 0, …, 0 (ω_0 = 1, as for every
HNF basis), `t` the table returned by `get_mult_table`. -/

/-- the table returned by `get_mult_table` for an order with ω_0 = 1 satisfies `TableRing` (so every theorem of
this file with that hypothesis applies to it) -/
theorem order_table_is_ring (f : List Int) (basis : NTV.Ord.QMat) (n : Nat) (hf : NTV.PolyG.Canon f)
    (hlen : f.length = n + 1) (hn : 1 ≤ n) (hr : NTV.RowOps.Rect n n basis)
    (hdet : (NTV.RowOps.toM n n basis).det ≠ 0)
    (h0 : basis.getD 0 [] = 1 :: List.replicate (n - 1) 0) (t : Table)
    (h : NTV.Ord.getMultTable basis f = .ok t) : TableRing t n :=
  tableRing_of_isTable ⟨hf, hlen, hn, hr, hdet⟩ (NTV.C14.table_entries f basis n hf hlen hn hr hdet t h) h0

/-- when f is irreducible over ℚ the ring of the table is a domain -/
theorem order_table_is_domain (f : List Int) (basis : NTV.Ord.QMat) (n : Nat) (hf : NTV.PolyG.Canon f)
    (hlen : f.length = n + 1) (hn : 1 ≤ n) (hr : NTV.RowOps.Rect n n basis)
    (hdet : (NTV.RowOps.toM n n basis).det ≠ 0) (hirr : Irreducible (NTV.Alg.modulus f)) (t : Table)
    (h : NTV.Ord.getMultTable basis f = .ok t) (T : TableRing t n) : IsDomain (RT T) :=
  isDomain_of_isTable ⟨hf, hlen, hn, hr, hdet⟩ (NTV.C14.table_entries f basis n hf hlen hn hr hdet t h) hirr T

/-- **the norm is multiplicative in a maximal order**: for the table of an order of the number
field ℚ[x]/(f) (f irreducible), under the hypothesis `IsIntegrallyClosed (RT T)` ("the order is maximal",
stated on the ring of the table; `maximal_order_integrally_closed` discharges it for the basis returned by the
Round 2 routine, see `norm_multiplicative_maximal_order`). -/
theorem norm_multiplicative_order (f : List Int) (basis : NTV.Ord.QMat) (n : Nat) (hf : NTV.PolyG.Canon f)
    (hlen : f.length = n + 1) (hn : 1 ≤ n) (hr : NTV.RowOps.Rect n n basis)
    (hdet : (NTV.RowOps.toM n n basis).det ≠ 0) (hirr : Irreducible (NTV.Alg.modulus f)) (t : Table)
    (h : NTV.Ord.getMultTable basis f = .ok t) (T : TableRing t n) (hmax : IsIntegrallyClosed (RT T))
    (I₀ J₀ I J : HNF) (hI₀ : Wid n I₀) (hJ₀ : Wid n J₀) (hI : NTV.Ideal.hnfNew I₀ = .ok I)
    (hJ : NTV.Ideal.hnfNew J₀ = .ok J) (fI : I.length = n) (fJ : J.length = n)
    (oI : IsOIdeal t n I) (oJ : IsOIdeal t n J) :
    ∃ P, mul t I J = .ok P ∧ P.length = n ∧ IsOIdeal t n P ∧ norm P = norm I * norm J :=
  norm_multiplicative_of_integrallyClosed t n T
    (order_table_is_domain f basis n hf hlen hn hr hdet hirr t h T) hmax I₀ J₀ I J hI₀ hJ₀ hI hJ fI fJ oI oJ

/-! ### non-vacuity: ℤ[i] -/

theorem irreducible_sq_add (c : ℤ) (hc : 0 < c) : Irreducible (NTV.Alg.modulus [c, 0, 1]) := by
  have hm : NTV.Alg.modulus [c, 0, 1] = Polynomial.X ^ 2 + Polynomial.C (c : ℚ) := by
    show Polynomial.C (c : ℚ) + Polynomial.X * (Polynomial.C ((0 : ℤ) : ℚ) + Polynomial.X *
      (Polynomial.C ((1 : ℤ) : ℚ) + Polynomial.X * 0)) = _
    rw [Int.cast_zero, Int.cast_one, Polynomial.C_0, Polynomial.C_1]
    ring
  rw [hm]
  apply Polynomial.irreducible_of_degree_le_three_of_not_isRoot
  · rw [Polynomial.natDegree_X_pow_add_C]; decide
  · intro x hx
    simp only [Polynomial.IsRoot, Polynomial.eval_add, Polynomial.eval_pow, Polynomial.eval_X,
      Polynomial.eval_C] at hx
    have hc' : (0 : ℚ) < c := Int.cast_pos.mpr hc
    exact absurd hx (ne_of_gt (add_pos_of_nonneg_of_pos (sq_nonneg x) hc'))

theorem gauss_irreducible : Irreducible (NTV.Alg.modulus [1, 0, 1]) := irreducible_sq_add 1 (by decide)

example : TableRing tGauss 2 :=
  order_table_is_ring [1, 0, 1] [[1, 0], [0, 1]] 2 (canon_sq_add 1) rfl (by norm_num) NTV.C14.gauss_rect
    NTV.C14.gauss_det rfl tGauss NTV.C14.gauss_table

/-- the hypotheses of `norm_multiplicative_order` are satisfiable (ℤ[i] is integrally closed, being a
Dedekind domain) -/
example : ∃ P, mul tGauss G1 G2 = .ok P ∧ P.length = 2 ∧ IsOIdeal tGauss 2 P ∧ norm P = norm G1 * norm G2 :=
  norm_multiplicative_order [1, 0, 1] [[1, 0], [0, 1]] 2 (canon_sq_add 1) rfl (by norm_num) NTV.C14.gauss_rect
    NTV.C14.gauss_det gauss_irreducible tGauss NTV.C14.gauss_table tGauss_ring inferInstance
    G1 G2 G1 G2 G1_wid G2_wid G1_hnf G2_hnf rfl rfl G1_ideal G2_ideal


/-! ## The maximal order returned by Round 2 (C06): no Dedekind / integral-closedness hypothesis left

`NTV.Round2.findIntegralBasis f = .ok O` (C06: `O` is closed under multiplication and contains every order that
contains it). For `f` irreducible over ℚ the ring `RT T` of the table of `O` is an integrally closed domain — a
Dedekind domain — so the norm of full-rank `O`-ideals is multiplicative. `NTV.KD.Rt T` is the second construction of
the same ring, used by C17. Lemmas: `Proofs/Lemmas/MaxOrderClosedA.lean` (commutative algebra: a finite ℤ-algebra of
full rank in a field with no proper over-ring of finite index is integrally closed), `MaxOrderClosedB.lean` (the
stored basis of an order containing 1 has first row (1, 0, …, 0)), `MaxOrderClosedC.lean` (the model). -/

/-- **the two rings of a table are the same ring**: `RT T` (this file) and `NTV.KD.Rt T` (C17) are both `ℤⁿ` with the
product `⋆`; the identity map is a ring isomorphism, so ring-theoretic hypotheses transfer -/
theorem table_rings_agree (t : Table) (n : Nat) (T : TableRing t n) :
    (∃ e : RT T ≃+* NTV.KD.Rt T, ∀ x, NTV.KD.toVec T (e x) = RT.toVec T x) ∧
    (IsDomain (NTV.KD.Rt T) ↔ IsDomain (RT T)) ∧
    (IsIntegrallyClosed (NTV.KD.Rt T) ↔ IsIntegrallyClosed (RT T)) :=
  ⟨⟨NTV.MaxOrd.rtEquiv T, NTV.MaxOrd.rtEquiv_toVec T⟩, NTV.MaxOrd.isDomain_Rt_iff T,
    NTV.MaxOrd.isIntegrallyClosed_Rt_iff T⟩

/-- **the reduction "integrally closed ⇐ no strictly larger order"**, stand-alone: `R` a commutative ring, finite as
a ℤ-module, embedded in a field `K`, such that every element of `K` has a non-zero integer multiple in (the image of)
`R` and every subring `S ⊇ R` of `K` with `m·S ⊆ R` for some `m ≥ 1` is `R`. Then `R` is integrally closed. -/
theorem integrallyClosed_of_no_larger_order {R K : Type*} [CommRing R] [Field K] [Algebra R K] [Module.Finite ℤ R]
    (hinj : Function.Injective (algebraMap R K))
    (hspan : ∀ x : K, ∃ d : ℕ, d ≠ 0 ∧ (d : K) * x ∈ (algebraMap R K).range)
    (hmax : ∀ m : ℕ, 1 ≤ m → ∀ S : Subring K, (algebraMap R K).range ≤ S →
      (∀ x ∈ S, (m : K) * x ∈ (algebraMap R K).range) → S ≤ (algebraMap R K).range) :
    IsIntegrallyClosed R :=
  NTV.MaxOrd.isIntegrallyClosed_of_range hinj (NTV.MaxOrd.mem_range_of_isIntegral hspan hmax)

/-- **the maximal order is integrally closed.** For `f` canonical and irreducible over ℚ (n = deg f): if
`find_integral_basis(f)` returns `O`, then `get_mult_table` succeeds on `O` (no integrality assertion fires: `O` is
closed under multiplication), the first basis vector is ω_0 = 1 (first row (1, 0, …, 0)), the table `t` is a
`TableRing`, and its ring — in both constructions `RT T`, `NTV.KD.Rt T` — is an integrally closed domain, hence a
Dedekind domain. -/
theorem maximal_order_integrally_closed (f : List Int) (hf : NTV.PolyG.Canon f)
    (hirr : Irreducible (NTV.Alg.modulus f)) (O : NTV.Ord.QMat) (H : NTV.Round2.findIntegralBasis f = .ok O) :
    ∃ t : Table, NTV.Ord.getMultTable O f = .ok t ∧
      O.getD 0 [] = 1 :: List.replicate (NTV.PolyG.degU f - 1) 0 ∧ TableRing t (NTV.PolyG.degU f) ∧
      ∀ T : TableRing t (NTV.PolyG.degU f), IsDomain (RT T) ∧ IsIntegrallyClosed (RT T) ∧
        IsDedekindDomain (RT T) ∧ IsDomain (NTV.KD.Rt T) ∧ IsIntegrallyClosed (NTV.KD.Rt T) := by
  obtain ⟨hget, ht, h0, hall⟩ := NTV.MaxOrd.findIntegralBasis_integrallyClosed f hf hirr O H
  have g := NTV.Round2.findIntegralBasis_good f hf O H
  refine ⟨_, hget, h0, tableRing_of_isTable g.setup ht h0, fun T => ?_⟩
  obtain ⟨hd, hic⟩ := hall T
  exact ⟨hd, hic, RT.isDedekindDomain_of_integrallyClosed T, (NTV.MaxOrd.isDomain_Rt_iff T).mpr hd,
    (NTV.MaxOrd.isIntegrallyClosed_Rt_iff T).mpr hic⟩

/-- **the norm is multiplicative in the maximal order** (no Dedekind or integral-closedness hypothesis): for
`f` canonical and irreducible over ℚ, `O` the result of `find_integral_basis(f)`, `t` the table returned by
`get_mult_table` on `O` (n = deg f), and full-rank ideals `I`, `J` of the order in normal form: `mul` does not panic,
the product is a full-rank ideal of the order and `norm (I·J) = norm I · norm J`. -/
theorem norm_multiplicative_maximal_order (f : List Int) (hf : NTV.PolyG.Canon f)
    (hirr : Irreducible (NTV.Alg.modulus f)) (O : NTV.Ord.QMat) (H : NTV.Round2.findIntegralBasis f = .ok O)
    (t : Table) (ht : NTV.Ord.getMultTable O f = .ok t)
    (I₀ J₀ I J : HNF) (hI₀ : Wid (NTV.PolyG.degU f) I₀) (hJ₀ : Wid (NTV.PolyG.degU f) J₀)
    (hI : NTV.Ideal.hnfNew I₀ = .ok I) (hJ : NTV.Ideal.hnfNew J₀ = .ok J)
    (fI : I.length = NTV.PolyG.degU f) (fJ : J.length = NTV.PolyG.degU f)
    (oI : IsOIdeal t (NTV.PolyG.degU f) I) (oJ : IsOIdeal t (NTV.PolyG.degU f) J) :
    TableRing t (NTV.PolyG.degU f) ∧
    ∃ P, mul t I J = .ok P ∧ P.length = NTV.PolyG.degU f ∧ IsOIdeal t (NTV.PolyG.degU f) P ∧
      norm P = norm I * norm J := by
  obtain ⟨t', ht', _, T, hall⟩ := maximal_order_integrally_closed f hf hirr O H
  rw [ht] at ht'
  cases ht'
  obtain ⟨hd, hic, _⟩ := hall T
  exact ⟨T, norm_multiplicative_of_integrallyClosed t _ T hd hic I₀ J₀ I J hI₀ hJ₀ hI hJ fI fJ oI oJ⟩

/-! ### non-vacuity: the Eisenstein integers ℤ[(1+√−3)/2] = the Round 2 output for f = x² + 3 (index 2 in ℤ[√−3],
where the norm is NOT multiplicative: `norm_not_multiplicative_nonmaximal`) -/

theorem eisenstein_irreducible : Irreducible (NTV.Alg.modulus [3, 0, 1]) := irreducible_sq_add 3 (by decide)

theorem eisenstein_basis : NTV.Round2.findIntegralBasis [3, 0, 1] = .ok [[1, 0], [1/2, 1/2]] := by decide +kernel

/-- the table of ℤ[ω], ω = (1+√−3)/2: ω² = ω − 1 -/
def tEis : Table := [[[1, 0], [0, 1]], [[0, 1], [-1, 1]]]
theorem eisenstein_table : NTV.Ord.getMultTable [[1, 0], [1/2, 1/2]] [3, 0, 1] = .ok tEis := by decide +kernel

example : ∃ t : Table, NTV.Ord.getMultTable [[1, 0], [1/2, 1/2]] [3, 0, 1] = .ok t ∧
    ([[1, 0], [1/2, 1/2]] : NTV.Ord.QMat).getD 0 [] = 1 :: List.replicate (NTV.PolyG.degU [3, 0, 1] - 1) 0 ∧
    TableRing t (NTV.PolyG.degU [3, 0, 1]) ∧
    ∀ T : TableRing t (NTV.PolyG.degU [3, 0, 1]), IsDomain (RT T) ∧ IsIntegrallyClosed (RT T) ∧
      IsDedekindDomain (RT T) ∧ IsDomain (NTV.KD.Rt T) ∧ IsIntegrallyClosed (NTV.KD.Rt T) :=
  maximal_order_integrally_closed [3, 0, 1] (canon_sq_add 3) eisenstein_irreducible _ eisenstein_basis

/-- (1 + ω) of norm 3 and (2 + ω) of norm 7 -/
def E1 : HNF := [[3, 0], [1, 1]]
def E2 : HNF := [[7, 0], [2, 1]]

theorem tEis_ring : TableRing tEis 2 := TableRing.of_consts (by decide +kernel)

theorem E1_ideal : IsOIdeal tEis 2 E1 :=
  (principal_spec tEis_ring (x := [1, 1]) rfl (by decide +kernel)).2.2.2

theorem E2_ideal : IsOIdeal tEis 2 E2 :=
  (principal_spec tEis_ring (x := [2, 1]) rfl (by decide +kernel)).2.2.2

/-- the hypotheses of `norm_multiplicative_maximal_order` are satisfiable: 3 · 7 = 21 -/
example : TableRing tEis 2 ∧ ∃ P, mul tEis E1 E2 = .ok P ∧ P.length = 2 ∧ IsOIdeal tEis 2 P ∧
    norm P = norm E1 * norm E2 :=
  norm_multiplicative_maximal_order [3, 0, 1] (canon_sq_add 3) eisenstein_irreducible _ eisenstein_basis tEis
    eisenstein_table E1 E2 E1 E2 (by unfold Wid E1; decide) (by unfold Wid E2; decide) (by decide +kernel)
    (by decide +kernel) rfl rfl E1_ideal E2_ideal

example : mul tEis E1 E2 = .ok [[21, 0], [16, 1]] ∧ norm [[21, 0], [16, 1]] = 21 ∧ norm E1 = 3 ∧ norm E2 = 7 := by
  decide +kernel


/-! ## The inverse of an ideal (`Ideal::inv`): "the inverse routine returns (N, d) with I · N = (d)"

`Ideal::inv(&self, inv_diff)` returns the fractional ideal `N / a` (`FracIdeal { denom: a, numer: N }`) with
`a = cap_z(I)`; the clause is `I · N = (a)`. The routine forms `C = I · numer(inv_diff)`, the matrix
`tc[i][j] = trace(ω_i · c_j)` (`c_j` the rows of `C`), divides `a · denom(inv_diff) · Id` exactly on the right by `tc`
and normalises the quotient. Further vocabulary (`NTV.IdealInv`, Proofs/Lemmas/IdealInv*.lean):
* `trForm t n v w` — the trace form `Tr(v ⋆ w)`, where `Tr` is what `MultTable::trace` computes (the trace of the
  regular representation, C14); its Gram matrix is `traceMatrix t n` (`trace_form_computes`).
Lemmas: `IdealInvA` (exact right division by a non-singular integer matrix), `IdealInvB` (trace form, the inverse
different as a dual lattice), `IdealInvC` (the lattice computed), `IdealInvD` (the model step by step), `IdealInvE`
(Dedekind: to contain is to divide), `IdealInvF` (non-degenerate trace form for irreducible f).
Labels: (V1) what `inv` computes, (V2) `I · N = (a)` in a Dedekind table ring, (V3) the same in the maximal order. -/
open NTV.IdealInv (trForm)
open scoped Matrix

/-- `trForm` is the trace of the product, as the model computes it, and the bilinear form of the trace matrix -/
theorem trace_form_computes (t : Table) (n : Nat) (hc : Cubic t n) (a b : List Int) (ha : a.length = n)
    (hb : b.length = n) :
    (∃ c, NTV.Ord.tmul t a b = .ok c ∧ NTV.Ord.ttrace t c = .ok (trForm t n (vec n a) (vec n b))) ∧
    trForm t n (vec n a) (vec n b) = (Matrix.vecMul (vec n a) (traceMatrix t n)) ⬝ᵥ (vec n b) := by
  refine ⟨⟨tmulV t a b, IdealP.tmul_eq hc.1 ha hb, ?_⟩, NTV.IdealInv.trForm_eq_matrix t n _ _⟩
  rw [NTV.IdealInv.ttrace_eq_tau hc.1 (by rw [tmulV_length, ha]), vec_tmulV ha]
  rfl

/-- **(V1) what `inv` computes.** For a table ring `t`, `inv_diff` the output of `get_inv_diff` (its existence means
that the trace form is non-singular) and `I` a normal form of full rank (n rows; `L(I)` need not even be closed under
the order): no step of `inv` panics — the product `C = I · numer(inv_diff)` has n rows, `tc` is non-singular and the
integer quotient `a·d · tc⁻¹` always exists — and it returns `(a, N)` with `a = cap_z(I) > 0`, `N` a full-rank ideal
of the order in normal form whose lattice is
* the `a·d`-dual of `L(C)` under the trace form (d = denom(inv_diff)): `v ∈ L(N) ⇔ a·d ∣ Tr(v ⋆ c)` for all `c ∈ L(C)`;
* equivalently the colon lattice `(a·O : I)`: `v ∈ L(N) ⇔ v ⋆ x ∈ a·ℤⁿ` for all `x ∈ L(I)`, i.e. `N / a = (O : I)`. -/
theorem inv_semantics (t : Table) (n : Nat) (T : TableRing t n) (invDiff : FracIdeal)
    (hD : getInvDiff t = .ok invDiff) (I₀ I : HNF) (hI₀ : Wid n I₀) (hnf : NTV.Ideal.hnfNew I₀ = .ok I)
    (hfull : I.length = n) :
    (traceMatrix t n).det ≠ 0 ∧
    ∃ a C N, capZ I = .ok a ∧ 0 < a ∧ mul t I invDiff.2 = .ok C ∧ C.length = n ∧
      NTV.Ideal.inv t I invDiff = .ok (a, N) ∧ N.length = n ∧ Wid n N ∧ NTV.Ideal.hnfNew N = .ok N ∧
      IsOIdeal t n N ∧
      (∀ v, v ∈ Lat n N ↔ ∀ c ∈ Lat n C, a * invDiff.1 ∣ trForm t n v c) ∧
      (∀ v, v ∈ Lat n N ↔ ∀ x ∈ Lat n I, ∃ y : Fin n → ℤ, star t n v x = a • y) := by
  obtain ⟨d, H⟩ := invDiff
  have D := NTV.IdealInv.dualData_of_getInvDiff ⟨T.len, T.shape⟩ T.pos hD
  obtain ⟨a, C, N, h1, h2, _, h4, h5, _, h7, h8, h9, _, h11, h12, h13⟩ :=
    NTV.IdealInv.inv_spec T hD hI₀ hnf hfull
  exact ⟨D.det_trace_ne_zero, a, C, N, h1, h2, h4, h5, h7, h9, h8, h11, NTV.IdealInv.colon_closed T h13, h12, h13⟩

/-- **(V2) `I · N = (a)`**, under the hypothesis `IsDedekindDomain (RT T)` (what a maximal order provides:
`inv_maximal_order`; without it the statement is false: `inv_not_inverse_nonmaximal`). For `inv_diff` the output of
`get_inv_diff` and `I` a normal form of full rank, `inv` returns `(a, N)`, `a = cap_z(I)`, `N` a full-rank ideal of the
order, and the product `I · N` and the principal ideal `(a)` are the same model output `P`, with lattice `a·ℤⁿ`. -/
theorem inv_is_fractional_inverse_partial (t : Table) (n : Nat) (T : TableRing t n)
    (hDed : IsDedekindDomain (RT T)) (invDiff : FracIdeal) (hD : getInvDiff t = .ok invDiff) (I₀ I : HNF)
    (hI₀ : Wid n I₀) (hnf : NTV.Ideal.hnfNew I₀ = .ok I) (hfull : I.length = n) :
    ∃ a N P, NTV.Ideal.inv t I invDiff = .ok (a, N) ∧ capZ I = .ok a ∧ 0 < a ∧ N.length = n ∧ Wid n N ∧
      NTV.Ideal.hnfNew N = .ok N ∧ IsOIdeal t n N ∧
      mul t I N = .ok P ∧ principal t (a :: List.replicate (n - 1) 0) = .ok P ∧
      ∀ v, v ∈ Lat n P ↔ ∃ y : Fin n → ℤ, v = a • y := by
  obtain ⟨d, H⟩ := invDiff
  obtain ⟨a, C, N, h1, h2, h3, _, _, _, h7, h8, h9, _, h11, _, h13⟩ :=
    NTV.IdealInv.inv_spec T hD hI₀ hnf hfull
  obtain ⟨hWI, _, _⟩ := ideal_hnfNew_spec hI₀ T.pos hnf
  have haI : a • e n ⟨0, T.pos⟩ ∈ Lat n I := (h3 a).mpr (dvd_refl a)
  obtain ⟨P, hP1, hP2, _, hP4⟩ := NTV.IdealInv.mul_colon_eq_principal T hWI haI h13 h8
  exact ⟨a, N, P, h7, h1, h2, h9, h8, h11, NTV.IdealInv.colon_closed T h13, hP1, hP2, hP4⟩

/-- the same on ideals of the ring `RT T`: for an ideal `I` of the order, `I · N = (a)` -/
theorem inv_ideal_product_partial (t : Table) (n : Nat) (T : TableRing t n)
    (hDed : IsDedekindDomain (RT T)) (invDiff : FracIdeal) (hD : getInvDiff t = .ok invDiff) (I₀ I : HNF)
    (hI₀ : Wid n I₀) (hnf : NTV.Ideal.hnfNew I₀ = .ok I) (hfull : I.length = n) (oI : IsOIdeal t n I) :
    ∃ a N, NTV.Ideal.inv t I invDiff = .ok (a, N) ∧ ∃ oN : IsOIdeal t n N,
      toIdeal T I oI * toIdeal T N oN = Ideal.span {((a : ℤ) : RT T)} := by
  obtain ⟨a, N, P, h1, _, _, _, hWN, _, oN, hP1, _, hP4⟩ :=
    inv_is_fractional_inverse_partial t n T hDed invDiff hD I₀ I hI₀ hnf hfull
  obtain ⟨hWI, _, _⟩ := ideal_hnfNew_spec hI₀ T.pos hnf
  refine ⟨a, N, h1, oN, ?_⟩
  obtain ⟨oP, hprod⟩ := toIdeal_product t n T I N P hWI hWN oI oN hP1
  rw [← hprod]
  ext x
  rw [toIdeal_mem, hP4, Ideal.mem_span_singleton']
  have hcast : RT.toVec T ((a : ℤ) : RT T) = a • e n ⟨0, T.pos⟩ := rfl
  constructor
  · rintro ⟨y, hy⟩
    refine ⟨RT.ofVec T y, ?_⟩
    apply (RT.toVec T).injective
    rw [RT.toVec_mul, hcast, RT.toVec_ofVec, star_smul_right, T.star_one, hy]
  · rintro ⟨r, rfl⟩
    exact ⟨RT.toVec T r, by rw [RT.toVec_mul, hcast, star_smul_right, T.star_one]⟩

/-- for `f` irreducible over ℚ the trace form of (the table of) an order of ℚ[x]/(f) is non-degenerate, so
`get_inv_diff` does not panic -/
theorem inv_diff_total_of_irreducible (f : List Int) (basis : NTV.Ord.QMat) (n : Nat) (hf : NTV.PolyG.Canon f)
    (hlen : f.length = n + 1) (hn : 1 ≤ n) (hr : NTV.RowOps.Rect n n basis)
    (hdet : (NTV.RowOps.toM n n basis).det ≠ 0) (hirr : Irreducible (NTV.Alg.modulus f)) (t : Table)
    (ht : NTV.Ord.IsTable f basis n t) :
    (traceMatrix t n).det ≠ 0 ∧ ∃ invDiff, getInvDiff t = .ok invDiff := by
  have S : NTV.Ord.Setup f basis n := ⟨hf, hlen, hn, hr, hdet⟩
  have h := S.det_traceMatrix_ne_zero t ht hirr
  obtain ⟨d, H, h1, _⟩ := (inv_diff_norm t n (NTV.Ord.isTable_shape t ht) hn).1 h
  exact ⟨h, (d, H), h1⟩

/-- **(V3) the inverse in the maximal order**: for `f` canonical and irreducible over ℚ, `O` the result of
`find_integral_basis(f)`, `t` the table returned by `get_mult_table` on `O` (n = deg f) and `I` a normal form of full
rank: `get_inv_diff` returns some `inv_diff` (no panic), `inv` returns `(a, N)` (no panic) with `a = cap_z(I) > 0`,
`N` a full-rank ideal of the order in normal form, and `I · N = (a)`: the product and the principal ideal are the same
model output `P`, whose lattice is `a·ℤⁿ`. -/
theorem inv_maximal_order (f : List Int) (hf : NTV.PolyG.Canon f)
    (hirr : Irreducible (NTV.Alg.modulus f)) (O : NTV.Ord.QMat) (H : NTV.Round2.findIntegralBasis f = .ok O)
    (t : Table) (ht : NTV.Ord.getMultTable O f = .ok t)
    (I₀ I : HNF) (hI₀ : Wid (NTV.PolyG.degU f) I₀) (hnf : NTV.Ideal.hnfNew I₀ = .ok I)
    (hfull : I.length = NTV.PolyG.degU f) :
    ∃ invDiff, getInvDiff t = .ok invDiff ∧
    ∃ a N P, NTV.Ideal.inv t I invDiff = .ok (a, N) ∧ capZ I = .ok a ∧ 0 < a ∧ N.length = NTV.PolyG.degU f ∧
      Wid (NTV.PolyG.degU f) N ∧ NTV.Ideal.hnfNew N = .ok N ∧ IsOIdeal t (NTV.PolyG.degU f) N ∧
      mul t I N = .ok P ∧ principal t (a :: List.replicate (NTV.PolyG.degU f - 1) 0) = .ok P ∧
      ∀ v, v ∈ Lat (NTV.PolyG.degU f) P ↔ ∃ y : Fin (NTV.PolyG.degU f) → ℤ, v = a • y := by
  obtain ⟨t', ht', _, T, hall⟩ := maximal_order_integrally_closed f hf hirr O H
  rw [ht] at ht'
  cases ht'
  obtain ⟨_, _, hDed, _⟩ := hall T
  have g := (NTV.Round2.findIntegralBasis_good f hf O H).setup
  obtain ⟨_, invDiff, hD⟩ := inv_diff_total_of_irreducible f O _ g.canon g.len g.pos g.rect g.det hirr t
    (NTV.C14.table_entries f O _ g.canon g.len g.pos g.rect g.det t ht)
  exact ⟨invDiff, hD, inv_is_fractional_inverse_partial _ _ T hDed invDiff hD I₀ I hI₀ hnf hfull⟩

/-! ### non-vacuity: ℤ[√-5] (the maximal order of ℚ(√-5)), I = (2, 1 + √-5): I⁻¹ = I / 2, I · I = (2) -/

example : NTV.Ideal.inv t5 I5 (10, [[5, 0], [0, 1]]) = .ok (2, [[2, 0], [1, 1]]) := by decide +kernel

example : (∃ c, NTV.Ord.tmul t5 [1, 1] [0, 1] = .ok c ∧
      NTV.Ord.ttrace t5 c = .ok (trForm t5 2 (vec 2 [1, 1]) (vec 2 [0, 1]))) ∧
    trForm t5 2 (vec 2 [1, 1]) (vec 2 [0, 1]) = (Matrix.vecMul (vec 2 [1, 1]) (traceMatrix t5 2)) ⬝ᵥ (vec 2 [0, 1]) :=
  trace_form_computes t5 2 t5_cubic [1, 1] [0, 1] rfl rfl
example : NTV.Ord.tmul t5 [1, 1] [0, 1] = .ok [-5, 1] ∧ NTV.Ord.ttrace t5 [-5, 1] = .ok (-10) := by decide +kernel

/-- the hypotheses of `inv_semantics` are satisfiable, and the theorem describes the value computed above -/
example : (traceMatrix t5 2).det ≠ 0 ∧
    ∃ a C N, capZ I5 = .ok a ∧ 0 < a ∧ mul t5 I5 [[5, 0], [0, 1]] = .ok C ∧ C.length = 2 ∧
      NTV.Ideal.inv t5 I5 (10, [[5, 0], [0, 1]]) = .ok (a, N) ∧ N.length = 2 ∧ Wid 2 N ∧
      NTV.Ideal.hnfNew N = .ok N ∧ IsOIdeal t5 2 N ∧
      (∀ v, v ∈ Lat 2 N ↔ ∀ c ∈ Lat 2 C, a * 10 ∣ trForm t5 2 v c) ∧
      (∀ v, v ∈ Lat 2 N ↔ ∀ x ∈ Lat 2 I5, ∃ y : Fin 2 → ℤ, star t5 2 v x = a • y) :=
  inv_semantics t5 2 t5_ring (10, [[5, 0], [0, 1]]) t5_invDiff I5gen I5 I5gen_wid I5_hnf rfl

theorem sqrtm5_irreducible : Irreducible (NTV.Alg.modulus [5, 0, 1]) := irreducible_sq_add 5 (by decide)

theorem sqrtm5_basis : NTV.Round2.findIntegralBasis [5, 0, 1] = .ok [[1, 0], [0, 1]] := by decide +kernel
theorem sqrtm5_table : NTV.Ord.getMultTable [[1, 0], [0, 1]] [5, 0, 1] = .ok t5 := by decide +kernel

/-- the hypotheses of `inv_maximal_order` are satisfiable: ℤ[√-5] is the Round 2 output for x² + 5 … -/
example : ∃ invDiff, getInvDiff t5 = .ok invDiff ∧
    ∃ a N P, NTV.Ideal.inv t5 I5 invDiff = .ok (a, N) ∧ capZ I5 = .ok a ∧ 0 < a ∧ N.length = 2 ∧
      Wid 2 N ∧ NTV.Ideal.hnfNew N = .ok N ∧ IsOIdeal t5 2 N ∧
      mul t5 I5 N = .ok P ∧ principal t5 (a :: List.replicate (2 - 1) 0) = .ok P ∧
      ∀ v, v ∈ Lat 2 P ↔ ∃ y : Fin 2 → ℤ, v = a • y :=
  inv_maximal_order [5, 0, 1] (canon_sq_add 5) sqrtm5_irreducible _ sqrtm5_basis t5 sqrtm5_table I5gen I5
    I5gen_wid I5_hnf rfl
/-- … and the values: I · I = (2) -/
example : mul t5 I5 [[2, 0], [1, 1]] = .ok [[2, 0], [0, 2]] ∧ principal t5 [2, 0] = .ok [[2, 0], [0, 2]] :=
  ⟨I5_sq, t5_principal_two⟩

/-- the hypotheses of `inv_is_fractional_inverse_partial` are satisfiable (ℤ[i], I = (2 + i)) -/
example : ∃ a N P, NTV.Ideal.inv tGauss G2 (2, [[1, 0], [0, 1]]) = .ok (a, N) ∧ capZ G2 = .ok a ∧ 0 < a ∧
      N.length = 2 ∧ Wid 2 N ∧ NTV.Ideal.hnfNew N = .ok N ∧ IsOIdeal tGauss 2 N ∧
      mul tGauss G2 N = .ok P ∧ principal tGauss (a :: List.replicate (2 - 1) 0) = .ok P ∧
      ∀ v, v ∈ Lat 2 P ↔ ∃ y : Fin 2 → ℤ, v = a • y :=
  inv_is_fractional_inverse_partial tGauss 2 tGauss_ring gauss_isDedekindDomain (2, [[1, 0], [0, 1]])
    gauss_invDiff G2 G2 G2_wid G2_hnf rfl
example : NTV.Ideal.inv tGauss G2 (2, [[1, 0], [0, 1]]) = .ok (5, [[5, 0], [3, 1]]) ∧
    mul tGauss G2 [[5, 0], [3, 1]] = .ok [[5, 0], [0, 5]] ∧ principal tGauss [5, 0] = .ok [[5, 0], [0, 5]] := by
  decide +kernel
example := inv_ideal_product_partial tGauss 2 tGauss_ring gauss_isDedekindDomain (2, [[1, 0], [0, 1]])
    gauss_invDiff G2 G2 G2_wid G2_hnf rfl G2_ideal

/-- the Dedekind hypothesis cannot be dropped: in the non-maximal order ℤ[√-3] the ideal I = (2, 1 + √-3) has
`inv` = I / 2 (N = (2·O : I) = I), but I · I = 2·I ≠ (2) -/
theorem inv_not_inverse_nonmaximal :
    TableRing t3 2 ∧ getInvDiff t3 = .ok (6, [[3, 0], [0, 1]]) ∧
      NTV.Ideal.inv t3 [[2, 0], [1, 1]] (6, [[3, 0], [0, 1]]) = .ok (2, [[2, 0], [1, 1]]) ∧
      mul t3 [[2, 0], [1, 1]] [[2, 0], [1, 1]] = .ok [[4, 0], [2, 2]] ∧
      principal t3 [2, 0] = .ok [[2, 0], [0, 2]] :=
  ⟨t3_ring, by decide +kernel, by decide +kernel, norm_not_multiplicative_nonmaximal.2.2.2.2.2.1,
    norm_not_multiplicative_nonmaximal.2.2.2.1⟩

end NTV.C16
