import NTV.Model.Ideal
import NTV.Proofs.Lemmas.DecompProofsA
import NTV.Proofs.Lemmas.DecompProofsC
import NTV.Proofs.C16
import NTV.Proofs.Lemmas.KummerDedekindG
import NTV.Proofs.Lemmas.NoPanicDecompose
import NTV.Proofs.Lemmas.MaxOrderClosedD
import NTV.Proofs.C14
import Mathlib.NumberTheory.Zsqrtd.GaussianInt
import Mathlib.Algebra.Polynomial.SpecificDegree
/-! # C17 — decomposition of a rational prime.
First the refusal guard and the machine-word clause; then the structural part (shape of a run, degrees, the
lattices of the returned ideals) with its examples on ℤ[√-5]; then section `KummerDedekind`, the theorem itself for an
order ⊇ ℤ[θ] given with its table: primality of the P_i, norms, P_i ∩ ℤ, pairwise distinctness, and ∏P_i^e_i = (p) for
an integrally closed order (with the sharp criterion for an arbitrary order), followed by its examples (ℤ[√-5], ℤ[i],
the non-maximal ℤ[2i]); then section `MaximalOrder`, the same theorem for the output of `find_integral_basis`, where
integral closedness is derived (C06, C16) and the Eisenstein integers serve as example; last, panic-freedom
(`no_panic`, `prime_above_total`).
The labels (D1)–(D5c) number the clauses of the Kummer–Dedekind theorem as proved here: D1 O/pO ≅ 𝔽_p[x]/(f̄);
D2 residue rings, norms and P_i ∩ ℤ; D3 primality; D4 comaximality and distinctness; D5 the product ∏P_i^e_i against (p)
(a unramified, b maximal order, c Dedekind's criterion). They are unrelated to the defect numbers of DESIGN.md. -/
namespace NTV.C17
open NTV.Ideal
-- `star` and `norm` also exist at the root (`Star.star`, `Norm.norm`); as aliases in this namespace the model's names
-- are found first, so that the elaborator does not try (and fail) the other reading at every occurrence
export NTV.IdealP (star)
export NTV.Ideal (norm)

/-- the routine refuses (explicit panic) whenever p divides the index (O_K : ℤ[θ]) -/
theorem refuses_when_p_divides_index (f : List Int) (B : QMat) (t : Table) (p : Int) (s : NTV.Draw.Stream)
    (z : NTV.Ord.QMat) (idx : Int) (hf : f ≠ [])
    (hz : NTV.Ord.trivialOrderMonic f = .ok z) (hi : NTV.Ord.index B z = .ok idx)
    (hp : p ≠ 0) (hdiv : Int.tmod idx p = 0) :
    decompose f B t p s = .error "panic other" := by
  have he : f.isEmpty = false := List.isEmpty_eq_false_iff.mpr hf
  simp [decompose, he, hz, hi, hp, hdiv, bind, Except.bind, throw, throwThe, MonadExceptOf.throw]

/-- the machine-word copy handed to the modular factoriser: p itself when 0 ≤ p fits a word, 0 for p ≥ 2^64
(what `p.try_into().unwrap_or(0)` yields); by C08 the value is irrelevant for p ≥ 2^64 -/
theorem word_copy (p : Int) : (0 ≤ p → p < 2 ^ 64 → (wordOf p : Int) = p) ∧ (2 ^ 64 ≤ p → wordOf p = 0) := by
  constructor
  · intro h0 h1
    have hc : 0 ≤ p ∧ p < 2 ^ 64 := ⟨h0, h1⟩
    unfold wordOf; rw [if_pos hc]; omega
  · intro h
    have hc : ¬ (0 ≤ p ∧ p < 2 ^ 64) := by omega
    unfold wordOf; rw [if_neg hc]


/-! ## The structural part, for every draw stream (runs returning `.ok`)

`f : List Int` is the monic minimal polynomial (`f.length = n + 1`, `lc f = 1`), `B` the basis matrix of
the order (rows = coordinates of ω_0 … ω_{n−1} in 1, θ, …, θ^{n−1}), `t` its multiplication table, `p` a
prime, `s` the stream of random draws of the modular factoriser (universally quantified). Vocabulary of
C16 (`Lat`, `vec`, `star`, `e`, `TableRing`, `IsOIdeal`) and C14 (`NTV.Ord.elt B a` = Σ a_k ω_k as an
element of ℚ[x]/(f)); `ratOf g` is the rational copy of g that the closure builds. The Kummer–Dedekind
statements proper (primality of the P_i, N(P_i) = p^{f_i}, ∏ P_i^{e_i} = (p)) are in the last section. -/
open NTV.PolyG NTV.PolyMod NTV.IdealP NTV.DecompP Polynomial
open NTV.RowOps (toM Rect)
open Matrix

/-- **(1) shape.** A successful run factorised f modulo p (with the machine-word copy of p and the same
stream) into pairs (g_i, e_i), and the result is, position by position, the pair (P_i, e_i) returned by
the closure `primeAbove` on (g_i, e_i); the index guard was passed: (O : ℤ[θ]) is an integer that p does
not divide (ℤ[θ] is stored as the identity matrix). -/
theorem decompose_shape (f : List Int) (n : Nat) (hn : 1 ≤ n) (hfl : f.length = n + 1) (hmonic : lc f = 1)
    (B : QMat) (t : Table) (p : Nat) (s : NTV.Draw.Stream) (res : List (HNF × Nat))
    (h : decompose f B t (p : Int) s = .ok res) :
    ∃ fs : Factors, factorizeModP f (p : Int) (wordOf p) s = .ok fs ∧ res.length = fs.length ∧
      (∀ i (h1 : i < fs.length) (h2 : i < res.length),
        res[i].2 = fs[i].2 ∧ primeAbove f B t (p : Int) fs[i].1 fs[i].2 = .ok res[i]) ∧
      ∃ idx : Int, NTV.Ord.trivialOrderMonic f = .ok (NTV.Ord.identityQ n) ∧
        NTV.Ord.index B (NTV.Ord.identityQ n) = .ok idx ∧ ¬ (p : Int) ∣ idx :=
  decompose_run f n hn hfl hmonic B t p s res h

/-- **(2) degrees.** With (g_i, e_i) the modular factors of a successful run: Σ e_i · deg g_i = n, the
multiplicities of the result are the e_i, every e_i ≥ 1, every g_i is monic of degree ≥ 1 and irreducible
over F_p, and the g_i are pairwise distinct. (`f.length < 2⁶⁴` holds for every coefficient vector; it is
only needed when p does not fit a machine word, as in C08.) -/
theorem degree_sum (f : List Int) (n : Nat) (hn : 1 ≤ n) (hfl : f.length = n + 1) (hmonic : lc f = 1)
    (B : QMat) (t : Table) (p : Nat) (hp : p.Prime) (hlen : 2 ^ 64 ≤ p → f.length < 2 ^ 64)
    (s : NTV.Draw.Stream) (res : List (HNF × Nat)) (h : decompose f B t (p : Int) s = .ok res) :
    ∃ fs : Factors, factorizeModP f (p : Int) (wordOf p) s = .ok fs ∧
      res.map Prod.snd = fs.map Prod.snd ∧
      (fs.map (fun x => x.2 * degU x.1)).sum = n ∧
      (∀ x ∈ fs, 1 ≤ x.2 ∧ 1 ≤ degU x.1 ∧ lc x.1 = 1 ∧
        Irreducible ((toPoly x.1).map (Int.castRingHom (ZMod p)))) ∧
      (fs.map Prod.fst).Nodup := by
  have : Fact p.Prime := ⟨hp⟩
  obtain ⟨fs, hfs, hl, hpt, _⟩ := decompose_shape f n hn hfl hmonic B t p s res h
  obtain ⟨c1, c2, _⟩ := NTV.C08.factorization_correct p hp f (wordOf p) s fs wordOf_natCast hlen hfs
  refine ⟨fs, hfs, ?_, degree_sum_core p f n hfl hmonic _ s fs (wordOf_or_le hlen) hfs, fun x hx => ?_, c2⟩
  · apply List.ext_getElem (by simp [hl])
    intro i h1 h2
    simp only [List.getElem_map]
    exact (hpt i (by simpa using h2) (by simpa using h1)).1
  · obtain ⟨a, _, _, d, e, g⟩ := c1 x hx
    refine ⟨e, ?_, a, g⟩
    rw [degU_of_ne_nil (List.ne_nil_of_length_pos (by omega))]
    omega

/-- **(3) the closure, as lattices.** For a table `t` that is a commutative ring on ℤⁿ with identity e_0
(`TableRing t n`), f of degree n and an n×n basis matrix B: if the closure returns (P, e) on (g, e) then
`P = (elem) + (p)` where both principal ideals were computed without a panic,
L(P) = L((elem)) + L((p)), L((elem)) = elem ⋆ ℤⁿ, L((p)) = pℤⁿ; P is an ideal of the order, contains
p·e_0 (so P ∩ ℤ ⊇ pℤ); and `elem` is
* for deg g < n: the result of `to_z_basis_int`, the integer solution of `elem · B = coefficients of g`,
  i.e. Σ_k elem_k ω_k = g(θ) as elements of ℚ[x]/(f);
* for deg g ≥ n (only deg g = n can occur for a factor of f mod p: p inert, g ≡ f): the zero vector —
  the shortcut of the code for g(θ) ≡ f(θ) = 0 — and then (elem) = 0, P = (p). -/
theorem prime_above_lattice (t : Table) (n : Nat) (T : TableRing t n) (f : List Int) (hfl : f.length = n + 1)
    (B : QMat) (hB : Rect n n B) (p : Int) (g : List Int) (m : Nat) (P : HNF) (m' : Nat)
    (h : primeAbove f B t p g m = .ok (P, m')) :
    ∃ elem A Z, elem.length = n ∧ principal t elem = .ok A ∧
      principal t (p :: List.replicate (n - 1) 0) = .ok Z ∧ add A Z = .ok P ∧ m' = m ∧
      Lat n P = Lat n A ⊔ Lat n Z ∧
      (∀ v, v ∈ Lat n A ↔ ∃ y, v = star t n (vec n elem) y) ∧ (∀ v, v ∈ Lat n Z ↔ ∃ y, v = p • y) ∧
      IsOIdeal t n P ∧ p • e n ⟨0, T.pos⟩ ∈ Lat n P ∧
      (degU (ratOf g) < n → NTV.Ord.toZBasisInt B (ratOf g) = .ok elem ∧
        (fun k : Fin n => ((elem.getD k 0 : Int) : Rat)) ᵥ* toM n n B = (fun c : Fin n => coefAt (ratOf g) c) ∧
        NTV.Ord.elt B elem = ratOf g) ∧
      (n ≤ degU (ratOf g) → elem = List.replicate n 0 ∧ Lat n A = ⊥ ∧ Lat n P = Lat n Z) := by
  have hf : degU f = n := degU_of_length hfl
  obtain ⟨elem, A, Z, h1, h2, h3, h4, h5, h6, _, _, _, _, lA, lZ, lP, oP, hpy⟩ := primeAbove_lattice_core T hf h
  have hA : ∀ v, v ∈ Lat n A ↔ ∃ y, v = star t n (vec n elem) y := by
    intro v
    rw [lA, LinearMap.mem_range]
    exact exists_congr fun y => eq_comm
  have hZ : ∀ v, v ∈ Lat n Z ↔ ∃ y, v = p • y := by
    intro v
    rw [lZ, LinearMap.mem_range]
    exact exists_congr fun y => by rw [starB_apply, star_smul_left, T.one_star, eq_comm]
  obtain ⟨c1, c2⟩ := elemSpec_ok hf hB h1
  refine ⟨elem, A, Z, h2, h3, h4, h5, h6, lP, hA, hZ, oP, hpy _, c1, fun hge => ?_⟩
  · obtain rfl := c2 hge
    have hbot : Lat n A = ⊥ := by
      rw [eq_bot_iff]
      intro v hv
      obtain ⟨y, rfl⟩ := (hA v).mp hv
      rw [vec_replicate_zero, Submodule.mem_bot]
      exact NTV.KD.star_zero_left t n y
    exact ⟨rfl, hbot, by rw [lP, hbot, bot_sup_eq]⟩

/-- **(4) P ∩ ℤ.** For a prime p a returned ideal has full rank (n rows), `cap_z` returns p or 1,
{z ∈ ℤ | z·e_0 ∈ L(P)} = cℤ, and it returns p exactly when P is not the unit ideal. -/
theorem prime_above_capZ (t : Table) (n : Nat) (T : TableRing t n) (f : List Int) (hfl : f.length = n + 1)
    (B : QMat) (p : Nat) (hp : p.Prime) (g : List Int) (m : Nat) (P : HNF) (m' : Nat)
    (h : primeAbove f B t (p : Int) g m = .ok (P, m')) :
    P.length = n ∧ ∃ c, capZ P = .ok c ∧ (c = p ∨ c = 1) ∧ (c = p ↔ Lat n P ≠ ⊤) ∧
      ∀ z : ℤ, z • e n ⟨0, T.pos⟩ ∈ Lat n P ↔ c ∣ z := by
  have hf : degU f = n := degU_of_length hfl
  obtain ⟨hfull, c, h1, h2, h3, h4⟩ := capZ_above T hf p hp h
  refine ⟨hfull, c, h1, h2, ?_, h4⟩
  have hp1 : (p : Int) ≠ 1 := by exact_mod_cast hp.one_lt.ne'
  rw [ne_eq, ← h3]
  rcases h2 with h2 | h2
  · rw [h2]; simp [hp1]
  · rw [h2]; simp [hp1.symm]

/-- **(1)–(4) together**, for the pairs returned by `decompose`: every returned (P, e) comes from a modular
factor (g, e) of the run through the closure, is an ideal of the order of full rank containing p, and
meets ℤ in pℤ or in ℤ. -/
theorem decompose_ideals (f : List Int) (n : Nat) (hn : 1 ≤ n) (hfl : f.length = n + 1) (hmonic : lc f = 1)
    (B : QMat) (t : Table) (T : TableRing t n) (p : Nat) (hp : p.Prime) (s : NTV.Draw.Stream)
    (res : List (HNF × Nat)) (h : decompose f B t (p : Int) s = .ok res) :
    ∃ fs : Factors, factorizeModP f (p : Int) (wordOf p) s = .ok fs ∧ res.length = fs.length ∧
      ∀ Pe ∈ res, ∃ g, (g, Pe.2) ∈ fs ∧ primeAbove f B t (p : Int) g Pe.2 = .ok Pe ∧
        IsOIdeal t n Pe.1 ∧ Pe.1.length = n ∧ (∀ y : Fin n → ℤ, (p : Int) • y ∈ Lat n Pe.1) ∧
        ∃ c, capZ Pe.1 = .ok c ∧ (c = p ∨ c = 1) ∧ (c = p ↔ Lat n Pe.1 ≠ ⊤) := by
  obtain ⟨fs, hfs, hl, hpt, _⟩ := decompose_shape f n hn hfl hmonic B t p s res h
  refine ⟨fs, hfs, hl, fun Pe hPe => ?_⟩
  obtain ⟨i, hi, rfl⟩ := List.mem_iff_getElem.mp hPe
  have hi' : i < fs.length := by omega
  obtain ⟨he, hpa⟩ := hpt i hi' hi
  have hf : degU f = n := degU_of_length hfl
  have hpa' : primeAbove f B t (p : Int) fs[i].1 fs[i].2 = .ok (res[i].1, res[i].2) := hpa
  obtain ⟨_, _, _, _, _, _, _, _, _, _, _, _, _, _, _, _, oP, hpy⟩ := primeAbove_lattice_core T hf hpa'
  obtain ⟨hfull, c, c1, c2, c3, _⟩ := prime_above_capZ t n T f hfl B p hp _ _ _ _ hpa'
  refine ⟨fs[i].1, ?_, ?_, oP, hfull, hpy, c, c1, c2, c3⟩
  · rw [he]; exact List.getElem_mem hi'
  · rw [he]; exact hpa

/-- **(1)–(3) together: the lattices of the returned ideals.** With (g_i, e_i) the modular factors of a
successful run (monic f of degree n, n×n basis matrix B, table a ring with identity e_0): every deg g_i ≤ n;
for deg g_i < n there is an integer vector `elem` with Σ_k elem_k ω_k = g_i(θ) in ℚ[x]/(f) (equality of the
stored expressions: `elt B elem` is the list of the coefficients of g_i) and
L(P_i) = elem ⋆ ℤⁿ + pℤⁿ, i.e. P_i = (g_i(θ)) + (p); for deg g_i = n (p inert) L(P_i) = pℤⁿ, i.e. P_i = (p). -/
theorem decompose_lattices (f : List Int) (n : Nat) (hn : 1 ≤ n) (hfl : f.length = n + 1) (hmonic : lc f = 1)
    (B : QMat) (hB : Rect n n B) (t : Table) (T : TableRing t n) (p : Nat) (hp : p.Prime)
    (hlen : 2 ^ 64 ≤ p → f.length < 2 ^ 64) (s : NTV.Draw.Stream) (res : List (HNF × Nat))
    (h : decompose f B t (p : Int) s = .ok res) :
    ∃ fs : Factors, factorizeModP f (p : Int) (wordOf p) s = .ok fs ∧ res.length = fs.length ∧
      ∀ i (h1 : i < fs.length) (h2 : i < res.length), res[i].2 = fs[i].2 ∧ degU fs[i].1 ≤ n ∧
        (degU fs[i].1 < n → ∃ elem : List Int, elem.length = n ∧
          NTV.Ord.elt B elem = fs[i].1.map (fun (c : Int) => (c : Rat)) ∧
          ∀ v, v ∈ Lat n res[i].1 ↔ ∃ y z, v = star t n (vec n elem) y + (p : Int) • z) ∧
        (degU fs[i].1 = n → ∀ v, v ∈ Lat n res[i].1 ↔ ∃ z, v = (p : Int) • z) := by
  obtain ⟨fs, hfs, hl, hpt, _⟩ := decompose_shape f n hn hfl hmonic B t p s res h
  obtain ⟨fs', hfs', _, hsum, hprop, _⟩ := degree_sum f n hn hfl hmonic B t p hp hlen s res h
  rw [hfs] at hfs'; cases hfs'
  refine ⟨fs, hfs, hl, fun i h1 h2 => ?_⟩
  obtain ⟨he, hpa⟩ := hpt i h1 h2
  have hmem : fs[i] ∈ fs := List.getElem_mem h1
  obtain ⟨e1, _, hlc, _⟩ := hprop _ hmem
  obtain ⟨r1, r2, _⟩ := ratOf_canon _ (NTV.C15.canon_of_monic _ hlc)
  have hle : degU fs[i].1 ≤ n := by
    have h1' : fs[i].2 * degU fs[i].1 ≤ (fs.map (fun x => x.2 * degU x.1)).sum :=
      List.single_le_sum (by intro x _; exact Nat.zero_le x) _
        (List.mem_map.mpr ⟨fs[i], hmem, rfl⟩)
    rw [hsum] at h1'
    exact (Nat.le_mul_of_pos_left _ e1).trans h1'
  have hpa' : primeAbove f B t (p : Int) fs[i].1 fs[i].2 = .ok (res[i].1, res[i].2) := hpa
  obtain ⟨elem, A, Z, l1, _, _, _, _, lP, lA, lZ, _, _, c1, c2⟩ :=
    prime_above_lattice t n T f hfl B hB _ _ _ _ _ hpa'
  refine ⟨he, hle, fun hlt => ?_, fun heq => ?_⟩
  · obtain ⟨_, _, c⟩ := c1 (by rw [r2]; exact hlt)
    refine ⟨elem, l1, by rw [c, r1], fun v => ?_⟩
    rw [lP, Submodule.mem_sup]
    constructor
    · rintro ⟨a, ha, b, hb, rfl⟩
      obtain ⟨y, rfl⟩ := (lA a).mp ha
      obtain ⟨z, rfl⟩ := (lZ b).mp hb
      exact ⟨y, z, rfl⟩
    · rintro ⟨y, z, rfl⟩
      exact ⟨_, (lA _).mpr ⟨y, rfl⟩, _, (lZ _).mpr ⟨z, rfl⟩, rfl⟩
  · obtain ⟨_, _, c⟩ := c2 (by rw [r2, heq])
    intro v
    rw [c, lZ]

/-! ### non-vacuity: ℤ[√-5] (f = x² + 5, B = identity, table `NTV.C16.t5`): 3 splits, 2 ramifies, 11 is inert -/

instance {α : Type} [DecidableEq α] : DecidableEq (Except String α) := fun a b =>
  match a, b with
  | .ok x, .ok y => if h : x = y then isTrue (by rw [h]) else isFalse (by intro e; cases e; exact h rfl)
  | .error x, .error y => if h : x = y then isTrue (by rw [h]) else isFalse (by intro e; cases e; exact h rfl)
  | .ok _, .error _ => isFalse (by intro e; cases e)
  | .error _, .ok _ => isFalse (by intro e; cases e)

/-- (3) = (3, θ+2)(3, θ+1): two random draws are consumed -/
theorem split3 : decompose [5, 0, 1] [[1, 0], [0, 1]] NTV.C16.t5 ((3 : Nat) : Int) [[0,0,0,0],[0,0,0,64]] =
    .ok [([[3, 0], [2, 1]], 1), ([[3, 0], [1, 1]], 1)] := by decide +kernel
/-- (2) = (2, θ+1)²: no draw is needed -/
theorem ramified2 : decompose [5, 0, 1] [[1, 0], [0, 1]] NTV.C16.t5 ((2 : Nat) : Int) [] =
    .ok [([[2, 0], [1, 1]], 2)] := by decide +kernel
/-- (11) is prime: g = f mod 11 has degree 2, the zero vector is handed to `principal` -/
theorem inert11 : decompose [5, 0, 1] [[1, 0], [0, 1]] NTV.C16.t5 ((11 : Nat) : Int) [] =
    .ok [([[11, 0], [0, 11]], 1)] := by decide +kernel

example := decompose_shape [5, 0, 1] 2 (by decide) rfl rfl _ _ 3 _ _ split3
example := decompose_shape [5, 0, 1] 2 (by decide) rfl rfl _ _ 2 _ _ ramified2

/-- 1·1 + 1·1 = 2 and 2·1 = 2, by the theorem -/
example : ∃ fs : Factors, factorizeModP [5, 0, 1] ((3 : Nat) : Int) (wordOf (3 : Nat)) [[0,0,0,0],[0,0,0,64]] = .ok fs ∧
    (fs.map (fun x => x.2 * degU x.1)).sum = 2 := by
  obtain ⟨fs, h1, _, h3, _⟩ := degree_sum [5, 0, 1] 2 (by decide) rfl rfl _ _ 3 (by norm_num) (fun h => by omega)
    _ _ split3
  exact ⟨fs, h1, h3⟩
example := degree_sum [5, 0, 1] 2 (by decide) rfl rfl _ _ 2 (by norm_num) (fun h => by omega) _ _ ramified2
example := degree_sum [5, 0, 1] 2 (by decide) rfl rfl _ _ 11 (by norm_num) (fun h => by omega) _ _ inert11

theorem above3 : primeAbove [5, 0, 1] [[1, 0], [0, 1]] NTV.C16.t5 ((3 : Nat) : Int) [2, 1] 1 = .ok ([[3, 0], [2, 1]], 1) := by
  decide +kernel
theorem above11 : primeAbove [5, 0, 1] [[1, 0], [0, 1]] NTV.C16.t5 ((11 : Nat) : Int) [5, 0, 1] 1 =
    .ok ([[11, 0], [0, 11]], 1) := by decide +kernel

example := prime_above_lattice NTV.C16.t5 2 NTV.C16.t5_ring [5, 0, 1] rfl [[1, 0], [0, 1]] ⟨rfl, by simp⟩ _ _ _ _ _ above3
example := prime_above_lattice NTV.C16.t5 2 NTV.C16.t5_ring [5, 0, 1] rfl [[1, 0], [0, 1]] ⟨rfl, by simp⟩ _ _ _ _ _ above11
/-- both branches occur: deg (x + 2) = 1 < 2 and deg (x² + 5) = 2 -/
example : degU (ratOf [2, 1]) < 2 ∧ 2 ≤ degU (ratOf [5, 0, 1]) := by decide +kernel
/-- (3, θ + 2) is a proper ideal meeting ℤ in 3ℤ, by the theorem -/
example : Lat 2 ([[3, 0], [2, 1]] : HNF) ≠ ⊤ := by
  obtain ⟨_, c, h1, _, h3, _⟩ := prime_above_capZ NTV.C16.t5 2 NTV.C16.t5_ring [5, 0, 1] rfl [[1, 0], [0, 1]] 3
    (by norm_num) _ _ _ _ above3
  have : c = 3 := by cases h1; rfl
  exact h3.mp this
example := decompose_ideals [5, 0, 1] 2 (by decide) rfl rfl _ _ NTV.C16.t5_ring 3 (by norm_num) _ _ split3
example := decompose_ideals [5, 0, 1] 2 (by decide) rfl rfl _ _ NTV.C16.t5_ring 2 (by norm_num) _ _ ramified2
example := decompose_lattices [5, 0, 1] 2 (by decide) rfl rfl _ ⟨rfl, by simp⟩ _ NTV.C16.t5_ring 3 (by norm_num)
  (fun h => by omega) _ _ split3
example := decompose_lattices [5, 0, 1] 2 (by decide) rfl rfl _ ⟨rfl, by simp⟩ _ NTV.C16.t5_ring 11 (by norm_num)
  (fun h => by omega) _ _ inert11


/-! ## Kummer–Dedekind (Cohen 4.8.13): the returned ideals are the prime ideals above p

Standing hypotheses of this section (explicit arguments of every theorem below, in this order; `table_is_ring`
needs only those on the order and its table):
* `f` monic of degree `n ≥ 1` (`hn`, `hfl`, `hmonic`);
* `B` the `n × n` rational basis matrix of the order O (`hB`), **containing ℤ[θ]**: `Cm · B = 1` for an integer
  matrix `Cm` (`hC`; row c of `Cm` = coordinates of θ^c on ω_0 … ω_{n−1}; in particular B is non-singular and
  `index B ℤ[θ] = det Cm`), with first basis vector ω_0 = 1 (`h0`, as for every stored order);
* `t` the multiplication table of `B` (`ht : IsTable f B n t`, what `get_mult_table` returns, C14);
* `p` prime (`hp`), `hlen` the machine-word side condition of C08;
* the run of `decompose` on the draw stream `s` (universally quantified) returned `res` (`h`) — so the index
  guard was passed: p ∤ (O : ℤ[θ]).

Vocabulary: `Lat`, `vec`, `star`, `e` of C16; `NTV.KD.EltIs f B a H`: the element Σ a_k ω_k of the order is
`H(θ)`, `H ∈ ℤ[X]` (as classes of ℚ[x]/(f)); `ḡ = (toPoly g).map (Int.castRingHom (ZMod p))` is the reduction
modulo p. `NTV.KD.Rt`, `unitIdeal`, `powM`, `prodM` are defined in `Proofs/Lemmas/KummerDedekindC.lean`, `EltIs` in
`KummerDedekindG.lean`. Helper lemmas: `Proofs/Lemmas/KummerDedekindA–G.lean` (A, B: the abstract algebra; C: the ring
`NTV.KD.Rt T` = (ℤⁿ, +, ⋆) and its ideals; D: its embedding in ℚ[x]/(f); E–G: the model).
Where a theorem takes `T : TableRing t n` to speak of `Rt T`: `TableRing t n` is a proposition, so `Rt T` does not
depend on which proof is given, and the proofs work with the `T` supplied by `table_is_ring`. -/
section KummerDedekind
open NTV.KD
open NTV.PolyG (toPoly)

variable (f : List Int) (n : Nat) (hn : 1 ≤ n) (hfl : f.length = n + 1) (hmonic : lc f = 1)
  (B : QMat) (hB : Rect n n B) (Cm : Matrix (Fin n) (Fin n) ℤ)
  (hC : Cm.map (Int.castRingHom ℚ) * toM n n B = 1)
  (h0 : B.getD 0 [] = 1 :: List.replicate (n - 1) 0)
  (t : Table) (ht : NTV.Ord.IsTable f B n t)
  (p : Nat) (hp : p.Prime) (hlen : 2 ^ 64 ≤ p → f.length < 2 ^ 64)
  (s : NTV.Draw.Stream) (res : List (HNF × Nat)) (h : decompose f B t (p : Int) s = .ok res)
include hn hfl hmonic hB hC h0 ht hp hlen h

omit hp hlen h in
/-- the table of such an order is a commutative ring on ℤⁿ with identity e_0 (so C16 and the theorems above
apply) -/
theorem table_is_ring : TableRing t n := tableRing_of_isTable (setup_of hn hfl hmonic hB hC) ht h0

/-- **(D1) O/pO ≅ 𝔽_p[x]/(f̄).** Since p ∤ (O : ℤ[θ]): every element x of the order is ≡ H(θ) modulo p·O for
some H ∈ ℤ[x] (x = a + p·y with Σ a_k ω_k = H(θ)); and H(θ) ∈ p·O (= pℤⁿ in coordinates) ⇔ f̄ ∣ H̄ in 𝔽_p[x]. -/
theorem mod_p_iso :
    (∀ x : Fin n → ℤ, ∃ (H : Polynomial ℤ) (a : List Int) (y : Fin n → ℤ),
      a.length = n ∧ EltIs f B a H ∧ x = vec n a + (p : ℤ) • y) ∧
    (∀ (a : List Int) (H : Polynomial ℤ), EltIs f B a H →
      ((∃ y : Fin n → ℤ, vec n a = (p : ℤ) • y) ↔
        (toPoly f).map (Int.castRingHom (ZMod p)) ∣ H.map (Int.castRingHom (ZMod p)))) := by
  have R : Run f n B t Cm p s res := ⟨hn, hfl, hmonic, hB, hC, ht, h0, hp, hlen, h⟩
  constructor
  · intro x
    obtain ⟨h, hh⟩ := R.ctx.exists_aeval (ofVec R.tableRing x)
    obtain ⟨a, ha1, ha2, ha3⟩ := R.exists_eltIs h
    rw [mem_span_p_iff] at hh
    obtain ⟨y, hy⟩ := hh
    refine ⟨h, a, y, ha1, ha2, ?_⟩
    rw [← ha3] at hy
    have : x - vec n a = (p : ℤ) • y := hy
    rw [← this]; abel
  · intro a h ha
    rw [← R.ctx.aeval_mem_span_p_iff, ← R.ofVec_of_eltIs a h ha, mem_span_p_iff]
    rfl

/-- **(D1), as rings**: the ring (ℤⁿ, +, ⋆) of the table modulo p is 𝔽_p[x]/(f̄) -/
theorem mod_p_ring_iso (T : TableRing t n) :
    Nonempty ((Rt T ⧸ Ideal.span {(p : Rt T)}) ≃+*
      Polynomial (ZMod p) ⧸ Ideal.span {(toPoly f).map (Int.castRingHom (ZMod p))}) :=
  have R : Run f n B t Cm p s res := ⟨hn, hfl, hmonic, hB, hC, ht, h0, hp, hlen, h⟩
  ⟨(Ideal.quotEquivOfEq R.ctx.ker_rho.symm).trans (RingHom.quotientKerEquivOfSurjective R.ctx.rho_surjective)⟩

/-- **(D2) residue rings, norms, P_i ∩ ℤ.** With (g_i, e_i) the modular factors of the run and (P_i, e_i) the
returned pairs: H(θ) ∈ P_i ⇔ ḡ_i ∣ H̄ (so O/P_i ≅ 𝔽_p[x]/(ḡ_i), a field with p^{deg g_i} elements);
`Ideal::norm P_i = p^{f_i}`, `f_i = deg g_i`; P_i ≠ O; `cap_z P_i = p` and P_i ∩ ℤ = pℤ; P_i has full rank. -/
theorem prime_above_quotient :
    ∃ fs : Factors, factorizeModP f (p : Int) (wordOf p) s = .ok fs ∧ res.length = fs.length ∧
      ∀ i (h1 : i < fs.length) (h2 : i < res.length),
        (∀ (a : List Int) (H : Polynomial ℤ), EltIs f B a H →
          (vec n a ∈ Lat n res[i].1 ↔
            (toPoly fs[i].1).map (Int.castRingHom (ZMod p)) ∣ H.map (Int.castRingHom (ZMod p)))) ∧
        NTV.Ideal.norm res[i].1 = (p : ℤ) ^ degU fs[i].1 ∧
        Lat n res[i].1 ≠ ⊤ ∧
        capZ res[i].1 = .ok (p : ℤ) ∧
        (∀ z : ℤ, z • e n ⟨0, hn⟩ ∈ Lat n res[i].1 ↔ (p : ℤ) ∣ z) ∧
        res[i].1.length = n := by
  obtain ⟨fs, hfs, hl, hall⟩ := (Run.mk hn hfl hmonic hB hC ht h0 hp hlen h).quotient
  exact ⟨fs, hfs, hl, fun i h1 _ => hall ⟨i, h1⟩⟩

/-- **(D3) the P_i are prime ideals, indeed maximal**: P_i ≠ O; a ⋆ b ∈ L(P_i) ⇒ a ∈ L(P_i) ∨ b ∈ L(P_i);
and an ideal of the order (a lattice closed under a ⋆ ·) containing P_i is P_i or O. -/
theorem prime_above_is_prime (i : Nat) (hi : i < res.length) :
    Lat n res[i].1 ≠ ⊤ ∧
    (∀ a b : Fin n → ℤ, star t n a b ∈ Lat n res[i].1 → a ∈ Lat n res[i].1 ∨ b ∈ Lat n res[i].1) ∧
    (∀ L : Submodule ℤ (Fin n → ℤ), (∀ a : Fin n → ℤ, ∀ x ∈ L, star t n a x ∈ L) →
      Lat n res[i].1 ≤ L → L = Lat n res[i].1 ∨ L = ⊤) := by
  have R : Run f n B t Cm p s res := ⟨hn, hfl, hmonic, hB, hC, ht, h0, hp, hlen, h⟩
  obtain ⟨fs, hfs⟩ := R.factors
  exact ((R.kd hfs).1 ⟨i, R.length_eq hfs ▸ hi⟩).prime

/-- **(D4) the P_i are pairwise distinct, indeed comaximal**: P_i + P_j = O for i ≠ j, and the returned normal
forms differ -/
theorem primes_distinct (i j : Nat) (hi : i < res.length) (hj : j < res.length) (hij : i ≠ j) :
    Lat n res[i].1 ⊔ Lat n res[j].1 = ⊤ ∧ res[i].1 ≠ res[j].1 :=
  (Run.mk hn hfl hmonic hB hC ht h0 hp hlen h).distinct i j hi hj hij

/-- **(D5) ∏ P_i^{e_i} versus (p), for every order (sharp).** `NTV.KD.prodM t res` is the model's iterated
`mul` (`powM` = repeated `mul` from the unit ideal). Neither it nor `principal t (p, 0, …, 0)` panics;
L((p)) = pℤⁿ; ∏ P_i^{e_i} ⊆ (p); and the two returned normal forms are **equal iff p ∈ P_i^{e_i} for every i**.
The condition cannot be dropped for a non-maximal order: see `product_counterexample` below
(ℤ[2i], p = 2). It holds in the three situations of the next theorems. -/
theorem product_partial :
    ∃ Q Z : HNF, prodM t res = .ok Q ∧ principal t ((p : ℤ) :: List.replicate (n - 1) 0) = .ok Z ∧
      (∀ v : Fin n → ℤ, v ∈ Lat n Z ↔ ∃ y : Fin n → ℤ, v = (p : ℤ) • y) ∧
      Lat n Q ≤ Lat n Z ∧
      (Q = Z ↔ ∀ i (hi : i < res.length), ∃ Qi : HNF, powM t res[i].1 res[i].2 = .ok Qi ∧
        (p : ℤ) • e n ⟨0, hn⟩ ∈ Lat n Qi) := by
  have R : Run f n B t Cm p s res := ⟨hn, hfl, hmonic, hB, hC, ht, h0, hp, hlen, h⟩
  obtain ⟨fs, hfs⟩ := R.factors
  obtain ⟨Q, Z, hQ, hZ, nQ, nZ, lZ, lQ, hpow⟩ := R.product_core hfs
  obtain ⟨_, hcop, hprod⟩ := R.kd hfs
  have hl := R.length_eq hfs
  set T := R.tableRing with hT
  refine ⟨Q, Z, hQ, hZ, fun v => by rw [lZ]; exact latOf_span_p T p v, ?_, ?_⟩
  · rw [lQ, lZ, latOf_le_iff]
    exact R.ctx.prod_le _ _ hprod
  · have h1 : Q = Z ↔ Lat n Q = Lat n Z := ⟨fun h => by rw [h], fun h => nQ.eq_of_lat_eq nZ T.pos h⟩
    rw [h1, lQ, lZ, (latOf_injective T).eq_iff,
      R.ctx.prod_eq_iff _ _ hprod hcop]
    constructor
    · intro h i hi
      obtain ⟨Qi, h2, h3⟩ := hpow ⟨i, hl ▸ hi⟩
      refine ⟨Qi, h2, ?_⟩
      rw [h3, mem_latOf, ← natCast_eq]
      exact h ⟨i, hl ▸ hi⟩
    · intro h i
      obtain ⟨Qi, h2, h3⟩ := h i.1 (by rw [hl]; exact i.2)
      obtain ⟨Qi', h2', h3'⟩ := hpow i
      obtain rfl : Qi = Qi' := Except.ok.inj (h2.symm.trans h2')
      rw [h3', mem_latOf, ← natCast_eq] at h3
      exact h3

/-- **(D5a) unramified p**: all e_i = 1 ⇒ ∏ P_i = (p), identical normal forms (any order) -/
theorem product_is_p_unramified (he : ∀ x ∈ res, x.2 = 1) :
    ∃ Z : HNF, prodM t res = .ok Z ∧ principal t ((p : ℤ) :: List.replicate (n - 1) 0) = .ok Z :=
  (Run.mk hn hfl hmonic hB hC ht h0 hp hlen h).product_of_mem fun fs _ x _ y hy A => by
    rw [← A.mult, he y hy, pow_one]
    exact p_mem_Pof _ _

/-- **(D5b) the maximal order** (the case of the property: f irreducible, O = O_K integrally closed; `Rt T` is
the ring (ℤⁿ, +, ⋆) of the table): ∏ P_i^{e_i} = p·O, identical normal forms -/
theorem product_is_p (hirr : Irreducible ((toPoly f).map (Int.castRingHom ℚ))) (T : TableRing t n)
    (hmax : IsIntegrallyClosed (Rt T)) :
    ∃ Z : HNF, prodM t res = .ok Z ∧ principal t ((p : ℤ) :: List.replicate (n - 1) 0) = .ok Z := by
  have R : Run f n B t Cm p s res := ⟨hn, hfl, hmonic, hB, hC, ht, h0, hp, hlen, h⟩
  have : Fact p.Prime := ⟨hp⟩
  -- for an irreducible `f` the ring of the table is a domain, hence (integrally closed, finite over ℤ) Dedekind
  have hirr' : Irreducible (NTV.Alg.modulus f) := by rw [NTV.Ord.modulus_eq_map]; exact hirr
  have hdom : IsDomain (Rt R.tableRing) :=
    (NTV.MaxOrd.isDomain_Rt_iff _).mpr (NTV.IdealP.isDomain_of_isTable R.setup R.ht hirr' _)
  have hic : IsIntegrallyClosed (Rt R.tableRing) := hmax
  have hded : IsDedekindDomain (Rt R.tableRing) := isDedekindDomain_of_finite_int (toVec R.tableRing)
  obtain ⟨fs, hfs⟩ := R.factors
  obtain ⟨hA, _, hprod⟩ := R.kd hfs
  exact R.product_of_eq hfs (R.ctx.prod_eq_of_dedekind _ _ hprod
    (fun i => NTV.PolyMod.Shape.monic p (hA i).shape) fun i => Nat.ne_of_gt (hA i).shape.2.2.2)

/-- **(D5c) Dedekind's criterion** (O p-maximal, checkable on f): with f = ∏ g_i^{e_i} + p·H in ℤ[x], if no
ramified ḡ_i (e_i ≥ 2) divides H̄ then ∏ P_i^{e_i} = (p), identical normal forms -/
theorem product_is_p_of_dedekind_criterion (H : Polynomial ℤ)
    (hH : ∀ fs : Factors, factorizeModP f (p : Int) (wordOf p) s = .ok fs →
      toPoly f = NTV.PolyMod.factorProduct fs + Polynomial.C (p : ℤ) * H ∧
      ∀ x ∈ fs, 2 ≤ x.2 →
        ¬ (toPoly x.1).map (Int.castRingHom (ZMod p)) ∣ H.map (Int.castRingHom (ZMod p))) :
    ∃ Z : HNF, prodM t res = .ok Z ∧ principal t ((p : ℤ) :: List.replicate (n - 1) 0) = .ok Z := by
  have R : Run f n B t Cm p s res := ⟨hn, hfl, hmonic, hB, hC, ht, h0, hp, hlen, h⟩
  have : Fact p.Prime := ⟨hp⟩
  refine R.product_of_mem fun fs hfs x hx y _ A => ?_
  obtain ⟨hF, hnd⟩ := hH fs hfs
  by_cases he : 2 ≤ x.2
  · -- a ramified factor: split `g^e` off the product and apply the criterion at `g`
    obtain ⟨u, hu⟩ : toPoly x.1 ^ x.2 ∣ NTV.PolyMod.factorProduct fs :=
      List.dvd_prod (List.mem_map.mpr ⟨x, hx, rfl⟩)
    rw [hu] at hF
    exact R.ctx.p_mem_pow_of_criterion _ u H _ hF A.dvd A.irr (hnd x hx he)
  · have h1 : x.2 = 1 := by have := A.shape.2.2.2; omega
    rw [h1, pow_one]
    exact p_mem_Pof _ _

/-- **C17, the decomposition theorem** (Kummer–Dedekind, Cohen 4.8.13) for the maximal order: f monic
irreducible over ℚ, O ⊇ ℤ[θ] integrally closed (`Rt T` is the ring (ℤⁿ, +, ⋆) of the table), p ∤ (O : ℤ[θ])
(the run returned). With (g_i, e_i) the factors of f modulo p found by the run: the returned pairs are
(P_i, e_i) with P_i prime — indeed maximal — ideals of O, `norm P_i = p^{deg g_i}`, `cap_z P_i = p`,
P_i ∩ ℤ = pℤ, pairwise distinct (comaximal), Σ e_i·deg g_i = n, and the model's product ∏ P_i^{e_i} is
(p) = `principal (p, 0, …, 0)` (identical normal forms, no panic). -/
theorem kummer_dedekind (hirr : Irreducible ((toPoly f).map (Int.castRingHom ℚ))) (T : TableRing t n)
    (hmax : IsIntegrallyClosed (Rt T)) :
    ∃ fs : Factors, factorizeModP f (p : Int) (wordOf p) s = .ok fs ∧ res.length = fs.length ∧
      (∀ i (h1 : i < fs.length) (h2 : i < res.length),
        res[i].2 = fs[i].2 ∧
        NTV.Ideal.norm res[i].1 = (p : ℤ) ^ degU fs[i].1 ∧
        capZ res[i].1 = .ok (p : ℤ) ∧
        (∀ z : ℤ, z • e n ⟨0, hn⟩ ∈ Lat n res[i].1 ↔ (p : ℤ) ∣ z) ∧
        Lat n res[i].1 ≠ ⊤ ∧
        (∀ a b : Fin n → ℤ, star t n a b ∈ Lat n res[i].1 → a ∈ Lat n res[i].1 ∨ b ∈ Lat n res[i].1) ∧
        (∀ L : Submodule ℤ (Fin n → ℤ), (∀ a : Fin n → ℤ, ∀ x ∈ L, star t n a x ∈ L) →
          Lat n res[i].1 ≤ L → L = Lat n res[i].1 ∨ L = ⊤)) ∧
      (∀ i j (hi : i < res.length) (hj : j < res.length), i ≠ j →
        Lat n res[i].1 ⊔ Lat n res[j].1 = ⊤ ∧ res[i].1 ≠ res[j].1) ∧
      (fs.map (fun x => x.2 * degU x.1)).sum = n ∧
      ∃ Z : HNF, prodM t res = .ok Z ∧ principal t ((p : ℤ) :: List.replicate (n - 1) 0) = .ok Z := by
  obtain ⟨fs, hfs, hl, hq⟩ := prime_above_quotient f n hn hfl hmonic B hB Cm hC h0 t ht p hp hlen s res h
  obtain ⟨fs', hfs', _, hpt, _⟩ := decompose_shape f n hn hfl hmonic B t p s res h
  rw [hfs] at hfs'; cases hfs'
  obtain ⟨fs', hfs', _, hsum, _⟩ := degree_sum f n hn hfl hmonic B t p hp hlen s res h
  rw [hfs] at hfs'; cases hfs'
  refine ⟨fs, hfs, hl, fun i h1 h2 => ?_, fun i j hi hj hij => ?_, hsum,
    product_is_p f n hn hfl hmonic B hB Cm hC h0 t ht p hp hlen s res h hirr T hmax⟩
  · obtain ⟨_, q2, q3, q4, q5, _⟩ := hq i h1 h2
    obtain ⟨r1, r2, r3⟩ := prime_above_is_prime f n hn hfl hmonic B hB Cm hC h0 t ht p hp hlen s res h i h2
    exact ⟨(hpt i h1 h2).1, q2, q4, q5, r1, r2, r3⟩
  · exact primes_distinct f n hn hfl hmonic B hB Cm hC h0 t ht p hp hlen s res h i j hi hj hij

end KummerDedekind

/-! ### non-vacuity of the Kummer–Dedekind theorems

ℤ[√-5] (f = x² + 5, B = identity, `Cm` = 1, table `NTV.C16.t5`): 3 splits, 2 ramifies, 11 is inert (the runs
`split3`, `ramified2`, `inert11` above); ℤ[i] (f = x² + 1, the maximal order, integrally closed) with p = 2;
and the non-maximal order ℤ[2i] (f = x² + 4) where ∏ P_i^{e_i} ≠ (p). -/
section examples
open NTV.KD Polynomial
open NTV.PolyG (toPoly)

theorem id2_rect : Rect 2 2 ([[1, 0], [0, 1]] : QMat) := ⟨rfl, by simp⟩
/-- the order is ℤ[θ] itself: the coordinates of 1, θ are the unit vectors -/
theorem id2_inv : (1 : Matrix (Fin 2) (Fin 2) ℤ).map (Int.castRingHom ℚ) * toM 2 2 ([[1, 0], [0, 1]] : QMat) = 1 := by
  have h : NTV.Ord.identityQ 2 = [[1, 0], [0, 1]] := by decide +kernel
  rw [← h, NTV.Ord.identityQ_toM, Matrix.map_one _ (map_zero _) (map_one _), one_mul]
theorem t5_isTable : NTV.Ord.IsTable [5, 0, 1] [[1, 0], [0, 1]] 2 NTV.C16.t5 :=
  NTV.C14.table_entries [5, 0, 1] [[1, 0], [0, 1]] 2 (by intro _; simp) rfl (by norm_num) id2_rect
    (det_ne_zero_of_inverse id2_inv) _ (by decide +kernel)

example : TableRing NTV.C16.t5 2 :=
  table_is_ring [5, 0, 1] 2 (by decide) rfl rfl _ id2_rect 1 id2_inv rfl _ t5_isTable
example := mod_p_iso [5, 0, 1] 2 (by decide) rfl rfl _ id2_rect 1 id2_inv rfl _ t5_isTable 3 (by norm_num)
  (fun h => by omega) _ _ split3
example := mod_p_ring_iso [5, 0, 1] 2 (by decide) rfl rfl _ id2_rect 1 id2_inv rfl _ t5_isTable 3 (by norm_num)
  (fun h => by omega) _ _ split3 NTV.C16.t5_ring
example := prime_above_quotient [5, 0, 1] 2 (by decide) rfl rfl _ id2_rect 1 id2_inv rfl _ t5_isTable 2
  (by norm_num) (fun h => by omega) _ _ ramified2
example := prime_above_quotient [5, 0, 1] 2 (by decide) rfl rfl _ id2_rect 1 id2_inv rfl _ t5_isTable 11
  (by norm_num) (fun h => by omega) _ _ inert11

/-- the norm of (3, θ + 2) is 3 = 3^{deg (x + 2)}, by the theorem (and by evaluation) -/
example : NTV.Ideal.norm ([[3, 0], [2, 1]] : HNF) = 3 := by
  obtain ⟨fs, hfs, _, hall⟩ := prime_above_quotient [5, 0, 1] 2 (by decide) rfl rfl _ id2_rect 1 id2_inv rfl _
    t5_isTable 3 (by norm_num) (fun h => by omega) _ _ split3
  have h1 : factorizeModP [5, 0, 1] ((3 : Nat) : Int) (wordOf ((3 : Nat) : Int)) [[0,0,0,0],[0,0,0,64]] =
      .ok [([2, 1], 1), ([1, 1], 1)] := by decide +kernel
  rw [h1] at hfs; cases hfs
  exact (hall 0 (by decide) (by decide)).2.1
example : NTV.Ideal.norm ([[3, 0], [2, 1]] : HNF) = 3 ∧ NTV.Ideal.norm ([[11, 0], [0, 11]] : HNF) = 11 ^ 2 := by
  decide +kernel

/-- (3, θ + 2) is a prime ideal of ℤ[√-5] -/
example : ∀ a b : Fin 2 → ℤ, star NTV.C16.t5 2 a b ∈ Lat 2 ([[3, 0], [2, 1]] : HNF) →
    a ∈ Lat 2 ([[3, 0], [2, 1]] : HNF) ∨ b ∈ Lat 2 ([[3, 0], [2, 1]] : HNF) :=
  (prime_above_is_prime [5, 0, 1] 2 (by decide) rfl rfl _ id2_rect 1 id2_inv rfl _ t5_isTable 3 (by norm_num)
    (fun h => by omega) _ _ split3 0 (by decide)).2.1
example := prime_above_is_prime [5, 0, 1] 2 (by decide) rfl rfl _ id2_rect 1 id2_inv rfl _ t5_isTable 11
  (by norm_num) (fun h => by omega) _ _ inert11 0 (by decide)

/-- (3, θ + 2) + (3, θ + 1) = ℤ[√-5] -/
example : Lat 2 ([[3, 0], [2, 1]] : HNF) ⊔ Lat 2 ([[3, 0], [1, 1]] : HNF) = ⊤ :=
  (primes_distinct [5, 0, 1] 2 (by decide) rfl rfl _ id2_rect 1 id2_inv rfl _ t5_isTable 3 (by norm_num)
    (fun h => by omega) _ _ split3 0 1 (by decide) (by decide) (by decide)).1

example := product_partial [5, 0, 1] 2 (by decide) rfl rfl _ id2_rect 1 id2_inv rfl _ t5_isTable 2 (by norm_num)
  (fun h => by omega) _ _ ramified2

/-- (3) = (3, θ + 2)(3, θ + 1): by the theorem for unramified primes, and by evaluation -/
example : ∃ Z : HNF, prodM NTV.C16.t5 [([[3, 0], [2, 1]], 1), ([[3, 0], [1, 1]], 1)] = .ok Z ∧
    principal NTV.C16.t5 (((3 : Nat) : ℤ) :: List.replicate (2 - 1) 0) = .ok Z :=
  product_is_p_unramified [5, 0, 1] 2 (by decide) rfl rfl _ id2_rect 1 id2_inv rfl _ t5_isTable 3 (by norm_num)
    (fun h => by omega) _ _ split3 (by decide)
example : prodM NTV.C16.t5 [([[3, 0], [2, 1]], 1), ([[3, 0], [1, 1]], 1)] = .ok [[3, 0], [0, 3]] ∧
    principal NTV.C16.t5 [3, 0] = .ok [[3, 0], [0, 3]] := by decide +kernel

/-- (2) = (2, θ + 1)² in ℤ[√-5] by Dedekind's criterion: x² + 5 = (x + 1)² + 2·(2 − x) and x + 1 ∤ x modulo 2 -/
example : ∃ Z : HNF, prodM NTV.C16.t5 [([[2, 0], [1, 1]], 2)] = .ok Z ∧
    principal NTV.C16.t5 (((2 : Nat) : ℤ) :: List.replicate (2 - 1) 0) = .ok Z := by
  apply product_is_p_of_dedekind_criterion [5, 0, 1] 2 (by decide) rfl rfl _ id2_rect 1 id2_inv rfl _ t5_isTable 2
    (by norm_num) (fun h => by omega) _ _ ramified2 (2 - X)
  intro fs hfs
  have h1 : factorizeModP [5, 0, 1] ((2 : Nat) : Int) (wordOf ((2 : Nat) : Int)) [] = .ok [([1, 1], 2)] := by
    decide +kernel
  rw [h1] at hfs; cases hfs
  constructor
  · simp [NTV.PolyMod.factorProduct, toPoly]
    ring
  · intro x hx _
    simp only [List.mem_singleton] at hx
    subst hx
    rintro ⟨q, hq⟩
    have := congrArg (Polynomial.eval (1 : ZMod 2)) hq
    simp [toPoly] at this
    have h2 : (1 + 1 : ZMod 2) = 0 := by decide
    rw [h2, zero_mul] at this
    revert this
    decide
example : prodM NTV.C16.t5 [([[2, 0], [1, 1]], 2)] = .ok [[2, 0], [0, 2]] := by decide +kernel

/-! the maximal order ℤ[i], p = 2 = −i(1 + i)² -/

def tG : Table := [[[1, 0], [0, 1]], [[0, 1], [-1, 0]]]
/-- `tG` is the table `NTV.IdealP.tGauss` (`Proofs/Lemmas/IdealNormD.lean`) -/
theorem tG_ring : TableRing tG 2 := NTV.IdealP.tGauss_ring
theorem tG_isTable : NTV.Ord.IsTable [1, 0, 1] [[1, 0], [0, 1]] 2 tG := NTV.C14.gauss_isTable

/-- the ring of the table of ℤ[i] is the ring of Gaussian integers of Mathlib (`NTV.IdealP.gaussEquiv`), hence
integrally closed (a Euclidean domain) -/
theorem gauss_integrallyClosed : IsIntegrallyClosed (Rt tG_ring) :=
  (NTV.MaxOrd.isIntegrallyClosed_Rt_iff tG_ring).mpr
    (IsIntegrallyClosed.of_equiv NTV.IdealP.gaussEquiv.symm : IsIntegrallyClosed (RT NTV.IdealP.tGauss_ring))

theorem gauss_irreducible : Irreducible ((toPoly ([1, 0, 1] : List Int)).map (Int.castRingHom ℚ)) := by
  rw [← NTV.Ord.modulus_eq_map]; exact NTV.C16.gauss_irreducible

theorem gauss_ramified2 : decompose [1, 0, 1] [[1, 0], [0, 1]] tG ((2 : Nat) : Int) [] =
    .ok [([[2, 0], [1, 1]], 2)] := by decide +kernel

/-- the hypotheses of `product_is_p` are satisfiable: (2) = (2, 1 + i)² in ℤ[i] -/
example : ∃ Z : HNF, prodM tG [([[2, 0], [1, 1]], 2)] = .ok Z ∧
    principal tG (((2 : Nat) : ℤ) :: List.replicate (2 - 1) 0) = .ok Z :=
  product_is_p [1, 0, 1] 2 (by decide) rfl rfl _ id2_rect 1 id2_inv rfl _ tG_isTable 2 (by norm_num)
    (fun h => by omega) _ _ gauss_ramified2 gauss_irreducible tG_ring gauss_integrallyClosed
example : prodM tG [([[2, 0], [1, 1]], 2)] = .ok [[2, 0], [0, 2]] := by decide +kernel
example := kummer_dedekind [1, 0, 1] 2 (by decide) rfl rfl _ id2_rect 1 id2_inv rfl _ tG_isTable 2 (by norm_num)
  (fun h => by omega) _ _ gauss_ramified2 gauss_irreducible tG_ring gauss_integrallyClosed

/-! the product clause needs the maximality of the order: ℤ[2i] (f = x² + 4, B = identity: index 1), p = 2.
All standing hypotheses hold and `decompose` returns (P, 2) with P = (2, θ) — a prime ideal of norm 2 by (D2),
(D3) — but P² = (4, 2θ) has index 8 and is strictly contained in (2). -/

def t4 : Table := [[[1, 0], [0, 1]], [[0, 1], [-4, 0]]]
theorem t4_isTable : NTV.Ord.IsTable [4, 0, 1] [[1, 0], [0, 1]] 2 t4 :=
  NTV.C14.table_entries [4, 0, 1] [[1, 0], [0, 1]] 2 (by intro _; simp) rfl (by norm_num) id2_rect
    (det_ne_zero_of_inverse id2_inv) _ (by decide +kernel)
theorem nonmax_ramified2 : decompose [4, 0, 1] [[1, 0], [0, 1]] t4 ((2 : Nat) : Int) [] =
    .ok [([[2, 0], [0, 1]], 2)] := by decide +kernel

/-- **∏ P_i^{e_i} = (p) fails for a non-maximal order** although p ∤ (O : ℤ[θ]) = 1 -/
theorem product_counterexample :
    prodM t4 [([[2, 0], [0, 1]], 2)] = .ok [[4, 0], [0, 2]] ∧ principal t4 [2, 0] = .ok [[2, 0], [0, 2]] := by
  decide +kernel

/-- by `product_partial`: 2 ∉ P² there -/
example : ¬ ((2 : ℤ) • e 2 ⟨0, by decide⟩ ∈ Lat 2 ([[4, 0], [0, 2]] : HNF)) := by
  obtain ⟨Q, Z, hQ, hZ, _, _, hiff⟩ := product_partial [4, 0, 1] 2 (by decide) rfl rfl _ id2_rect 1 id2_inv rfl _
    t4_isTable 2 (by norm_num) (fun h => by omega) _ _ nonmax_ramified2
  rw [product_counterexample.1] at hQ
  have hZ' : principal t4 [2, 0] = .ok Z := hZ
  rw [product_counterexample.2] at hZ'
  cases hQ; cases hZ'
  intro hmem
  have : ([[4, 0], [0, 2]] : HNF) = [[2, 0], [0, 2]] := by
    apply hiff.mpr
    intro i hi
    have hi0 : i = 0 := by simp at hi; omega
    subst hi0
    have hpow : powM t4 [[2, 0], [0, 1]] 2 = .ok [[4, 0], [0, 2]] := by decide +kernel
    exact ⟨[[4, 0], [0, 2]], hpow, hmem⟩
  exact absurd this (by decide)

end examples

/-! ## Kummer–Dedekind for the maximal order computed by Round 2 (C06): integral closedness is derived

`O` is the result of `find_integral_basis(f)` and `t` the table returned by `get_mult_table` on it. For monic `f`
the starting order of Round 2 is ℤ[θ], so ℤ[θ] ⊆ O (`NTV.MaxOrd.findIntegralBasis_contains_power_basis`); ω_0 = 1
(`NTV.Round2.GoodOrder.first_row`); and for irreducible `f` the ring of the table is integrally closed because `O` is
contained in no strictly larger order (`NTV.C16.maximal_order_integrally_closed`). -/
section MaximalOrder
open NTV.KD Polynomial
open NTV.PolyG (toPoly)

/-- the standing hypotheses of the Kummer–Dedekind section hold for the Round 2 output (f monic of degree n ≥ 1):
`O` is an n × n basis matrix containing ℤ[θ] (`Cm · O = 1`, `Cm` integral) with first row (1, 0, …, 0), and
`get_mult_table` succeeds on it -/
theorem maximal_order_setting (f : List Int) (n : Nat) (hfl : f.length = n + 1) (hmonic : lc f = 1)
    (O : QMat) (hO : NTV.Round2.findIntegralBasis f = .ok O) :
    Rect n n O ∧ (∃ Cm : Matrix (Fin n) (Fin n) ℤ, Cm.map (Int.castRingHom ℚ) * toM n n O = 1) ∧
      O.getD 0 [] = 1 :: List.replicate (n - 1) 0 ∧
      ∃ t : Table, NTV.Ord.getMultTable O f = .ok t ∧ NTV.Ord.IsTable f O n t := by
  obtain ⟨hdeg, hco, hcanon⟩ := NTV.MaxOrd.coefAt_degU_of_monic f n hfl hmonic
  subst hdeg
  have g := NTV.Round2.findIntegralBasis_good f hcanon O hO
  obtain ⟨ht, _⟩ := g.setup.ctx_of_closed g.closed
  exact ⟨g.setup.rect, NTV.MaxOrd.findIntegralBasis_contains_power_basis f hco O hO, g.first_row, _,
    g.setup.getMultTable_ok (g.setup.closed_iff.mp g.closed), ht⟩

/-- **C17 for the maximal order computed by `find_integral_basis`** (Kummer–Dedekind, Cohen 4.8.13), without
hypothesis on the ring of the table: `f` monic of degree n ≥ 1, irreducible over ℚ; `O` the result of
`find_integral_basis(f)`; `t` the table returned by `get_mult_table` on `O`; `p` prime; the run of `decompose` on the
draw stream `s` (universally quantified) returned `res` (so p ∤ (O : ℤ[θ])). With (g_i, e_i) the factors of f modulo p
found by the run: the returned pairs are (P_i, e_i) with P_i prime — indeed maximal — ideals of O,
`norm P_i = p^{deg g_i}`, `cap_z P_i = p`, P_i ∩ ℤ = pℤ, pairwise distinct (comaximal), Σ e_i·deg g_i = n, and the
model's product ∏ P_i^{e_i} is (p) = `principal (p, 0, …, 0)` (identical normal forms, no panic). -/
theorem kummer_dedekind_maximal_order (f : List Int) (n : Nat) (hn : 1 ≤ n) (hfl : f.length = n + 1)
    (hmonic : lc f = 1) (hirr : Irreducible ((toPoly f).map (Int.castRingHom ℚ)))
    (O : QMat) (hO : NTV.Round2.findIntegralBasis f = .ok O)
    (t : Table) (ht : NTV.Ord.getMultTable O f = .ok t)
    (p : Nat) (hp : p.Prime) (hlen : 2 ^ 64 ≤ p → f.length < 2 ^ 64)
    (s : NTV.Draw.Stream) (res : List (HNF × Nat)) (h : decompose f O t (p : Int) s = .ok res) :
    ∃ fs : Factors, factorizeModP f (p : Int) (wordOf p) s = .ok fs ∧ res.length = fs.length ∧
      (∀ i (h1 : i < fs.length) (h2 : i < res.length),
        res[i].2 = fs[i].2 ∧
        NTV.Ideal.norm res[i].1 = (p : ℤ) ^ degU fs[i].1 ∧
        capZ res[i].1 = .ok (p : ℤ) ∧
        (∀ z : ℤ, z • e n ⟨0, hn⟩ ∈ Lat n res[i].1 ↔ (p : ℤ) ∣ z) ∧
        Lat n res[i].1 ≠ ⊤ ∧
        (∀ a b : Fin n → ℤ, star t n a b ∈ Lat n res[i].1 → a ∈ Lat n res[i].1 ∨ b ∈ Lat n res[i].1) ∧
        (∀ L : Submodule ℤ (Fin n → ℤ), (∀ a : Fin n → ℤ, ∀ x ∈ L, star t n a x ∈ L) →
          Lat n res[i].1 ≤ L → L = Lat n res[i].1 ∨ L = ⊤)) ∧
      (∀ i j (hi : i < res.length) (hj : j < res.length), i ≠ j →
        Lat n res[i].1 ⊔ Lat n res[j].1 = ⊤ ∧ res[i].1 ≠ res[j].1) ∧
      (fs.map (fun x => x.2 * degU x.1)).sum = n ∧
      ∃ Z : HNF, prodM t res = .ok Z ∧ principal t ((p : ℤ) :: List.replicate (n - 1) 0) = .ok Z := by
  obtain ⟨hB, ⟨Cm, hC⟩, h0, t', ht', hT⟩ := maximal_order_setting f n hfl hmonic O hO
  rw [ht] at ht'
  cases ht'
  obtain ⟨hdeg, _, hcanon⟩ := NTV.MaxOrd.coefAt_degU_of_monic f n hfl hmonic
  have hirr' : Irreducible (NTV.Alg.modulus f) := by rw [NTV.Ord.modulus_eq_map]; exact hirr
  obtain ⟨t', ht', _, T', hall⟩ := NTV.C16.maximal_order_integrally_closed f hcanon hirr' O hO
  rw [ht] at ht'
  cases ht'
  rw [hdeg] at T' hall
  exact kummer_dedekind f n hn hfl hmonic O hB Cm hC h0 t hT p hp hlen s res h hirr T' (hall T').2.2.2.2

/-- likewise the product clause alone -/
theorem product_is_p_maximal_order (f : List Int) (n : Nat) (hn : 1 ≤ n) (hfl : f.length = n + 1)
    (hmonic : lc f = 1) (hirr : Irreducible ((toPoly f).map (Int.castRingHom ℚ)))
    (O : QMat) (hO : NTV.Round2.findIntegralBasis f = .ok O)
    (t : Table) (ht : NTV.Ord.getMultTable O f = .ok t)
    (p : Nat) (hp : p.Prime) (hlen : 2 ^ 64 ≤ p → f.length < 2 ^ 64)
    (s : NTV.Draw.Stream) (res : List (HNF × Nat)) (h : decompose f O t (p : Int) s = .ok res) :
    ∃ Z : HNF, prodM t res = .ok Z ∧ principal t ((p : ℤ) :: List.replicate (n - 1) 0) = .ok Z := by
  obtain ⟨_, _, _, _, _, _, hZ⟩ := kummer_dedekind_maximal_order f n hn hfl hmonic hirr O hO t ht p hp hlen s res h
  exact hZ

/-! ### non-vacuity: the Eisenstein integers (f = x² + 3, O = ℤ[(1+√−3)/2] ≠ ℤ[θ], index 2): 3 ramifies, 7 splits,
5 is inert; p = 2 divides the index and is refused -/

theorem eisenstein_irreducible : Irreducible ((toPoly ([3, 0, 1] : List Int)).map (Int.castRingHom ℚ)) := by
  rw [← NTV.Ord.modulus_eq_map]; exact NTV.C16.eisenstein_irreducible

theorem eis_ramified3 : decompose [3, 0, 1] [[1, 0], [1/2, 1/2]] NTV.C16.tEis ((3 : Nat) : Int) [] =
    .ok [([[3, 0], [1, 1]], 2)] := by decide +kernel
theorem eis_split7 : decompose [3, 0, 1] [[1, 0], [1/2, 1/2]] NTV.C16.tEis ((7 : Nat) : Int) [[0,0,0,0],[0,0,0,64]] =
    .ok [([[7, 0], [2, 1]], 1), ([[7, 0], [4, 1]], 1)] := by decide +kernel
theorem eis_inert5 : decompose [3, 0, 1] [[1, 0], [1/2, 1/2]] NTV.C16.tEis ((5 : Nat) : Int) [] =
    .ok [([[5, 0], [0, 5]], 1)] := by decide +kernel
example : decompose [3, 0, 1] [[1, 0], [1/2, 1/2]] NTV.C16.tEis ((2 : Nat) : Int) [] = .error "panic other" := by
  decide +kernel

example := maximal_order_setting [3, 0, 1] 2 rfl rfl _ NTV.C16.eisenstein_basis
example := kummer_dedekind_maximal_order [3, 0, 1] 2 (by decide) rfl rfl eisenstein_irreducible _
  NTV.C16.eisenstein_basis _ NTV.C16.eisenstein_table 3 (by norm_num) (fun h => by omega) _ _ eis_ramified3
example := kummer_dedekind_maximal_order [3, 0, 1] 2 (by decide) rfl rfl eisenstein_irreducible _
  NTV.C16.eisenstein_basis _ NTV.C16.eisenstein_table 7 (by norm_num) (fun h => by omega) _ _ eis_split7
example := kummer_dedekind_maximal_order [3, 0, 1] 2 (by decide) rfl rfl eisenstein_irreducible _
  NTV.C16.eisenstein_basis _ NTV.C16.eisenstein_table 5 (by norm_num) (fun h => by omega) _ _ eis_inert5

/-- (3) = (3, 1 + ω)² in ℤ[ω]: through the theorem, and by evaluation -/
example : ∃ Z : HNF, prodM NTV.C16.tEis [([[3, 0], [1, 1]], 2)] = .ok Z ∧
    principal NTV.C16.tEis (((3 : Nat) : ℤ) :: List.replicate (2 - 1) 0) = .ok Z :=
  product_is_p_maximal_order [3, 0, 1] 2 (by decide) rfl rfl eisenstein_irreducible _
    NTV.C16.eisenstein_basis _ NTV.C16.eisenstein_table 3 (by norm_num) (fun h => by omega) _ _ eis_ramified3
example : prodM NTV.C16.tEis [([[3, 0], [1, 1]], 2)] = .ok [[3, 0], [0, 3]] ∧
    principal NTV.C16.tEis [3, 0] = .ok [[3, 0], [0, 3]] := by decide +kernel

end MaximalOrder

end NTV.C17

/-! ## Panic-freedom under the hypotheses of the Kummer–Dedekind theorem -/
namespace NTV.C17
open NTV.Ideal NTV.KD NTV.PolyG
open NTV.RowOps (toM Rect)

/-- **C17 panic-freedom.** f monic of degree n ≥ 1 (fewer than 2⁶⁴ coefficients), O ⊇ ℤ[θ] an order given by a
basis matrix B with an integral inverse Cm (so (O : ℤ[θ]) = det Cm) and first basis vector 1, t its
multiplication table, p a prime NOT dividing the index (otherwise the routine refuses with an explicit panic,
`refuses_when_p_divides_index`): for EVERY draw stream a run of `decompose` that does not return fails with
`inconclusive stream` (the random chunks for `factorize_mod_p` ran out — not a behaviour of the code).
No Rust panic is possible: the power-basis order and the index are computed without error (the index is the
integer det Cm), the modular factorisation is called on legal input (C08), and for every modular factor g
the closure succeeds: `to_z_basis_int` finds an integral solution (g(θ) ∈ ℤ[θ] ⊆ O), `Ideal::principal` and
the sum of ideals are total. -/
theorem no_panic (f : List Int) (n : Nat) (hn : 1 ≤ n) (hfl : f.length = n + 1) (hmonic : lc f = 1)
    (B : QMat) (hB : Rect n n B) (Cm : Matrix (Fin n) (Fin n) ℤ)
    (hC : Cm.map (Int.castRingHom ℚ) * toM n n B = 1)
    (h0 : B.getD 0 [] = 1 :: List.replicate (n - 1) 0)
    (t : Table) (ht : NTV.Ord.IsTable f B n t)
    (p : Nat) (hp : p.Prime) (hidx : ¬ (p : ℤ) ∣ Cm.det) (hlen : f.length < 2 ^ 64)
    (s : NTV.Draw.Stream) (e : String) (h : decompose f B t (p : Int) s = .error e) :
    e = "inconclusive stream" := by
  have T := table_is_ring f n hn hfl hmonic B hB Cm hC h0 t ht
  have hne : f ≠ [] := by intro e0; simp [e0] at hfl
  have hemp : f.isEmpty = false := List.isEmpty_eq_false_iff.mpr hne
  have hdeg : degU f = n := NTV.PolyG.degU_of_length hfl
  have hz := (NTV.C15.power_basis_discriminant f n hn hfl hmonic).1
  have hindex := index_of_inverse hB hC
  have hp0 : (p : Int) ≠ 0 := by have := hp.pos; omega
  have hmod : ¬ Int.tmod Cm.det (p : Int) = 0 := fun h0 => hidx (Int.dvd_iff_tmod_eq_zero.mpr h0)
  unfold decompose at h
  simp only [hemp, Bool.false_eq_true, if_false, hz, hindex, hp0, hmod, bind, Except.bind,
    throw, throwThe, MonadExceptOf.throw] at h
  have hfnz : (toPoly f).map (Int.castRingHom (ZMod p)) ≠ 0 :=
    have : Fact p.Prime := ⟨hp⟩
    ((NTV.DecompP.monic_toPoly hfl hmonic).1.map _).ne_zero
  have hw : p < 2 ^ 64 → wordOf (p : Int) = p := NTV.DecompP.wordOf_natCast
  cases hfs : NTV.PolyMod.factorizeModP f (p : Int) (wordOf (p : Int)) s with
  | error e' =>
    rw [hfs] at h
    simp only [Except.error.injEq] at h
    subst h
    exact NTV.C08.no_panic p hp f _ s _ hfnz hw hlen hfs
  | ok fs =>
    rw [hfs] at h
    exfalso
    have hres := NTV.IdealP.mapM_ok (fun (x : List Int × Nat) => primeAbove f B t (p : Int) x.1 x.2)
      (fun x => Classical.choose (primeAbove_total T hdeg hB hC (p : Int) x.1 x.2)) fs
      (fun x _ => Classical.choose_spec (primeAbove_total T hdeg hB hC (p : Int) x.1 x.2))
    simp only at h
    rw [show (fs.mapM (fun (x : List Int × Nat) => match x with | (poly, e) => primeAbove f B t (p : Int) poly e))
      = fs.mapM (fun (x : List Int × Nat) => primeAbove f B t (p : Int) x.1 x.2) from rfl, hres] at h
    cases h

/-- the closure (g, e) ↦ ((g(θ)) + (p), e) is total for every integer polynomial g (under the same hypotheses
on the order) -/
theorem prime_above_total (f : List Int) (n : Nat) (hn : 1 ≤ n) (hfl : f.length = n + 1) (hmonic : lc f = 1)
    (B : QMat) (hB : Rect n n B) (Cm : Matrix (Fin n) (Fin n) ℤ)
    (hC : Cm.map (Int.castRingHom ℚ) * toM n n B = 1)
    (h0 : B.getD 0 [] = 1 :: List.replicate (n - 1) 0)
    (t : Table) (ht : NTV.Ord.IsTable f B n t) (p : Int) (g : List Int) (m : Nat) :
    ∃ r, primeAbove f B t p g m = .ok r :=
  primeAbove_total (table_is_ring f n hn hfl hmonic B hB Cm hC h0 t ht) (NTV.PolyG.degU_of_length hfl) hB hC p g m

/-! non-vacuity: ℤ[√-5], p = 3 (index 1): the hypotheses hold (`id2_rect`, `id2_inv`, `t5_isTable`); with an
empty stream the run is inconclusive, with exactly this message -/
example : ∀ s e, decompose [5, 0, 1] [[1, 0], [0, 1]] NTV.C16.t5 ((3 : Nat) : Int) s = .error e →
    e = "inconclusive stream" :=
  fun s e h => no_panic [5, 0, 1] 2 (by decide) rfl rfl _ id2_rect 1 id2_inv rfl _ t5_isTable 3 (by norm_num)
    (by simp) (by decide) s e h
example : decompose [5, 0, 1] [[1, 0], [0, 1]] NTV.C16.t5 3 [] = .error "inconclusive stream" := by decide +kernel

end NTV.C17
