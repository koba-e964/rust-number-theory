import NTV.Proofs.Lemmas.LinAlgProofs
import NTV.Proofs.Lemmas.LinAlgIim
import NTV.Proofs.Lemmas.LinAlgSupp
import NTV.Proofs.Lemmas.LinAlgImgFinal
/-! # C18 — exact rational linear algebra: property theorems about the model `NTV.LinAlg`
Matrices are lists of rows; `toM n m A` is the Mathlib matrix of an `n × m` list matrix (`Rect n m A`).
`determinant`, `inv`, `solve_linear_system`, `mul_inv_from_right_exact` are about square matrices (helper
lemmas in `LinAlgProofs`); `iim` (`LinAlgIim`), `supplement_basis` (`LinAlgSupp`) and `image_mod_p`
(`LinAlgImg*`) about rectangular ones. -/
namespace NTV.C18
open NTV.LinAlg Matrix
open NTV.RowOps (toM Rect)

/-- the determinant routine computes the (Leibniz) determinant of every square rational matrix -/
theorem determinant_is_det (A : QMat) (n : Nat) (hr : Rect n n A) :
    determinant A = .ok (toM n n A).det := determinant_eq A n hr

/-- the inverse routine returns `B` with `B * A = 1` exactly when `A` is non-singular, and
`MatrixNotInvertible` (never anything else) otherwise -/
theorem inv_exactly_when_nonsingular (A : QMat) (n : Nat) (hr : Rect n n A) :
    ((toM n n A).det ≠ 0 → ∃ B, inv A = .ok B ∧ toM n n B * toM n n A = 1) ∧
    ((toM n n A).det = 0 → inv A = .error errNotInvertible) := by
  cases h : inv A with
  | ok B =>
    have h1 := inv_ok A B n hr h
    exact ⟨fun _ => ⟨B, rfl, h1⟩, fun hdet => absurd hdet (det_ne_zero_of_left_inverse h1)⟩
  | error e =>
    obtain ⟨rfl, h0⟩ := inv_err A n hr e h
    exact ⟨fun hdet => absurd h0 hdet, fun _ => rfl⟩

/-- the linear solver returns the row vector `x` with `x * A = b` exactly when `A` is non-singular,
and `MatrixNotInvertible` (never anything else) otherwise — also when the singular system happens to
be solvable -/
theorem solve_exactly_when_nonsingular (A : QMat) (b : QRow) (n : Nat) (hr : Rect n n A)
    (hb : b.length = n) :
    ((toM n n A).det ≠ 0 → ∃ x, solve A b = .ok x ∧
      (fun k : Fin n => x.getD k 0) ᵥ* toM n n A = fun c : Fin n => b.getD c 0) ∧
    ((toM n n A).det = 0 → solve A b = .error errNotInvertible) := by
  cases h : solve A b with
  | ok x =>
    exact ⟨fun _ => ⟨x, rfl, solve_ok A b x n hr hb h⟩,
      fun hdet => absurd hdet (solve_ok_nonsingular A b x n hr hb h)⟩
  | error e =>
    obtain ⟨rfl, h0⟩ := solve_err A b n hr hb e h
    exact ⟨fun hdet => absurd h0 hdet, fun _ => rfl⟩

/-- the inverse-image routine on an `n × m` matrix `M` and an `r × m` matrix `V` (`n, r ≥ 1`, any
`m`, in particular `m > n`): it reports `LinearlyDependent` exactly when the rows of `M` are
dependent; when they are independent it returns `X` with `X * M = V` if every row of `V` lies in
their span, and `NotInImage` otherwise — so each of the two errors is reported correctly -/
theorem inverse_image (M V : QMat) (n m r : Nat) (hM : Rect n m M) (hV : Rect r m V) (hn : 0 < n) (hr : 0 < r) :
    let dependent := ∃ y : Fin n → ℚ, y ≠ 0 ∧ y ᵥ* toM n m M = 0
    let inSpan := ∀ i : Fin r, ∃ x : Fin n → ℚ, x ᵥ* toM n m M = toM r m V i
    (dependent → iim M V = .error errLinearlyDependent) ∧
    (¬ dependent → inSpan → ∃ X, iim M V = .ok X ∧ toM r n X * toM n m M = toM r m V) ∧
    (¬ dependent → ¬ inSpan → iim M V = .error errNotInImage) := by
  intro dependent inSpan
  have hcases := iim_unfold M V n m r hM hV hn hr
  have hsp := iimLoop_spec n 0 M V (Nat.zero_add n) (Nat.zero_le m) hr (II.init hM hV)
  cases hloop : iimLoop m n 0 M V with
  | none =>
    rw [hloop] at hcases hsp
    have hdep : dependent := hsp.vecMul
    exact ⟨fun _ => hcases, fun h => absurd hdep h, fun h => absurd hdep h⟩
  | some p =>
    obtain ⟨M', B'⟩ := p
    rw [hloop] at hcases hsp
    dsimp only at hcases
    obtain ⟨hnm, hfin⟩ := hsp
    have hindep : ¬ dependent := by
      rintro ⟨y, hy0, hy⟩
      refine hy0 (funext fun l => ?_)
      have := hfin.independent hnm hr (ext0 y) (fun c hc => by
        rw [sum_ext0 y (fun l => ent M l c) (le_refl n)]
        exact congrFun hy ⟨c, hc⟩) l l.2
      rwa [ext0, dif_pos l.2] at this
    refine ⟨fun h => absurd h hindep, fun _ hspan => ?_, fun _ hnspan => ?_⟩
    · have hchk : iimCheck n m M' B' (B'.map (iimBackRow n M')) = true := by
        refine hfin.check_of_span fun i hi => ?_
        obtain ⟨x, hx⟩ := hspan ⟨i, hi⟩
        refine ⟨ext0 x, fun c hc => ?_⟩
        rw [one_mul, sum_ext0 x (fun l => ent M l c) (le_refl n)]
        exact congrFun hx ⟨c, hc⟩
      rw [if_pos hchk] at hcases
      exact ⟨_, hcases, iim_ok M V _ n m r hM hV hn hr hcases⟩
    · by_cases hchk : iimCheck n m M' B' (B'.map (iimBackRow n M')) = true
      · rw [if_pos hchk] at hcases
        -- an accepted answer exhibits every row of `V` as a combination
        have hX := iim_ok M V _ n m r hM hV hn hr hcases
        exact absurd (fun i => ⟨_, (Matrix.mul_apply_eq_vecMul _ _ i).symm.trans (congrFun hX i)⟩) hnspan
      · rw [if_neg hchk] at hcases
        exact hcases

/-- basis supplementation on a `k × n` matrix (`k ≥ 1`): it returns an invertible `n × n` matrix
whose first `k` rows are the input exactly when the input rows are independent (rank `k`), and
`InsufficientRank` otherwise -/
theorem supplement (M : QMat) (k n : Nat) (hM : Rect k n M) (hk : 0 < k) :
    let independent := ∀ y : Fin k → ℚ, y ᵥ* toM k n M = 0 → y = 0
    (independent → ∃ B, supplementBasis M = .ok B ∧ k ≤ n ∧ Rect n n B ∧
      (∀ i c, i < k → ent B i c = ent M i c) ∧ (toM n n B).det ≠ 0) ∧
    (¬ independent → supplementBasis M = .error errInsufficientRank) := by
  intro independent
  have hsp := suppLoop_spec k 0 M (idMat n) hM (Nat.zero_add k) (Nat.zero_le n) (SPI.init hM)
  rw [supp_unfold M k n hM hk]
  cases hloop : suppLoop n M k 0 M (idMat n) with
  | some B =>
    rw [hloop] at hsp
    obtain ⟨h1, h2, h3, h4⟩ := hsp
    have hind : independent := independent_of_supp M B k n h1 h3 h4
    exact ⟨fun _ => ⟨B, rfl, h1, h2, h3, h4⟩, fun hn => absurd hind hn⟩
  | none =>
    rw [hloop] at hsp
    obtain ⟨y, hy0, hy⟩ := hsp.vecMul
    exact ⟨fun hind => absurd (hind y hy) hy0, fun _ => rfl⟩

/-- exact right division: `Ok(C)` only with `C * B = A`; `MatrixNotInvertible` only for singular
`B`; the integrality assertion fails only when no integer `C` with `C * B = A` exists — so for
non-singular `B` the quotient is returned whenever it exists -/
theorem right_division (A B : IMat) (n : Nat) (hn : 0 < n) (hA : Rect n n A) (hB : Rect n n B) :
    (∀ C, mulInvFromRightExact A B = .ok C → toMZ n C * toMZ n B = toMZ n A) ∧
    (∀ e, mulInvFromRightExact A B = .error e →
      (e = errNotInvertible ∧ (toMZ n B).det = 0) ∨
      (e = panicAssert ∧ ¬ ∃ C : Matrix (Fin n) (Fin n) ℤ, C * toMZ n B = toMZ n A)) :=
  mulInv_spec A B n hn hA hB

/-- non-vacuity: concrete square inputs, both outcomes of `inv`.  For three of the errors `rfl`
is used: the kernel then meets the model's own error constant, where `decide` has it compare two
strings byte by byte. -/
example : Rect 2 2 ([[5, 2], [2, 1]] : QMat) := ⟨rfl, by decide⟩
example : inv [[5, 2], [2, 1]] = .ok [[1, -2], [-2, 5]] := by decide +kernel
example : inv [[1, 2], [2, 4]] = .error errNotInvertible := by with_unfolding_all rfl
example : solve [[1, 2], [3, 4]] [5, 8] = .ok [2, 1] := by decide +kernel
example : iim [[1, 0, 5]] [[2, 0, 10]] = .ok [[2]] := by decide +kernel
example : iim [[1, 0, 1], [2, 0, 3]] [[3, 1, 4]] = .error errNotInImage := by decide +kernel
example : iim [[1, 0], [2, 0]] [[3, 1]] = .error errLinearlyDependent := by with_unfolding_all rfl
example : supplementBasis [[1, 0, 1], [2, 0, 3]] = .ok [[1, 0, 1], [2, 0, 3], [0, 1, 0]] := by decide +kernel
example : supplementBasis [[1, 0, 1], [2, 0, 2]] = .error errInsufficientRank := by with_unfolding_all rfl

/-- the image routine over `F_p` never fails on a rectangular `n × m` integer matrix (`n ≥ 1`, any
`m`, `p` prime) — in particular its internal count assertion never fires — and what it returns is a
list of rows of the input, taken at pairwise distinct row indices (whatever the entries are) -/
theorem image_mod_p_total (M : IMat) (n m p : Nat) (hp : p.Prime) (hM : Rect n m M) (hn : 0 < n) :
    ∃ idx : List Nat, (∀ i ∈ idx, i < n) ∧ idx.Nodup ∧
      imageModP M (p : Int) = .ok (idx.map (fun i => M.getD i [])) := by
  obtain ⟨idx, h1, h2, h3, _⟩ := imageModP_spec p hp M n m hM hn
  exact ⟨idx, h1, h2, h3⟩

/-- the image routine over `F_p` (`p` prime) on an `n × m` matrix (`n ≥ 1`, any `m`) whose entries
represent elements of `F_p` faithfully — the only entry divisible by `p` is `0`, as is the case for
entries in `0..p` or in `-p..p` — returns rows of the input (at pairwise distinct row indices
`idx`) that, read modulo `p`, are linearly independent and span every row of the input: a basis of
the row space of `M` over `F_p` consisting of rows of `M`.

The hypothesis on the entries cannot be dropped: the code tests the integer entries of the input
against `0`, not their residues (`imageModP [[5, 1], [0, 1]] 5 = [[5, 1], [0, 1]]`, see below). -/
theorem image_mod_p (M : IMat) (n m p : Nat) (hp : p.Prime) (hM : Rect n m M) (hn : 0 < n)
    (hred : ∀ row ∈ M, ∀ x ∈ row, (p : Int) ∣ x → x = 0) :
    ∃ idx : List Nat, (∀ i ∈ idx, i < n) ∧ idx.Nodup ∧
      imageModP M (p : Int) = .ok (idx.map (fun i => M.getD i [])) ∧
      let R := idx.map (fun i => M.getD i [])
      let Rp : Matrix (Fin idx.length) (Fin m) (ZMod p) := (toM idx.length m R).map (Int.cast : ℤ → ZMod p)
      let Mp : Matrix (Fin n) (Fin m) (ZMod p) := (toM n m M).map (Int.cast : ℤ → ZMod p)
      (∀ y : Fin idx.length → ZMod p, y ᵥ* Rp = 0 → y = 0) ∧
      (∀ i : Fin n, ∃ x : Fin idx.length → ZMod p, x ᵥ* Rp = Mp i) := by
  obtain ⟨idx, h1, h2, h3, h4⟩ := imageModP_spec p hp M n m hM hn
  exact ⟨idx, h1, h2, h3, h4 hred⟩

/-- the same for entries in `0..p` -/
theorem image_mod_p_reduced (M : IMat) (n m p : Nat) (hp : p.Prime) (hM : Rect n m M) (hn : 0 < n)
    (hred : ∀ row ∈ M, ∀ x ∈ row, 0 ≤ x ∧ x < (p : Int)) :
    ∃ idx : List Nat, (∀ i ∈ idx, i < n) ∧ idx.Nodup ∧
      imageModP M (p : Int) = .ok (idx.map (fun i => M.getD i [])) ∧
      let R := idx.map (fun i => M.getD i [])
      let Rp : Matrix (Fin idx.length) (Fin m) (ZMod p) := (toM idx.length m R).map (Int.cast : ℤ → ZMod p)
      let Mp : Matrix (Fin n) (Fin m) (ZMod p) := (toM n m M).map (Int.cast : ℤ → ZMod p)
      (∀ y : Fin idx.length → ZMod p, y ᵥ* Rp = 0 → y = 0) ∧
      (∀ i : Fin n, ∃ x : Fin idx.length → ZMod p, x ᵥ* Rp = Mp i) := by
  apply image_mod_p M n m p hp hM hn
  intro row hrow x hx hd
  obtain ⟨h0, h1⟩ := hred row hrow x hx
  exact Int.eq_zero_of_dvd_of_nonneg_of_lt h0 h1 hd

/-- non-vacuity for `image_mod_p`: a rank-2 matrix over `F_5`, and the two inputs with an entry
`5` on which the conclusion fails (a zero row, resp. two equal rows modulo 5, are returned) -/
example : Rect 3 3 ([[1, 3, 2], [2, 1, 3], [0, 0, 1]] : IMat) := ⟨rfl, by decide⟩
example : ∀ row ∈ ([[1, 3, 2], [2, 1, 3], [0, 0, 1]] : IMat), ∀ x ∈ row, 0 ≤ x ∧ x < ((5 : Nat) : Int) := by decide
example : imageModP [[1, 3, 2], [2, 1, 3], [0, 0, 1]] 5 = .ok [[1, 3, 2], [2, 1, 3]] := by decide +kernel
example : imageModP [[1, 3, 2], [0, 0, 0], [2, 1, 0], [0, 0, 0]] 5 = .ok [[1, 3, 2], [2, 1, 0]] := by decide +kernel
example : imageModP [[5]] 5 = .ok [[5]] := by decide +kernel
example : imageModP [[5, 1], [0, 1]] 5 = .ok [[5, 1], [0, 1]] := by decide +kernel

end NTV.C18
