import NTV.Proofs.Lemmas.InvProofs
import NTV.Proofs.Lemmas.KronFull
import NTV.Proofs.Lemmas.ElemProofs
import NTV.Proofs.Lemmas.SieveProofs
import NTV.Proofs.Lemmas.PrimesIter
/-! # C19 — property theorems (modular inverse, perfect power, Kronecker symbol, primes)
Only property-level statements live here; helper lemmas are in `NTV.Proofs.Lemmas.*`. -/
namespace NTV.C19

/-- Modular inverse, full: for every a and every modulus m ≥ 1 the model of `inverse::inv` returns
`Ok x` with 0 ≤ x < m and a·x ≡ 1 (mod m) when gcd(a, m) = 1, and `Err gcd(a, m)` otherwise. -/
theorem inv_full (a m : Int) (hm : 1 ≤ m) :
    (Int.gcd a m = 1 → ∃ x, NTV.inv a m = .ok x ∧ 0 ≤ x ∧ x < m ∧ m ∣ a * x - 1) ∧
    (Int.gcd a m ≠ 1 → NTV.inv a m = .error (Int.gcd a m)) := NTV.inv_spec a m hm

/-- `zmod x m ∈ [0, m)` and is congruent to x, for every x and m > 0. -/
theorem zmod_full (x m : Int) (hm : 0 < m) :
    0 ≤ NTV.zmod x m ∧ NTV.zmod x m < m ∧ m ∣ NTV.zmod x m - x := NTV.zmod_spec x m hm

/-- non-vacuity: the hypotheses are met by concrete inputs on both branches -/
example : ∃ x, NTV.inv 3 7 = .ok x ∧ 0 ≤ x ∧ x < 7 := by
  obtain ⟨x, h, h0, h1, _⟩ := (inv_full 3 7 (by decide)).1 (by decide)
  exact ⟨x, h, h0, h1⟩
example : NTV.inv 4 8 = .error 4 := (inv_full 4 8 (by decide)).2 (by decide)

/-- the library k-th root is modelled by the floor root: r^k ≤ n < (r+1)^k for every n and k ≥ 1 -/
theorem nthRoot_full (n k : Nat) (hk : 1 ≤ k) :
    (NTV.Elem.nthRoot n k) ^ k ≤ n ∧ n < (NTV.Elem.nthRoot n k + 1) ^ k := NTV.Elem.nthRoot_spec n k hk

/-- perfect-power detection, full: negative input panics, n ≤ 1 gives (n, 1), and for n ≥ 2 the result
(b, k) has b^k = n with k the largest exponent for which n is a perfect power (k = 1 iff it is none) -/
theorem perfectPower_full (n : Int) :
    (n < 0 → NTV.Elem.perfectPower n = none) ∧
    (0 ≤ n → n ≤ 1 → NTV.Elem.perfectPower n = some (n, 1)) ∧
    (2 ≤ n → ∃ b k : Nat, NTV.Elem.perfectPower n = some ((b : Int), k) ∧ (b : Int) ^ k = n ∧ 1 ≤ k ∧
        ∀ k', k < k' → ¬ ∃ r : Nat, (r : Int) ^ k' = n) := by
  refine ⟨?_, ?_, ?_⟩
  · intro h
    rw [NTV.Elem.perfectPower, if_pos h]
  · intro h0 h1
    rw [NTV.Elem.perfectPower, if_neg (not_lt.mpr h0), if_pos h1]
  · intro h2
    obtain ⟨N, rfl⟩ := Int.eq_ofNat_of_zero_le (le_trans (by decide) h2)
    have hN : 2 ≤ N := by exact_mod_cast h2
    obtain ⟨s1, s2, s3⟩ := NTV.Elem.ppSearch_spec N (NTV.Elem.bits N)
    refine ⟨(NTV.Elem.ppSearch N (NTV.Elem.bits N)).1, (NTV.Elem.ppSearch N (NTV.Elem.bits N)).2, ?_, ?_, s2, ?_⟩
    · rw [NTV.Elem.perfectPower, if_neg (not_lt.mpr (le_trans (by decide) h2)),
        if_neg (not_le.mpr (lt_of_lt_of_le (by decide) h2)), Int.toNat_natCast]
    · exact_mod_cast s1
    · intro k' hk' ⟨r, hr⟩
      have hr' : r ^ k' = N := by exact_mod_cast hr
      by_cases hle : k' ≤ NTV.Elem.bits N
      · exact s3 k' hk' hle ⟨r, hr'⟩
      · exact NTV.Elem.pow_ne_of_bits_lt hN (not_le.mp hle) hr'

open NumberTheorySymbols in
/-- Kronecker symbol, full (unbounded integers, hence all machine integers: no intermediate value of
the i64 routine exceeds its inputs in absolute value). For b = 0: 1 iff a = ±1. For b ≠ 0, written
b = s·2^v·b' with s = ±1 and b' odd (always possible: `kronecker_decomposition`), the model returns
(a/s)·(a/2)^v·J(a | b') where (a/−1) = −1 iff a < 0, (a/2) = 0, 1, −1 for a even, a ≡ ±1, a ≡ ±3 (mod 8)
and J is Mathlib's Jacobi symbol — the definition of the Kronecker symbol. The un-repaired code
(sign flipped whenever a < 0) does not satisfy this: it returned 1 for a = −1, b = 3. -/
theorem kronecker_full (a : Int) (s : Int) (hs : s = 1 ∨ s = -1) (v : Nat) (b' : Nat) (hb' : b' % 2 = 1) :
    NTV.Kron.kronecker a (s * 2 ^ v * (b' : Int)) =
      (if s = -1 ∧ a < 0 then -1 else 1) * NTV.Kron.kronTwo a ^ v * J(a | b') :=
  NTV.Kron.kronecker_eq a s hs v b' hb'

theorem kronecker_zero_modulus (a : Int) : NTV.Kron.kronecker a 0 = if a = 1 ∨ a = -1 then 1 else 0 :=
  rfl

theorem kronecker_decomposition (b : Int) (hb : b ≠ 0) :
    ∃ (s : Int) (v : Nat) (b' : Nat), (s = 1 ∨ s = -1) ∧ b' % 2 = 1 ∧ b = s * 2 ^ v * (b' : Int) :=
  NTV.Kron.decomp_exists b hb

/-- the sieve returns exactly the primes ≤ bound in increasing order, for every bound -/
theorem sieve_full (bound : Nat) :
    NTV.Elem.primes bound = (List.range (bound + 1)).filter (fun x => decide x.Prime) := by
  unfold NTV.Elem.primes
  apply List.filter_congr
  intro x hx
  have hxb : x ≤ bound := Nat.le_of_lt_succ (List.mem_range.mp hx)
  have hinv : NTV.Elem.SInv bound (bound + 1) (NTV.Elem.sieveArray bound) := by
    unfold NTV.Elem.sieveArray
    by_cases hb : 2 ≤ bound
    · exact NTV.Elem.sieveLoop_inv bound (bound - 1) 2 _ (le_refl _) (by omega) (NTV.Elem.init_inv bound)
    · -- bound ≤ 1: the loop does not run, and nothing is marked on either side
      have hle : bound + 1 ≤ 2 := by omega
      rw [show bound - 1 = 0 by omega, NTV.Elem.sieveLoop]
      intro y hy
      rw [NTV.Elem.init_inv bound y hy]
      simp [NTV.Elem.not_marked_of_le_two (le_refl 2), NTV.Elem.not_marked_of_le_two hle]
  have := hinv x hxb
  rw [NTV.Elem.not_marked_iff_prime bound x hxb] at this
  rw [Bool.eq_iff_iff, Bool.and_eq_true, decide_eq_true_iff, decide_eq_true_iff, this]
  exact ⟨fun h => h.2, fun h => ⟨h.two_le, h⟩⟩

/-- the iterator: from any state now ≥ 1 the next value is the least prime ≥ now and the state becomes
p + 1; started at 2 it therefore enumerates all primes in increasing order -/
theorem iterator_full (cnt now : Nat) (hnow : 1 ≤ now) :
    ∃ p, p.Prime ∧ now ≤ p ∧ (∀ q, q.Prime → now ≤ q → p ≤ q) ∧
      NTV.Elem.primesIter (cnt + 1) now = p :: NTV.Elem.primesIter cnt (p + 1) := by
  -- a prime q₀ in (now, 2·now] (Bertrand); take the least prime ≥ now, it is ≤ q₀
  obtain ⟨q₀, hq₀, h1, h2⟩ := Nat.exists_prime_lt_and_le_two_mul now (Nat.one_le_iff_ne_zero.mp hnow)
  have hex : ∃ q, q.Prime ∧ now ≤ q := ⟨q₀, hq₀, h1.le⟩
  classical
  let p := Nat.find hex
  have hp : p.Prime ∧ now ≤ p := Nat.find_spec hex
  have hmin : ∀ q, q.Prime → now ≤ q → p ≤ q := fun q hq hq1 => Nat.find_min' hex ⟨hq, hq1⟩
  have hbound : p ≤ 2 * now := (hmin q₀ hq₀ h1.le).trans h2
  refine ⟨p, hp.1, hp.2, hmin, ?_⟩
  rw [NTV.Elem.primesIter, NTV.Elem.nextPrime_spec (now + 2) now p hp.1 hp.2 hmin (by omega)]

end NTV.C19
