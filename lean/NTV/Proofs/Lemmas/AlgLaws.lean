import NTV.Proofs.Lemmas.AlgProofs
import Mathlib.RingTheory.Ideal.Quotient.Basic
/-! Helper lemmas for C14: the product of `NTV.Alg` on reduced representatives, congruences modulo
the minimal polynomial, uniqueness of reduced representatives. -/
open Polynomial
namespace NTV.Alg
open NTV.PolyG

noncomputable def modulus (f : List Int) : Rat[X] := toPoly (intsToRats f)

/-- canonical representative of degree < deg f -/
def Reduced (f : List Int) (a : List Rat) : Prop := Canon a ∧ a.length ≤ f.length - 1

theorem length_intsToRats (f : List Int) : (intsToRats f).length = f.length := List.length_map _

theorem canon_intsToRats (f : List Int) (hf : Canon f) : Canon (intsToRats f) := by
  intro h
  unfold intsToRats at h ⊢
  rw [List.getLast_map]
  exact Int.cast_ne_zero.mpr (hf _)

theorem intsToRats_ne_nil (f : List Int) (hn : 2 ≤ f.length) : intsToRats f ≠ [] :=
  List.ne_nil_of_length_pos ((length_intsToRats f).symm ▸ Nat.lt_of_lt_of_le Nat.zero_lt_two hn)

theorem reduced_of_coeff (f : List Int) (r : List Rat) (hr : Canon r)
    (h : ∀ j, f.length - 1 ≤ j → (toPoly r).coeff j = 0) : Reduced f r := by
  refine ⟨hr, ?_⟩
  by_contra hlt
  have hne : r ≠ [] := by intro e; rw [e] at hlt; exact hlt (Nat.zero_le _)
  apply hr hne
  rw [getLast_eq_getD r hne, ← coeff_toPoly]
  exact h _ (Nat.le_sub_one_of_lt (not_le.mp hlt))

theorem reduced_add (f : List Int) (a b : List Rat) (ha : Reduced f a) (hb : Reduced f b) :
    Reduced f (add a b) :=
  reduced_of_coeff f _ (canon_add a b ha.1 hb.1) fun j hj => by
    simp only [add, toPoly_add, coeff_add, coeff_toPoly, getD_of_length_le a j (ha.2.trans hj),
      getD_of_length_le b j (hb.2.trans hj), add_zero]

theorem reduced_sub (f : List Int) (a b : List Rat) (ha : Reduced f a) (hb : Reduced f b) :
    Reduced f (sub a b) :=
  reduced_of_coeff f _ (canon_sub a b ha.1 hb.1) fun j hj => by
    simp only [sub, toPoly_sub, coeff_sub, coeff_toPoly, getD_of_length_le a j (ha.2.trans hj),
      getD_of_length_le b j (hb.2.trans hj), sub_zero]

theorem reduced_one (f : List Int) (hn : 2 ≤ f.length) : Reduced f [1] :=
  ⟨fun _ => one_ne_zero, Nat.le_sub_one_of_lt hn⟩

theorem reduced_nil (f : List Int) : Reduced f [] := ⟨canon_nil, Nat.zero_le _⟩

/-- the class map `ℚ[X] → ℚ[X]/(f)`; definitionally `AdjoinRoot.mk (modulus f)` -/
noncomputable def cls (f : List Int) : Rat[X] →+* Rat[X] ⧸ Ideal.span {modulus f} := Ideal.Quotient.mk _

theorem cls_eq_iff (f : List Int) (p q : Rat[X]) : cls f p = cls f q ↔ modulus f ∣ p - q :=
  Ideal.Quotient.eq.trans Ideal.mem_span_singleton

/-- loop invariant of the binary exponentiation: the answer is `prod · cur^e`, read in any monoid through
a map `φ` under which `mul` is multiplicative on the representatives satisfying `P` -/
theorem powLoop_spec {M : Type} [Monoid M] (f : List Int) (φ : List Rat → M) (P : List Rat → Prop)
    (hmul : ∀ a b, P a → P b → ∃ r, mul f a b = .ok r ∧ P r ∧ φ r = φ a * φ b)
    (fuel e : Nat) (cur prod : List Rat) (he : e < 2 ^ fuel) (hc : P cur) (hp : P prod) :
    ∃ r, powLoop f fuel e cur prod = .ok r ∧ P r ∧ φ r = φ prod * φ cur ^ e := by
  induction fuel generalizing e cur prod with
  | zero =>
    obtain rfl : e = 0 := Nat.lt_one_iff.mp he
    exact ⟨prod, rfl, hp, by simp only [pow_zero, mul_one]⟩
  | succ fuel ih =>
    by_cases h0 : e = 0
    · subst h0
      exact ⟨prod, rfl, hp, by simp only [pow_zero, mul_one]⟩
    -- the conditional multiplication contributes the factor `cur ^ (e % 2)` in either case
    obtain ⟨p2, hp2, hp2P, hp2φ⟩ : ∃ p2, (if e % 2 = 1 then mul f prod cur else .ok prod) = .ok p2 ∧ P p2 ∧
        φ p2 = φ prod * φ cur ^ (e % 2) := by
      rcases Nat.mod_two_eq_zero_or_one e with h | h <;> rw [h]
      · exact ⟨prod, rfl, hp, by rw [pow_zero, mul_one]⟩
      · simpa only [↓reduceIte, pow_one] using hmul prod cur hp hc
    obtain ⟨c2, hc2, hc2P, hc2φ⟩ := hmul cur cur hc hc
    obtain ⟨r, hr, hrP, hrφ⟩ := ih (e / 2) c2 p2 (Nat.div_lt_of_lt_mul (by rwa [pow_succ'] at he)) hc2P hp2P
    refine ⟨r, ?_, hrP, ?_⟩
    · rw [powLoop, if_neg h0, hp2, hc2]
      exact hr
    · simp only [hrφ, hp2φ, hc2φ, mul_assoc, ← pow_two, ← pow_mul, ← pow_add, Nat.mod_add_div]

section
variable (f : List Int) (hf : Canon f) (hn : 2 ≤ f.length)
include hf hn

theorem modulus_facts : (modulus f).natDegree = f.length - 1 ∧ modulus f ≠ 0 := by
  have h := natDegree_toPoly (intsToRats f) (intsToRats_ne_nil f hn) (canon_intsToRats f hf)
  rw [length_intsToRats] at h
  exact ⟨h.1, h.2.2⟩

theorem mod_self_of_reduced (a : List Rat) (ha : Reduced f a) : toPoly a % modulus f = toPoly a :=
  mod_toPoly_of_length_le a _ (intsToRats_ne_nil f hn) (canon_intsToRats f hf)
    (by rw [length_intsToRats]; exact ha.2)

theorem mul_ok (a b : List Rat) (ha : Reduced f a) (hb : Reduced f b) :
    ∃ r, mul f a b = .ok r ∧ Reduced f r ∧ toPoly r = (toPoly a * toPoly b) % modulus f := by
  have h := mulWithMod_spec a b (intsToRats f) (intsToRats_ne_nil f hn) (canon_intsToRats f hf)
  rw [length_intsToRats] at h
  obtain ⟨r, h1, h2, h3, h4⟩ := h hn ha.2 hb.2
  exact ⟨r, h1, ⟨h3, h4⟩, h2⟩

theorem mul_congr (a b : List Rat) (ha : Reduced f a) (hb : Reduced f b) :
    ∃ r, mul f a b = .ok r ∧ Reduced f r ∧ modulus f ∣ toPoly r - toPoly a * toPoly b := by
  obtain ⟨r, h1, h2, h3⟩ := mul_ok f hf hn a b ha hb
  refine ⟨r, h1, h2, ?_⟩
  simp only [h3, EuclideanDomain.mod_eq_sub_mul_div, sub_sub_cancel_left]
  exact dvd_neg.mpr (dvd_mul_right _ _)

theorem eq_of_reduced_of_cls_eq (r s : List Rat) (hr : Reduced f r) (hs : Reduced f s)
    (h : cls f (toPoly r) = cls f (toPoly s)) : r = s := by
  apply toPoly_inj r s hr.1 hs.1
  rw [← mod_self_of_reduced f hf hn r hr, ← mod_self_of_reduced f hf hn s hs]
  exact mod_eq_of_dvd_sub ((cls_eq_iff f _ _).mp h)

theorem mul_cls (a b : List Rat) (ha : Reduced f a) (hb : Reduced f b) :
    ∃ r, mul f a b = .ok r ∧ Reduced f r ∧ cls f (toPoly r) = cls f (toPoly a) * cls f (toPoly b) := by
  obtain ⟨r, h1, h2, h3⟩ := mul_congr f hf hn a b ha hb
  exact ⟨r, h1, h2, ((cls_eq_iff f _ _).mpr h3).trans (RingHom.map_mul _ _ _)⟩

/-- the product is determined by its class: it is the reduced representative of the product of the classes -/
theorem mul_eq_of_cls (a b r : List Rat) (ha : Reduced f a) (hb : Reduced f b) (hr : Reduced f r)
    (h : cls f (toPoly r) = cls f (toPoly a) * cls f (toPoly b)) : mul f a b = .ok r := by
  obtain ⟨r', h1, h2, h3⟩ := mul_cls f hf hn a b ha hb
  rw [h1, eq_of_reduced_of_cls_eq f hf hn r' r h2 hr (h3.trans h.symm)]

theorem pow_cls (a : List Rat) (ha : Reduced f a) (e : Nat) :
    ∃ r, pow f a e = .ok r ∧ Reduced f r ∧ cls f (toPoly r) = cls f (toPoly a) ^ e := by
  obtain ⟨r, h1, h2, h3⟩ := powLoop_spec f (fun a => cls f (toPoly a)) (Reduced f) (mul_cls f hf hn)
    (e.log2 + 2) e a [1] (Nat.lt_log2_self.trans_le (Nat.pow_le_pow_right Nat.two_pos (Nat.le_succ _))) ha
    (reduced_one f hn)
  refine ⟨r, h1, h2, ?_⟩
  simp only [h3, toPoly, mul_zero, add_zero, RingHom.map_one, one_mul]

end

end NTV.Alg
