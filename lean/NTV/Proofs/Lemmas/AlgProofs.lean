import NTV.Model.Algebraic
import NTV.Proofs.Lemmas.PolyDivZ
import Mathlib.Algebra.Polynomial.FieldDivision
/-! `mul_with_mod` of the model `NTV.Alg` (C14): the reduction step `cur ← cur·x mod c`, the loop invariant, and the result as
the remainder of the polynomial product. -/
open Polynomial
namespace NTV.Alg
open NTV.PolyG

theorem getD_range_map (n : Nat) (f : Nat → Rat) (k : Nat) :
    ((List.range n).map f).getD k 0 = if k < n then f k else 0 := by
  by_cases h : k < n
  · rw [if_pos h, List.getD_eq_getElem?_getD, List.getElem?_map, List.getElem?_range h]
    rfl
  · rw [if_neg h]
    exact getD_of_length_le _ k (by rw [List.length_map, List.length_range]; exact not_lt.mp h)

theorem getD_cons_zero (cur : List Rat) (k : Nat) :
    ((0 : Rat) :: cur).getD k 0 = if k = 0 then 0 else cur.getD (k - 1) 0 := by
  cases k with
  | zero => rfl
  | succ k => exact (if_neg k.succ_ne_zero).symm

theorem toPoly_replicate_zero (m : Nat) : toPoly (List.replicate m (0 : Rat)) = 0 := by
  have h := toPoly_replicate_append m ([] : List Rat)
  rwa [List.append_nil, toPoly, mul_zero] at h

theorem toPoly_append_replicate_zero (l : List Rat) (m : Nat) :
    toPoly (l ++ List.replicate m 0) = toPoly l := by
  induction l with
  | nil => exact toPoly_replicate_zero m
  | cons x xs ih => rw [List.cons_append, toPoly, toPoly, ih]

theorem mod_toPoly_of_length_le (s c : List Rat) (hc : c ≠ []) (hcc : Canon c) (h : s.length ≤ c.length - 1) :
    toPoly s % toPoly c = toPoly s := by
  obtain ⟨hdeg, -, hne⟩ := natDegree_toPoly c hc hcc
  rw [mod_eq_self_iff hne, degree_eq_natDegree hne, hdeg, degree_lt_iff_coeff_zero]
  intro k hk
  rw [coeff_toPoly]
  exact getD_of_length_le s k (h.trans (Nat.cast_le.mp hk))

theorem toPoly_zipWith_add_mul (ai : Rat) (result cur : List Rat) (h : result.length = cur.length) :
    toPoly (List.zipWith (fun r x => r + ai * x) result cur) = toPoly result + C ai * toPoly cur := by
  induction result generalizing cur with
  | nil => rw [List.length_eq_zero_iff.mp h.symm, List.zipWith_nil_left, toPoly, mul_zero, add_zero]
  | cons r rs ih =>
    cases cur with
    | nil => exact absurd h (Nat.succ_ne_zero _)
    | cons x xs =>
      simp only [List.zipWith_cons_cons, toPoly, ih xs (Nat.succ.inj h), C_add, C_mul]
      ring

section
variable (c : List Rat) (n : Nat) (lcc : Rat)

/-- the last pass of `mulLoop` skips the shift, which an empty tail would not use anyway -/
theorem mulLoop_cons (ai : Rat) (rest cur result : List Rat) :
    mulLoop c n lcc (ai :: rest) cur result =
      mulLoop c n lcc rest (shiftMod c n lcc cur) (List.zipWith (fun r x => r + ai * x) result cur) := by
  cases rest <;> rfl

variable (h0 : lcc ≠ 0) (hlc : c.getD n 0 = lcc) (hc : c.length - 1 ≤ n)
include h0 hlc hc

/-- `cur ← cur·x mod c` subtracts the multiple of c that cancels the coefficient of xⁿ -/
theorem toPoly_shiftMod (cur : List Rat) (hcur : cur.length ≤ n) :
    toPoly (shiftMod c n lcc cur) = X * toPoly cur - C ((0 :: cur).getD n 0 / lcc) * toPoly c := by
  have hX : X * toPoly cur = toPoly ((0 : Rat) :: cur) := by rw [toPoly, C_0, zero_add]
  ext k
  simp only [hX, coeff_sub, coeff_C_mul, coeff_toPoly, shiftMod, getD_range_map]
  split
  · rfl
  · rename_i hk
    rcases eq_or_lt_of_le (not_lt.mp hk) with rfl | hk
    · rw [hlc, div_mul_cancel₀ _ h0, sub_self]
    · rw [getD_of_length_le (0 :: cur) k (Nat.succ_le_of_lt (hcur.trans_lt hk)),
        getD_of_length_le c k (Nat.le_of_pred_lt (hc.trans_lt hk)), mul_zero, sub_zero]

/-- loop invariant of `mul_with_mod`: the accumulated result is `result + a·cur` up to a multiple of c -/
theorem mulLoop_spec (as cur result : List Rat) (hcur : cur.length = n) (hres : result.length = n) :
    (mulLoop c n lcc as cur result).length = n ∧
    ∃ Q : Rat[X], toPoly (mulLoop c n lcc as cur result)
      = toPoly result + toPoly as * toPoly cur + Q * toPoly c := by
  induction as generalizing cur result with
  | nil => exact ⟨hres, 0, by simp only [mulLoop, toPoly, zero_mul, add_zero]⟩
  | cons ai rest ih =>
    obtain ⟨hl, Q, hQ⟩ := ih (shiftMod c n lcc cur) (List.zipWith (fun r x => r + ai * x) result cur)
      (by rw [shiftMod, List.length_map, List.length_range])
      (by rw [List.length_zipWith, hres, hcur, min_self])
    rw [mulLoop_cons]
    refine ⟨hl, Q - toPoly rest * C ((0 :: cur).getD n 0 / lcc), ?_⟩
    simp only [hQ, toPoly_zipWith_add_mul ai result cur (hres.trans hcur.symm),
      toPoly_shiftMod c n lcc h0 hlc hc cur hcur.le, toPoly]
    ring

end

/-- C14: `mul_with_mod(a, b, f)` is the remainder of the polynomial product modulo f, of degree < n, in
canonical form — for every f of degree n ≥ 1 (any non-zero leading coefficient) and a, b of degree < n -/
theorem mulWithMod_spec (a b c : List Rat) (hc : c ≠ []) (hcc : Canon c) (hn : 2 ≤ c.length)
    (ha : a.length ≤ c.length - 1) (hb : b.length ≤ c.length - 1) :
    ∃ r, mulWithMod a b c = .ok r ∧ toPoly r = (toPoly a * toPoly b) % toPoly c ∧ Canon r ∧
      r.length ≤ c.length - 1 := by
  -- `hn` is not needed: a constant `c` leaves only `a = b = []`
  rcases a with _ | ⟨x, xs⟩
  · exact ⟨[], rfl, by rw [toPoly, zero_mul, EuclideanDomain.zero_mod], canon_nil, Nat.zero_le _⟩
  rcases b with _ | ⟨y, ys⟩
  · exact ⟨[], rfl, by rw [toPoly, mul_zero, EuclideanDomain.zero_mod], canon_nil, Nat.zero_le _⟩
  obtain ⟨hdeg, hlead, hne⟩ := natDegree_toPoly c hc hcc
  have hlc : c.getD (c.length - 1) 0 = lc c := by rw [← coeff_toPoly, ← hdeg, ← hlead]; rfl
  have h0 : lc c ≠ 0 := hlead ▸ leadingCoeff_ne_zero.mpr hne
  obtain ⟨hl, Q, hQ⟩ := mulLoop_spec c (c.length - 1) (lc c) h0 hlc le_rfl (x :: xs)
    (y :: ys ++ List.replicate (c.length - 1 - (y :: ys).length) 0) (List.replicate (c.length - 1) 0)
    (by rw [List.length_append, List.length_replicate, Nat.add_sub_cancel' hb]) List.length_replicate
  simp only [toPoly_replicate_zero, zero_add, toPoly_append_replicate_zero] at hQ
  refine ⟨_, ?_, ?_, canon_fromRaw _, length_fromRaw_le _ _ fun j hj => getD_of_length_le _ j (hl.le.trans hj)⟩
  · -- the first guard is `false = true` only after evaluation, hence `by exact`
    rw [mulWithMod, if_neg (by exact Bool.false_ne_true), if_neg (mt List.isEmpty_iff.mp hc)]
    exact (if_neg (not_not_intro ha)).trans (if_neg (not_not_intro hb))
  · rw [toPoly_fromRaw, ← mod_toPoly_of_length_le _ c hc hcc hl.le, hQ, add_mod,
      EuclideanDomain.mod_eq_zero.mpr (dvd_mul_left (toPoly c) Q), add_zero]

end NTV.Alg
