import NTV.Proofs.Lemmas.PolyDivZ
/-! `cont_pp`: the folded gcd of the coefficients, and the content / primitive-part contract. -/
open Polynomial
namespace NTV.PolyG

/-- gcd of a list of integers as folded by `cont_pp` -/
theorem foldl_gcd_dvd (l : List Int) (g0 : Int) :
    (l.foldl (fun g c => (Int.gcd g c : Int)) g0 ∣ g0) ∧ ∀ c ∈ l, l.foldl (fun g c => (Int.gcd g c : Int)) g0 ∣ c := by
  induction l generalizing g0 with
  | nil => simp
  | cons x xs ih =>
    simp only [List.foldl_cons]
    obtain ⟨h1, h2⟩ := ih (Int.gcd g0 x : Int)
    refine ⟨dvd_trans h1 (Int.gcd_dvd_left g0 x), ?_⟩
    intro c hc
    rcases List.mem_cons.mp hc with rfl | hc
    · exact dvd_trans h1 (Int.gcd_dvd_right g0 c)
    · exact h2 c hc

theorem dvd_foldl_gcd (l : List Int) (g0 d : Int) (h0 : d ∣ g0) (hl : ∀ c ∈ l, d ∣ c) :
    d ∣ l.foldl (fun g c => (Int.gcd g c : Int)) g0 := by
  induction l generalizing g0 with
  | nil => simpa
  | cons x xs ih =>
    simp only [List.foldl_cons]
    apply ih
    · exact Int.dvd_coe_gcd h0 (hl x (by simp))
    · intro c hc; exact hl c (by simp [hc])

theorem foldl_gcd_nonneg (l : List Int) (g0 : Int) (h0 : 0 ≤ g0) :
    0 ≤ l.foldl (fun g c => (Int.gcd g c : Int)) g0 := by
  induction l generalizing g0 with
  | nil => simpa
  | cons x xs ih => simp only [List.foldl_cons]; exact ih _ (by positivity)

theorem fromRaw_of_canon (l : List Int) (h : Canon l) : fromRaw l = l :=
  toPoly_inj _ _ (canon_fromRaw l) h (toPoly_fromRaw l)

theorem toPoly_map_fdiv (l : List Int) (g : Int) (h : ∀ c ∈ l, g ∣ c) :
    C g * toPoly (l.map (fun c => Int.fdiv c g)) = toPoly l :=
  toPoly_map_of_div g _ l fun c hc => Int.mul_fdiv_cancel' (h c hc)

/-- content and primitive part of a non-zero polynomial: `c · pp = a`, the coefficients of `pp`
have gcd 1, and `pp` has a positive leading coefficient (so `c` carries the sign) -/
theorem contPP_spec (a : List Int) (ha : a ≠ []) (hca : Canon a) :
    C (contPP a).1 * toPoly (contPP a).2 = toPoly a ∧
    (∀ d : Int, (∀ c ∈ (contPP a).2, d ∣ c) → d ∣ 1) ∧
    0 < lc (contPP a).2 ∧ Canon (contPP a).2 := by
  have hae : a.isEmpty = false := List.isEmpty_eq_false_iff.mpr ha
  set G := a.foldl (fun g c => (Int.gcd g c : Int)) 0 with hG
  have hGd : ∀ c ∈ a, G ∣ c := (foldl_gcd_dvd a 0).2
  have hG0 : 0 ≤ G := foldl_gcd_nonneg a 0 (le_refl _)
  have hlc0 : lc a ≠ 0 := lc_ne_zero a ha hca
  have hlcmem : lc a ∈ a := lc_mem a ha
  have hGne : G ≠ 0 := by
    intro e
    have := hGd (lc a) hlcmem
    rw [e] at this
    exact hlc0 (zero_dvd_iff.mp this)
  have hGpos : 0 < G := lt_of_le_of_ne hG0 (Ne.symm hGne)
  set g : Int := if lc a < 0 then -G else G with hg
  have hgG : g = G ∨ g = -G := by by_cases h : lc a < 0 <;> simp [hg, h]
  have hgne : g ≠ 0 := by rcases hgG with e | e <;> rw [e] <;> omega
  have hgd : ∀ c ∈ a, g ∣ c := by
    intro c hc
    rcases hgG with e | e <;> rw [e]
    · exact hGd c hc
    · exact (neg_dvd).mpr (hGd c hc)
  have hcont : contPP a = (g, fromRaw (a.map (fun c => Int.fdiv c g))) := by
    simp only [contPP, hae, Bool.false_eq_true, ↓reduceIte, contentAbs, ← hG, ← hg]
  rw [hcont]
  simp only
  -- the mapped list is already canonical: its last entry is lc a / g ≠ 0
  have hmapne : a.map (fun c => Int.fdiv c g) ≠ [] := by simpa using ha
  have hlcq : Int.fdiv (lc a) g * g = lc a := Int.fdiv_mul_cancel (hgd _ hlcmem)
  have hlast : (a.map (fun c => Int.fdiv c g)).getLast hmapne = Int.fdiv (lc a) g := by
    rw [List.getLast_map, lc_of_ne_nil a ha]
  have hqne : Int.fdiv (lc a) g ≠ 0 := by
    intro e; rw [e, zero_mul] at hlcq; exact hlc0 hlcq.symm
  have hcm : Canon (a.map (fun c => Int.fdiv c g)) := by
    intro h; rw [hlast]; exact hqne
  rw [fromRaw_of_canon _ hcm]
  refine ⟨toPoly_map_fdiv a g hgd, ?_, ?_, hcm⟩
  · -- any common divisor d of the quotients gives d*g | every coefficient, so d*g | G
    intro d hd
    have hdg : ∀ c ∈ a, d * g ∣ c := by
      intro c hc
      have h1 : d ∣ Int.fdiv c g := hd _ (List.mem_map.mpr ⟨c, hc, rfl⟩)
      have h2 : Int.fdiv c g * g = c := Int.fdiv_mul_cancel (hgd c hc)
      rw [← h2]; exact mul_dvd_mul_right h1 g
    have hdG : d * g ∣ G := dvd_foldl_gcd a 0 (d * g) (dvd_zero _) hdg
    have hdG' : d * G ∣ G := by
      rcases hgG with e | e
      · rwa [e] at hdG
      · rw [e, mul_neg] at hdG; exact (neg_dvd).mp hdG
    obtain ⟨w, hw⟩ := hdG'
    have : G * (d * w) = G * 1 := by linear_combination -hw
    have := mul_left_cancel₀ hGne this
    exact Dvd.intro w this
  · rw [lc_of_ne_nil _ hmapne, hlast]
    -- lc a and g have the same sign, and `fdiv (lc a) g * g = lc a`
    by_cases hneg : lc a < 0
    · have e : g = -G := by simp [hg, hneg]
      rw [e, mul_neg] at hlcq
      rw [e]
      exact (mul_pos_iff_of_pos_right hGpos).mp (by linarith)
    · have e : g = G := by simp [hg, hneg]
      rw [e] at hlcq ⊢
      exact (mul_pos_iff_of_pos_right hGpos).mp
        (hlcq.symm ▸ lt_of_le_of_ne (not_lt.mp hneg) (Ne.symm hlc0))

end NTV.PolyG
