import NTV.Model.Ideal
import NTV.Proofs.C08
import NTV.Proofs.C15
import NTV.Proofs.Lemmas.Round2ProofsA
import NTV.Proofs.Lemmas.DecompProofsB
/-! # Prime decomposition (C17), part A: the shape of a successful run of `decompose`, and the degree
identity Σ eᵢ · deg gᵢ = deg f read off the product identity `f̄ = ∏ ḡᵢ^{eᵢ}` (`PolyMod.factorizeModP_spec`). -/
namespace NTV.DecompP
open NTV.Ideal NTV.PolyG NTV.PolyMod Polynomial

theorem wordOf_natCast {p : Nat} (h : p < 2 ^ 64) : wordOf (p : Int) = p := by
  have hc : (0 : Int) ≤ (p : Int) ∧ (p : Int) < 2 ^ 64 := ⟨by omega, by exact_mod_cast h⟩
  unfold wordOf; rw [if_pos hc]; omega

theorem monic_toPoly {f : List Int} {n : Nat} (hfl : f.length = n + 1) (hmonic : lc f = 1) :
    (toPoly f).Monic ∧ (toPoly f).natDegree = n := by
  obtain ⟨d1, d2, _⟩ := natDegree_toPoly f (List.ne_nil_of_length_pos (by omega))
    (NTV.C15.canon_of_monic f hmonic)
  exact ⟨by rw [Monic, d2, hmonic], by rw [d1, hfl]; rfl⟩

theorem wordOf_or_le {p : Nat} {f : List Int} (hlen : 2 ^ 64 ≤ p → f.length < 2 ^ 64) :
    wordOf (p : Int) = p ∨ f.length ≤ p := by
  rcases Nat.lt_or_ge p (2 ^ 64) with h1 | h1
  · exact Or.inl (wordOf_natCast h1)
  · exact Or.inr (by have := hlen h1; omega)

theorem decompose_ok {f : List Int} {B : QMat} {t : Table} {p : Int} {s : NTV.Draw.Stream}
    {res : List (HNF × Nat)} (h : decompose f B t p s = .ok res) :
    ∃ z idx fs, f ≠ [] ∧ NTV.Ord.trivialOrderMonic f = .ok z ∧ NTV.Ord.index B z = .ok idx ∧ p ≠ 0 ∧
      Int.tmod idx p ≠ 0 ∧ factorizeModP f p (wordOf p) s = .ok fs ∧
      fs.mapM (fun (x : List Int × Nat) => primeAbove f B t p x.1 x.2) = .ok res := by
  unfold decompose at h
  simp only [bind, Except.bind, throw, throwThe, MonadExceptOf.throw] at h
  split at h
  · cases h
  rename_i hemp
  split at h
  · cases h
  rename_i z hz
  split at h
  · cases h
  rename_i idx hidx
  split at h
  · cases h
  rename_i hp0
  split at h
  · cases h
  rename_i hmod
  split at h
  · cases h
  rename_i fs hfs
  refine ⟨z, idx, fs, ?_, hz, hidx, hp0, hmod, hfs, h⟩
  intro e; subst e; simp at hemp


/-- the shape of a successful run (C17 `decompose_shape`): the modular factors, the returned pairs position by
position, and the index guard -/
theorem decompose_run (f : List Int) (n : Nat) (hn : 1 ≤ n) (hfl : f.length = n + 1) (hmonic : lc f = 1)
    (B : QMat) (t : Table) (p : Nat) (s : NTV.Draw.Stream) (res : List (HNF × Nat))
    (h : decompose f B t (p : Int) s = .ok res) :
    ∃ fs : Factors, factorizeModP f (p : Int) (wordOf p) s = .ok fs ∧ res.length = fs.length ∧
      (∀ i (h1 : i < fs.length) (h2 : i < res.length),
        res[i].2 = fs[i].2 ∧ primeAbove f B t (p : Int) fs[i].1 fs[i].2 = .ok res[i]) ∧
      ∃ idx : Int, NTV.Ord.trivialOrderMonic f = .ok (NTV.Ord.identityQ n) ∧
        NTV.Ord.index B (NTV.Ord.identityQ n) = .ok idx ∧ ¬ (p : Int) ∣ idx := by
  obtain ⟨z, idx, fs, _, hz, hidx, _, hmod, hfs, hmap⟩ := decompose_ok h
  obtain ⟨hl, hpt⟩ := NTV.Round2.mapM_inv fs _ res hmap
  have hz' := (NTV.C15.power_basis_discriminant f n hn hfl hmonic).1
  rw [hz'] at hz
  cases hz
  refine ⟨fs, hfs, hl, fun i h1 h2 => ?_, idx, hz', hidx, fun hd => hmod (Int.dvd_iff_tmod_eq_zero.mp hd)⟩
  have hi := hpt i h1 h2
  obtain ⟨_, _, _, _, _, _, _, _, hm⟩ := primeAbove_ok (P := res[i].1) hi
  exact ⟨hm, hi⟩

section deg
variable (p : ℕ) [hp : Fact p.Prime]

theorem natDegree_fprod (fs : Factors) (h : ∀ x ∈ fs, Shape p x) :
    (fprod p fs).natDegree = (fs.map (fun x => x.2 * degU x.1)).sum := by
  induction fs with
  | nil => simp
  | cons x fs ih =>
    have hx := h x (by simp)
    have hrest : ∀ y ∈ fs, Shape p y := fun y hy => h y (by simp [hy])
    have hne : x.1 ≠ [] := by intro e; have := hx.2.2.1; rw [e] at this; simp at this
    rw [fprod_cons, ((Shape.monic p hx).pow _).natDegree_mul (fprod_monic p fs hrest),
      (Shape.monic p hx).natDegree_pow, ← degU_eq_natDegree p x.1 hx.1 hne, ih hrest, List.map_cons, List.sum_cons]

theorem degree_sum_core (f : List Int) (n : Nat) (hfl : f.length = n + 1) (hmonic : lc f = 1)
    (pusize : Nat) (s : NTV.Draw.Stream) (fs : Factors) (hpu : pusize = p ∨ f.length ≤ p)
    (h : factorizeModP f (p : Int) pusize s = .ok fs) :
    (fs.map (fun x => x.2 * degU x.1)).sum = n := by
  obtain ⟨h1, h2, _⟩ := factorizeModP_spec p f pusize s fs hpu h
  obtain ⟨hm, hdeg⟩ := monic_toPoly hfl hmonic
  have hmm : (mp p f).Monic := hm.map _
  have hd : (mp p f).natDegree = n := by
    unfold mp; rw [hm.natDegree_map, hdeg]
  rw [hmm.leadingCoeff, map_one, one_mul] at h1
  rw [← natDegree_fprod p fs h2, ← h1, hd]

end deg

end NTV.DecompP
