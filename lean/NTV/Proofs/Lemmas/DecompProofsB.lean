import NTV.Model.Ideal
import NTV.Proofs.Lemmas.IdealProofsC
import NTV.Proofs.Lemmas.TableProofs2
import NTV.Proofs.Lemmas.NormResFinal
/-! # Prime decomposition (C17), part B: `to_z_basis_int` and the closure (g, e) ↦ ((g(θ)) + (p), e). -/
open Matrix
namespace NTV.DecompP
open NTV.Ideal NTV.PolyG NTV.IdealP NTV.Ord
open NTV.RowOps (toM Rect ent)

theorem toZBasisInt_of_solve {B : NTV.Ord.QMat} {n : Nat} (hB : Rect n n B) (a : List Rat) {y : List Rat}
    (hs : NTV.LinAlg.solve B ((List.range B.length).map (fun k => coefAt a k)) = .ok y) :
    toZBasisInt B a = cellSpec y n := by
  have hb : ((List.range B.length).map (fun k => coefAt a k)).length = n := by simp [hB.1]
  have ht := tabulate_int y n (NTV.LinAlg.solve_length B _ y n hB hb hs)
  unfold toZBasisInt toZBasis solveExpect
  rw [hs]
  simp only [bind, Except.bind] at ht ⊢
  rw [hB.1, ht]

/-- `to_z_basis_int`: a returned vector has `n` entries and solves `x · B = (coefficients of a)` -/
theorem toZBasisInt_spec (B : NTV.Ord.QMat) (n : Nat) (hB : Rect n n B) (a : List Rat) (x : List Int)
    (h : toZBasisInt B a = .ok x) :
    x.length = n ∧
    (fun k : Fin n => ((x.getD k 0 : Int) : Rat)) ᵥ* toM n n B = fun c : Fin n => coefAt a c := by
  cases hs : NTV.LinAlg.solve B ((List.range B.length).map (fun k => coefAt a k)) with
  | error e =>
    unfold toZBasisInt toZBasis solveExpect at h
    rw [hs] at h
    simp only [bind, Except.bind] at h
    split at h
    · cases h
    · rename_i v hv
      split at hv <;> cases hv
  | ok y =>
    have hb : ((List.range B.length).map (fun k => coefAt a k)).length = n := by simp [hB.1]
    have hsol := NTV.LinAlg.solve_ok B _ y n hB hb hs
    rw [toZBasisInt_of_solve hB a hs] at h
    unfold cellSpec at h
    split at h
    · rename_i hint
      cases h
      refine ⟨by simp, ?_⟩
      have hx : (fun k : Fin n => ((((List.range n).map fun k => toInteger (y.getD k 0)).getD k 0 : Int) : Rat))
          = fun k : Fin n => y.getD k 0 := by
        funext k
        have hk := hint k k.2
        simp only [List.getD_eq_getElem?_getD, List.getElem?_map, List.getElem?_range k.2, Option.map_some,
          Option.getD_some]
        rw [← List.getD_eq_getElem?_getD]
        generalize y.getD k 0 = q at hk
        unfold isInteger at hk
        unfold toInteger
        have hden : q.den = 1 := by simpa using hk
        rw [hden]
        simp only [Nat.cast_one, Int.tdiv_one]
        exact (Rat.den_eq_one_iff q).mp hden
      rw [hx, hsol]
      funext c
      simp [List.getD_eq_getElem?_getD, hB.1, c.2]
    · cases h


/-- a solution of `x · B = (coefficients of a)` gives `Σ_k x_k · ω_k = a` in ℚ[x]/(f), as an equality of stored
expressions, for every canonical `a` of degree < n -/
theorem elt_of_solution (B : NTV.Ord.QMat) (n : Nat) (hB : Rect n n B) (a : List Rat) (x : List Int)
    (ha : Canon a) (hlen : a.length ≤ n)
    (h : (fun k : Fin n => ((x.getD k 0 : Int) : Rat)) ᵥ* toM n n B = fun c : Fin n => coefAt a c) :
    elt B x = a := by
  refine toPoly_inj (elt B x) a (by unfold elt comb; exact canon_fromRaw _) ha ?_
  ext c
  rw [coeff_toPoly, coeff_toPoly]
  by_cases hc : c < n
  · rw [NTV.Ord.elt_getD B x c (by rw [hB.1]; exact hc), hB.1]
    have h2 := congrFun h ⟨c, hc⟩
    simp only [Matrix.vecMul, dotProduct, coefAt] at h2
    rw [← h2, ← Fin.sum_univ_eq_sum_range (fun k => ((x.getD k 0 : Int) : Rat) * ent B k c) n]
    rfl
  · have h0 : a.getD c 0 = 0 := by
      rw [List.getD_eq_getElem?_getD, List.getElem?_eq_none (by omega)]; rfl
    rw [h0]
    unfold elt comb
    rw [getD_fromRaw, List.getD_eq_getElem?_getD, List.getElem?_eq_none (by simp [hB.1]; omega)]
    rfl


/-- the rational copy of a factor: `Polynomial::from_raw(poly.map(BigRational::from_integer))` -/
def ratOf (g : List Int) : List Rat := fromRaw (g.map (fun (c : Int) => (c : Rat)))

/-- the coordinate vector handed to `Ideal::principal` by the closure of `decompose` -/
def elemSpec (f : List Int) (B : NTV.Ord.QMat) (g : List Int) : Except String (List Int) :=
  if degU (ratOf g) ≥ degU f then .ok (List.replicate (degU f) 0) else toZBasisInt B (ratOf g)

theorem length_le_of_degU_lt {α : Type} {a : List α} {n : Nat} (h : degU a < n) : a.length ≤ n := by
  cases a with
  | nil => exact Nat.zero_le n
  | cons x l =>
    -- `degU (x :: l)` reduces to `l.length`
    have h' : l.length < n := h
    exact h'

theorem elemSpec_ok {f : List Int} {B : NTV.Ord.QMat} {n : Nat} {g elem : List Int} (hf : degU f = n)
    (hB : Rect n n B) (h : elemSpec f B g = .ok elem) :
    (degU (ratOf g) < n → toZBasisInt B (ratOf g) = .ok elem ∧
      (fun k : Fin n => ((elem.getD k 0 : Int) : Rat)) ᵥ* toM n n B = (fun c : Fin n => coefAt (ratOf g) c) ∧
      elt B elem = ratOf g) ∧
    (n ≤ degU (ratOf g) → elem = List.replicate n 0) := by
  unfold elemSpec at h
  rw [hf] at h
  constructor
  · intro hlt
    rw [if_neg (by omega)] at h
    obtain ⟨_, hsol⟩ := toZBasisInt_spec B n hB _ _ h
    exact ⟨h, hsol, elt_of_solution B n hB _ _ (canon_fromRaw _) (length_le_of_degU_lt hlt) hsol⟩
  · intro hge
    rw [if_pos hge] at h
    exact (Except.ok.inj h).symm

/-- the closure of `decompose`, with its first step named -/
theorem primeAbove_eq (f : List Int) (B : NTV.Ord.QMat) (t : NTV.Ord.Table) (p : Int) (g : List Int) (m : Nat) :
    primeAbove f B t p g m = (do
      let elem ← elemSpec f B g
      let A ← principal t elem
      if degU f = 0 then throw "panic index"
      let Z ← principal t (p :: List.replicate (degU f - 1) 0)
      let S ← add A Z
      pure (S, m)) := by
  unfold primeAbove elemSpec ratOf
  by_cases hc : degU (fromRaw (g.map fun (c : Int) => (c : Rat))) ≥ degU f
  · simp only [if_pos hc]; rfl
  · simp only [if_neg hc]

theorem primeAbove_ok {f : List Int} {B : NTV.Ord.QMat} {t : NTV.Ord.Table} {p : Int} {g : List Int} {m : Nat}
    {P : HNF} {m' : Nat} (h : primeAbove f B t p g m = .ok (P, m')) :
    ∃ elem A Z, elemSpec f B g = .ok elem ∧ principal t elem = .ok A ∧ degU f ≠ 0 ∧
      principal t (p :: List.replicate (degU f - 1) 0) = .ok Z ∧ add A Z = .ok P ∧ m' = m := by
  rw [primeAbove_eq] at h
  simp only [bind, Except.bind, pure, Except.pure, throw, throwThe, MonadExceptOf.throw] at h
  split at h
  · cases h
  rename_i elem helem
  split at h
  · cases h
  rename_i A hA
  split at h
  · cases h
  rename_i hdeg
  split at h
  · cases h
  rename_i Z hZ
  split at h
  · cases h
  rename_i S hS
  cases h
  exact ⟨elem, A, Z, helem, hA, hdeg, hZ, hS, rfl⟩

theorem vec_replicate_zero (n : Nat) : vec n (List.replicate n (0 : Int)) = 0 := by
  funext k; simp [vec, List.getD_eq_getElem?_getD]

theorem length_pelem {n : Nat} (hn : 0 < n) (p : Int) : (p :: List.replicate (n - 1) 0).length = n := by
  rw [List.length_cons, List.length_replicate]
  omega

theorem vec_pelem (n : Nat) (hn : 0 < n) (p : Int) :
    vec n (p :: List.replicate (n - 1) 0) = p • e n ⟨0, hn⟩ := by
  funext ⟨k, hk⟩
  cases k with
  | zero => simp [vec, e]
  | succ j =>
    have h : (⟨j + 1, hk⟩ : Fin n) ≠ ⟨0, hn⟩ := fun h => Nat.succ_ne_zero j (Fin.mk.inj h)
    rw [Pi.smul_apply, e, Pi.single_eq_of_ne h, smul_zero]
    show (List.replicate (n - 1) (0 : ℤ)).getD j 0 = 0
    rw [List.getD_eq_getElem?_getD, List.getElem?_replicate]
    split <;> rfl

/-- **the closure of `decompose`, as lattices.** For a table that is a ring with identity e_0 and f of
degree n: a returned `P` is the sum of the principal ideal of the coordinate vector `elem` and of (p);
it is an ideal of the order containing p·e_0 and p·ℤⁿ. -/
theorem primeAbove_lattice_core {t : NTV.Ord.Table} {n : Nat} (T : TableRing t n) {f : List Int} (hf : degU f = n)
    {B : NTV.Ord.QMat} {p : Int} {g : List Int} {m : Nat} {P : HNF} {m' : Nat}
    (h : primeAbove f B t p g m = .ok (P, m')) :
    ∃ elem A Z, elemSpec f B g = .ok elem ∧ elem.length = n ∧ principal t elem = .ok A ∧
      principal t (p :: List.replicate (n - 1) 0) = .ok Z ∧ add A Z = .ok P ∧ m' = m ∧
      Wid n A ∧ Wid n Z ∧ Wid n P ∧ (∃ pv, NTV.Hnf.IsHNF P n pv) ∧
      Lat n A = LinearMap.range (starB t n (vec n elem)) ∧
      Lat n Z = LinearMap.range (starB t n (p • e n ⟨0, T.pos⟩)) ∧
      Lat n P = Lat n A ⊔ Lat n Z ∧ IsOIdeal t n P ∧ (∀ y : Fin n → ℤ, p • y ∈ Lat n P) := by
  obtain ⟨elem, A, Z, h1, h2, _, h4, h5, h6⟩ := primeAbove_ok h
  rw [hf] at h4
  have hlen : elem.length = n := by
    by_contra hne
    unfold principal at h2
    rw [T.len] at h2
    simp [hne, bind, Except.bind, throw, throwThe, MonadExceptOf.throw] at h2
  have hplen := length_pelem T.pos p
  obtain ⟨wA, hA, lA, oA⟩ := principal_spec T hlen h2
  obtain ⟨wZ, hZ, lZ, oZ⟩ := principal_spec T hplen h4
  obtain ⟨wP, hP, lP⟩ := add_spec wA wZ T.pos h5
  rw [vec_pelem n T.pos p] at lZ
  refine ⟨elem, A, Z, h1, hlen, h2, h4, h5, h6, wA, wZ, wP, hP, lA, lZ, lP,
    isOIdeal_of_lat_sup lP oA oZ, ?_⟩
  intro y
  rw [lP]
  apply Submodule.mem_sup_right
  rw [lZ]
  refine ⟨y, ?_⟩
  rw [starB_apply, star_smul_left, T.one_star]

/-- the rational copy of a canonical integer list is the list of the casts: same length, same degree,
and it denotes the image of the polynomial in ℚ[X] -/
theorem ratOf_canon (g : List Int) (hg : Canon g) :
    ratOf g = g.map (fun (c : Int) => (c : Rat)) ∧ degU (ratOf g) = degU g ∧
    toPoly (ratOf g) = (toPoly g).map (Int.castRingHom ℚ) := by
  have hc : Canon (g.map (fun (c : Int) => (c : Rat))) := by
    intro hne
    have hne' : g ≠ [] := by intro e; apply hne; rw [e]; rfl
    rw [List.getLast_map (by simpa using hne')]
    have := hg hne'
    exact_mod_cast this
  have h1 : ratOf g = g.map (fun (c : Int) => (c : Rat)) :=
    toPoly_inj _ _ (canon_fromRaw _) hc (toPoly_fromRaw _)
  refine ⟨h1, ?_, ?_⟩
  · rw [h1]; cases g <;> simp [degU]
  · rw [h1]
    clear h1 hc hg
    induction g with
    | nil => simp [toPoly]
    | cons c cs ih => simp [toPoly, ih]

end NTV.DecompP
