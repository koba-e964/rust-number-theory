import NTV.Proofs.Lemmas.DecompProofsB
import Mathlib.LinearAlgebra.Dimension.Constructions
import Mathlib.LinearAlgebra.Dimension.Free
import Mathlib.LinearAlgebra.FiniteDimensional.Defs
/-! # Prime decomposition (C17), part C: the ideals above p have full rank, and meet ℤ in pℤ or ℤ. -/
namespace NTV.DecompP
open NTV.Ideal NTV.IdealP NTV.Hnf Module

theorem pv_length_le {pv : List Nat} {n : Nat} (hinc : pv.Pairwise (· < ·)) (hlt : ∀ q ∈ pv, q < n) :
    pv.length ≤ n := by
  have hnd : pv.Nodup := hinc.imp (fun h => Nat.ne_of_lt h)
  rw [← List.toFinset_card_of_nodup hnd]
  calc pv.toFinset.card ≤ (Finset.range n).card := Finset.card_le_card (by
        intro q hq; rw [List.mem_toFinset] at hq; exact Finset.mem_range.mpr (hlt q hq))
    _ = n := Finset.card_range n

theorem finrank_Lat_le (n : Nat) (P : Mat) : finrank ℤ (Lat n P) ≤ P.length := by
  classical
  have h1 : Lat n P = Submodule.span ℤ (((P.map (vec n)).toFinset : Finset (Fin n → ℤ)) : Set (Fin n → ℤ)) := by
    unfold Lat
    congr 1
    ext u
    simp
  rw [h1]
  calc _ ≤ (P.map (vec n)).toFinset.card := finrank_span_finset_le_card _
    _ ≤ (P.map (vec n)).length := List.toFinset_card_le _
    _ = P.length := by simp

theorem full_rank {n : Nat} {P : Mat} {pv : List Nat} (hH : IsHNF P n pv) (p : ℤ) (hp : p ≠ 0)
    (h : ∀ y : Fin n → ℤ, p • y ∈ Lat n P) : P.length = n := by
  apply le_antisymm
  · rw [← hH.len]; exact pv_length_le hH.incr hH.lt
  · let φ : (Fin n → ℤ) →ₗ[ℤ] (Fin n → ℤ) := p • LinearMap.id
    have hinj : Function.Injective φ := by
      intro a b hab
      have : p • a = p • b := hab
      exact smul_right_injective _ hp this
    have hle : LinearMap.range φ ≤ Lat n P := by
      rintro _ ⟨y, rfl⟩; exact h y
    -- stated by hand: instance search finds it only after a long detour
    have : Module.Finite ℤ (Lat n P) := Module.Finite.iff_fg.mpr (IsNoetherian.noetherian _)
    calc n = finrank ℤ (Fin n → ℤ) := (Module.finrank_fin_fun ℤ).symm
      _ = finrank ℤ (LinearMap.range φ) := (LinearMap.finrank_range_of_inj hinj).symm
      _ ≤ finrank ℤ (Lat n P) := Submodule.finrank_mono hle
      _ ≤ P.length := finrank_Lat_le n P


/-- **P ∩ ℤ.** For a prime p, `cap_z` of a returned ideal is p or 1; it is 1 exactly when P is the unit
ideal (its lattice is all of ℤⁿ); in general {z | z·e_0 ∈ L(P)} = cℤ. -/
theorem capZ_above {t : NTV.Ord.Table} {n : Nat} (T : TableRing t n) {f : List Int} (hf : NTV.PolyG.degU f = n)
    {B : NTV.Ord.QMat} (p : Nat) (hp : p.Prime) {g : List Int} {m : Nat} {P : HNF} {m' : Nat}
    (h : primeAbove f B t (p : Int) g m = .ok (P, m')) :
    P.length = n ∧
    ∃ c, capZ P = .ok c ∧ (c = p ∨ c = 1) ∧ (c = 1 ↔ Lat n P = ⊤) ∧
      ∀ z : ℤ, z • e n ⟨0, T.pos⟩ ∈ Lat n P ↔ c ∣ z := by
  obtain ⟨elem, A, Z, _, _, _, _, _, _, _, _, wP, ⟨pv, hH⟩, _, _, _, oP, hpy⟩ := primeAbove_lattice_core T hf h
  have hp0 : (p : Int) ≠ 0 := by exact_mod_cast hp.ne_zero
  have hfull := full_rank hH (p : Int) hp0 hpy
  obtain ⟨c, h1, h2, h3⟩ := capZ_core T.pos wP hH hfull
  refine ⟨hfull, c, h1, ?_, ?_, h3⟩
  · have hdvd : c ∣ (p : Int) := (h3 p).mp (hpy _)
    have hc : c = (c.natAbs : Int) := by omega
    rw [hc] at hdvd ⊢
    have := (Nat.dvd_prime hp).mp (Int.natCast_dvd_natCast.mp hdvd)
    rcases this with h | h
    · right; rw [h]; rfl
    · left; rw [h]
  · constructor
    · intro hc
      rw [eq_top_iff]
      intro y _
      have h0 : e n ⟨0, T.pos⟩ ∈ Lat n P := by
        have := (h3 1).mpr (by rw [hc])
        simpa using this
      have := oP y _ h0
      rwa [T.star_one] at this
    · intro htop
      have : (1 : ℤ) • e n ⟨0, T.pos⟩ ∈ Lat n P := by rw [htop]; trivial
      have hd := (h3 1).mp this
      exact Int.eq_one_of_dvd_one (le_of_lt h2) hd

end NTV.DecompP
