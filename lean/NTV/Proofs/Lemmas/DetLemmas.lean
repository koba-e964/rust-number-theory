import NTV.Proofs.Lemmas.RowOpsProofs
import Mathlib.LinearAlgebra.Matrix.Block
/-! Determinants under Gaussian elimination. `NTV.Det`: the block-triangular facts of Mathlib in the shape the
eliminations use (no pivot in a column ⇒ determinant 0; triangular ⇒ product of the diagonal). `NTV.RowOps.Tri`:
the invariant of computing a determinant by elimination on a list matrix, at `ℚ` where its two users live (the
model's `determinant` and the specification's `rankDet`); `swapSign_mul_self` is about the sign that
`det_swapRows_or_same` (RowOpsProofs) produces. -/
open Matrix
namespace NTV.Det
variable {R : Type} [CommRing R]

/-- Gaussian elimination found no pivot in column `i`. -/
theorem det_zero_of_no_pivot {n : Nat} (M : Matrix (Fin n) (Fin n) R) (i : Fin n)
    (hlow : ∀ r c : Fin n, c.val < i.val → c.val < r.val → M r c = 0)
    (hcol : ∀ r : Fin n, i.val ≤ r.val → M r i = 0) : M.det = 0 := by
  -- block-triangular with respect to `r < i`; the lower right block has a zero first column
  have hblock : (toSquareBlockProp M fun r : Fin n => ¬ r.val < i.val).det = 0 :=
    det_eq_zero_of_column_eq_zero ⟨i, Nat.lt_irrefl _⟩ fun r => hcol r.1 (Nat.le_of_not_gt r.2)
  rw [twoBlockTriangular_det M (fun r : Fin n => r.val < i.val) fun r hr c hc =>
    hlow r c hc (Nat.lt_of_lt_of_le hc (Nat.le_of_not_gt hr)), hblock, mul_zero]

theorem det_upper {n : Nat} (M : Matrix (Fin n) (Fin n) R)
    (hlow : ∀ r c : Fin n, c.val < r.val → M r c = 0) : M.det = ∏ i, M i i :=
  det_of_isUpperTriangular fun r c hrc => hlow r c hrc

end NTV.Det

namespace NTV.RowOps
variable {n : Nat} {A0 : Matrix (Fin n) (Fin n) ℚ}

/-- Gaussian elimination for the determinant, before column `c`: `a` is zero below the diagonal in its first `c`
columns, and `d` is the accumulated sign times the pivots found so far. Shared by the model's `determinant`
and the specification's `rankDet`. -/
structure Tri (n : Nat) (A0 : Matrix (Fin n) (Fin n) ℚ) (c : Nat) (a : List (List ℚ)) (d : ℚ) : Prop where
  ra : Rect n n a
  low : ∀ i j, i < n → j < c → j < i → ent a i j = 0
  sgn : ∃ s : ℚ, A0.det = s * (toM n n a).det ∧ d = s * ∏ k ∈ Finset.range c, ent a k k

theorem Tri.init {a : List (List ℚ)} (hr : Rect n n a) : Tri n (toM n n a) 0 a 1 :=
  ⟨hr, fun _ _ _ hj => absurd hj (Nat.not_lt_zero _), 1, (one_mul _).symm, by
    rw [Finset.range_zero, Finset.prod_empty, mul_one]⟩

theorem Tri.final {a : List (List ℚ)} {d : ℚ} (h : Tri n A0 n a d) : d = A0.det := by
  obtain ⟨s, hs1, hs2⟩ := h.sgn
  rw [hs1, hs2, NTV.Det.det_upper (toM n n a) (fun r c hcr => h.low r c r.2 c.2 hcr)]
  exact congrArg _ (Fin.prod_univ_eq_prod_range (fun c => ent a c c) n).symm

theorem Tri.singular {c : Nat} {a : List (List ℚ)} {d : ℚ} (h : Tri n A0 c a d) (hc : c < n)
    (hz : ∀ i, c ≤ i → i < n → ent a i c = 0) : A0.det = 0 := by
  obtain ⟨s, hs1, _⟩ := h.sgn
  rw [hs1, NTV.Det.det_zero_of_no_pivot (toM n n a) ⟨c, hc⟩ (fun r j hj hjr => h.low r j r.2 hj hjr)
    (fun r hr => hz r hr r.2), mul_zero]

/-- one round, however the next matrix is computed: a row exchange of sign `ε` followed by operations that keep the
determinant, clear column `c` below the diagonal and leave the earlier diagonal entries alone -/
theorem Tri.advance {c : Nat} {a a' : List (List ℚ)} {d : ℚ} (h : Tri n A0 c a d) (ra' : Rect n n a') {ε : ℚ}
    (hε : ε * ε = 1) (hdet : (toM n n a').det = ε * (toM n n a).det)
    (hlow : ∀ i j, i < n → j < c + 1 → j < i → ent a' i j = 0)
    (hdiag : ∀ k, k < c → ent a' k k = ent a k k) : Tri n A0 (c + 1) a' (ε * d * ent a' c c) := by
  obtain ⟨s, hs1, hs2⟩ := h.sgn
  refine ⟨ra', hlow, ε * s, ?_, ?_⟩
  · rw [hdet, hs1, mul_mul_mul_comm, hε, one_mul]
  · rw [Finset.prod_range_succ, Finset.prod_congr rfl fun k hk => hdiag k (Finset.mem_range.mp hk), hs2,
      mul_assoc, mul_assoc, mul_assoc]

theorem swapSign_mul_self (i j : Nat) : (if i = j then (1 : ℚ) else -1) * (if i = j then 1 else -1) = 1 := by
  split
  · exact one_mul 1
  · rw [neg_mul_neg, one_mul]

end NTV.RowOps
