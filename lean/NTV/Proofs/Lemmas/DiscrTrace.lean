import NTV.Proofs.Lemmas.NormResAdj
import Mathlib.RingTheory.Trace.Basic
import Mathlib.RingTheory.Discriminant
import Mathlib.LinearAlgebra.Matrix.Block
import Mathlib.GroupTheory.Perm.Fin
/-! Discriminant of the power basis `1, θ, …, θ^(n-1)` of `k[X]/(F)` with respect to the trace form:
`discr(1,θ,…,θ^(n-1)) · lc(F)^(2n-2) = discr F`, for an arbitrary non-zero `F` of degree `n ≥ 1` over a field
(not assumed irreducible, separable or monic; any characteristic).
The proof is the dual-basis argument: with `λ` the last coordinate in the power basis and `b_i = (D (i+1) F)(θ)`, Claim A computes
`λ(θ^i · b_{m-1})`, Claim B says that `b / lc(F)` is the `λ`-dual family of the power basis, Claim C expresses the trace through `λ`
and `F'(θ)`; the Gram matrix of the trace form is then `Λ · M / lc(F)` with `det Λ = ±1` and `det M = N(F'(θ))`. -/
open Polynomial Matrix
namespace NTV.DiscrTrace

section Sign
open Equiv

theorem sign_revPerm (n : ℕ) :
    Equiv.Perm.sign (Fin.revPerm : Perm (Fin n)) = (-1) ^ (n * (n - 1) / 2) := by
  induction n with
  | zero => rw [Subsingleton.elim (Fin.revPerm : Perm (Fin 0)) 1, Equiv.Perm.sign_one]; rfl
  | succ n ih =>
    -- rotating the reversal of `n + 1` points fixes `0` and reverses the other `n`
    have h : finRotate (n + 1) * (Fin.revPerm : Perm (Fin (n + 1)))
        = Equiv.Perm.decomposeFin.symm (0, (Fin.revPerm : Perm (Fin n))) := by
      ext x
      refine Fin.cases ?_ (fun y => ?_) x
      · rw [Perm.mul_apply, Fin.revPerm_apply, Fin.rev_zero, finRotate_last, Perm.decomposeFin_symm_apply_zero]
      · rw [Perm.mul_apply, Fin.revPerm_apply, Fin.rev_succ, finRotate_succ_apply, Fin.coeSucc_eq_succ,
          Perm.decomposeFin_symm_apply_succ, swap_self, refl_apply, Fin.revPerm_apply]
    rw [eq_inv_mul_of_mul_eq h, Equiv.Perm.sign_mul, Equiv.Perm.sign_inv, sign_finRotate,
      Equiv.Perm.decomposeFin.symm_sign, if_pos rfl, one_mul, ih, Nat.triangle_succ, pow_add,
      Nat.add_sub_cancel, mul_comm]

end Sign

section Poly
variable {R : Type*} [CommRing R]

/-- iterated `divX`: `D m P = Σ_{l} P_{l+m} X^l` -/
noncomputable def D (m : ℕ) (P : R[X]) : R[X] := divX^[m] P

theorem D_zero (P : R[X]) : D 0 P = P := rfl

theorem D_succ (m : ℕ) (P : R[X]) : D (m + 1) P = D m (divX P) := rfl

theorem coeff_D (m i : ℕ) (P : R[X]) : (D m P).coeff i = P.coeff (i + m) := by
  induction m generalizing P with
  | zero => rfl
  | succ m ih => rw [D_succ, ih, coeff_divX]; rfl

theorem natDegree_D_le (m : ℕ) (P : R[X]) : (D m P).natDegree ≤ P.natDegree - m := by
  rw [natDegree_le_iff_coeff_eq_zero]
  intro N hN
  rw [coeff_D]
  exact coeff_eq_zero_of_natDegree_lt (by omega)

theorem D_eq (m : ℕ) (P : R[X]) : D m P = X * D (m + 1) P + C (P.coeff m) := by
  induction m generalizing P with
  | zero => exact (X_mul_divX_add P).symm
  | succ m ih => rw [D_succ, ih, coeff_divX]; rfl

theorem sum_pow_mul_map_D {A : Type*} [Semiring A] (φ : R[X] →+* A) (N : ℕ) (P : R[X]) (h : P.natDegree ≤ N) :
    ∑ i ∈ Finset.range N, φ X ^ i * φ (D (i + 1) P) = φ (derivative P) := by
  induction N generalizing P with
  | zero =>
    rw [Nat.le_zero] at h
    rw [eq_C_of_natDegree_eq_zero h]; simp
  | succ N ih =>
    have h1 : (divX P).natDegree ≤ N := by
      rw [natDegree_divX_eq_natDegree_tsub_one]; omega
    rw [Finset.sum_range_succ']
    simp only [D_succ (_ + 1), pow_succ', mul_assoc]
    rw [← Finset.mul_sum, ih _ h1, D_succ, D_zero, pow_zero, one_mul]
    conv_rhs => rw [← X_mul_divX_add P, derivative_add, derivative_mul, derivative_C, derivative_X, one_mul,
      add_zero, add_comm, φ.map_add, φ.map_mul]

end Poly

section Adj
variable {k : Type*} [Field k] (F : k[X]) (hF : F ≠ 0)

noncomputable abbrev bas : Module.Basis (Fin F.natDegree) k (AdjoinRoot F) := AdjoinRoot.powerBasisAux hF

theorem bas_apply (i : Fin F.natDegree) : bas F hF i = AdjoinRoot.root F ^ (i : ℕ) := by
  simp [bas, AdjoinRoot.powerBasisAux]

variable (hn : 1 ≤ F.natDegree)

/-- last coordinate `λ` w.r.t. the power basis -/
noncomputable def lam : AdjoinRoot F →ₗ[k] k := (bas F hF).coord ⟨F.natDegree - 1, by omega⟩

theorem lam_mk (P : k[X]) (hP : P.natDegree < F.natDegree) :
    lam F hF hn (AdjoinRoot.mk F P) = P.coeff (F.natDegree - 1) := by
  rw [lam, Module.Basis.coord_apply, ← AdjoinRoot.aeval_eq, aeval_eq_sum_range' hP, Finset.sum_range]
  simp only [← bas_apply F hF]
  rw [Module.Basis.repr_sum_self]

theorem lam_root_pow (i : ℕ) (hi : i < F.natDegree) :
    lam F hF hn (AdjoinRoot.root F ^ i) = if i = F.natDegree - 1 then 1 else 0 := by
  rw [← AdjoinRoot.mk_X, ← RingHom.map_pow, lam_mk F hF hn _ (by rw [natDegree_X_pow]; exact hi), coeff_X_pow]
  simp only [eq_comm]

/-- Claim A: `λ(θ^i · b_{m-1}) = lc(F)·δ_{i+1,m}` where `b_{m-1} = D m F (θ)`. -/
theorem lam_pow_mul_D (i : ℕ) (hi : i < F.natDegree) (m : ℕ) :
    lam F hF hn (AdjoinRoot.root F ^ i * AdjoinRoot.mk F (D m F))
      = if i + 1 = m then F.leadingCoeff else 0 := by
  induction m generalizing i with
  | zero => rw [D_zero, AdjoinRoot.mk_self, mul_zero, LinearMap.map_zero, if_neg i.succ_ne_zero]
  | succ m ih =>
    rcases i with _ | i
    · rw [pow_zero, one_mul, lam_mk F hF hn _ ((natDegree_D_le _ _).trans_lt (by omega)), coeff_D]
      split_ifs with h
      · rw [← h, zero_add, Nat.sub_add_cancel hn, leadingCoeff]
      · exact coeff_eq_zero_of_natDegree_lt (by omega)
    · -- `D m F = X · D (m+1) F + F_m` lowers both indices; `λ(θ^i) = 0` as `i < n - 1`
      have h1 : AdjoinRoot.root F ^ (i + 1) * AdjoinRoot.mk F (D (m + 1) F)
          = AdjoinRoot.root F ^ i * AdjoinRoot.mk F (D m F) - F.coeff m • AdjoinRoot.root F ^ i := by
        rw [D_eq m F, RingHom.map_add, RingHom.map_mul, AdjoinRoot.mk_X, AdjoinRoot.mk_C, Algebra.smul_def,
          AdjoinRoot.algebraMap_eq]
        ring
      rw [h1, LinearMap.map_sub, LinearMap.map_smul, ih i (by omega), lam_root_pow F hF hn i (by omega),
        if_neg (show i ≠ F.natDegree - 1 by omega), smul_zero, sub_zero]
      exact if_congr (add_left_inj 1).symm rfl rfl

/-- Claim B: coordinates via the dual family: `lc(F) · y_i = λ(y · b_i)`. -/
theorem lam_mul_D (y : AdjoinRoot F) (i : Fin F.natDegree) :
    lam F hF hn (y * AdjoinRoot.mk F (D (i + 1) F)) = F.leadingCoeff * (bas F hF).repr y i := by
  have h : (lam F hF hn) ∘ₗ (LinearMap.mulRight k (AdjoinRoot.mk F (D (i + 1) F)))
      = F.leadingCoeff • (bas F hF).coord i := by
    refine (bas F hF).ext fun l => ?_
    simp only [LinearMap.comp_apply, LinearMap.mulRight_apply, LinearMap.smul_apply,
      Module.Basis.coord_apply, Module.Basis.repr_self, smul_eq_mul]
    rw [bas_apply, lam_pow_mul_D F hF hn l l.2, Finsupp.single_apply, mul_ite, mul_one, mul_zero]
    exact if_congr ((add_left_inj 1).trans Fin.val_inj) rfl rfl
  exact LinearMap.congr_fun h y

/-- Claim C: `lc(F) · Tr(x) = λ(x · F'(θ))`. -/
theorem lc_mul_trace (x : AdjoinRoot F) :
    F.leadingCoeff * Algebra.trace k (AdjoinRoot F) x
      = lam F hF hn (x * AdjoinRoot.mk F (derivative F)) := by
  rw [Algebra.trace_eq_matrix_trace (bas F hF), Matrix.trace, Finset.mul_sum,
    ← sum_pow_mul_map_D _ _ F le_rfl, Finset.mul_sum, Finset.sum_range]
  -- through the additive hom, for which `map_sum` needs no search for the class
  refine Eq.trans (Finset.sum_congr rfl fun i _ => ?_) (map_sum (lam F hF hn).toAddMonoidHom _ _).symm
  rw [Matrix.diag_apply, Algebra.leftMulMatrix_eq_repr_mul, ← lam_mul_D F hF hn, bas_apply, AdjoinRoot.mk_X,
    mul_assoc]
  rfl

/-- the Hankel matrix `Λ_{i m} = λ(θ^{i+m})` -/
noncomputable def Lam : Matrix (Fin F.natDegree) (Fin F.natDegree) k :=
  Matrix.of fun i m => lam F hF hn (bas F hF i * bas F hF m)

/-- `lc(F) • G = Λ * M`, `G` the Gram matrix of the trace form, `M` the matrix of multiplication by `F'(θ)`. -/
theorem lc_smul_traceMatrix :
    F.leadingCoeff • Algebra.traceMatrix k (bas F hF)
      = Lam F hF hn * Algebra.leftMulMatrix (bas F hF) (AdjoinRoot.mk F (derivative F)) := by
  ext i j
  rw [Matrix.smul_apply, Algebra.traceMatrix_apply, Algebra.traceForm_apply, smul_eq_mul,
    lc_mul_trace F hF hn, Matrix.mul_apply, mul_assoc, mul_comm (bas F hF j),
    ← (bas F hF).sum_repr (AdjoinRoot.mk F (derivative F) * bas F hF j), Finset.mul_sum, map_sum]
  refine Finset.sum_congr rfl fun m _ => ?_
  rw [mul_smul_comm, LinearMap.map_smul, smul_eq_mul, mul_comm, Algebra.leftMulMatrix_eq_repr_mul]
  rfl

theorem Lam_submatrix_apply (i j : Fin F.natDegree) (h : i ≤ j) :
    (Lam F hF hn).submatrix id Fin.revPerm i j = if i = j then 1 else 0 := by
  rw [Fin.le_def] at h
  simp only [Matrix.submatrix_apply, id, Fin.revPerm_apply, Lam, Matrix.of_apply, bas_apply, ← pow_add, Fin.val_rev]
  rw [lam_root_pow F hF hn _ (by omega)]
  exact if_congr (by rw [Fin.ext_iff]; omega) rfl rfl

theorem neg_one_pow_mul_det_Lam :
    (-1) ^ (F.natDegree * (F.natDegree - 1) / 2) * (Lam F hF hn).det = 1 := by
  -- reversing the columns of `Λ` gives a lower triangular matrix with ones on the diagonal
  have h : ((Lam F hF hn).submatrix id Fin.revPerm).det = 1 :=
    (Matrix.det_of_isLowerTriangular _ fun i j (hij : i < j) =>
      (Lam_submatrix_apply F hF hn i j hij.le).trans (if_neg hij.ne)).trans
    (Finset.prod_eq_one fun i _ => (Lam_submatrix_apply F hF hn i i le_rfl).trans (if_pos rfl))
  rw [Matrix.det_permute', sign_revPerm] at h
  exact_mod_cast h

theorem det_Lam : (Lam F hF hn).det = 1 ∨ (Lam F hF hn).det = -1 := by
  have h := neg_one_pow_mul_det_Lam F hF hn
  rcases neg_one_pow_eq_or k (F.natDegree * (F.natDegree - 1) / 2) with e | e
  · rw [e, one_mul] at h
    exact Or.inl h
  · rw [e, neg_one_mul, neg_eq_iff_eq_neg] at h
    exact Or.inr h

include hF in
/-- `deg F'` may be smaller than `n - 1` (positive characteristic); padding the resultant to size `n - 1`
makes up for it by the same power of `lc(F)`. -/
theorem norm_deriv_mul_pow :
    Algebra.norm k (AdjoinRoot.mk F (derivative F)) * F.leadingCoeff ^ (F.natDegree - 1)
      = resultant F (derivative F) F.natDegree (F.natDegree - 1) := by
  obtain ⟨c, hc⟩ := Nat.exists_eq_add_of_le (natDegree_derivative_le F)
  rw [hc, resultant_add_right_deg _ _ _ _ c le_rfl, ← NTV.NormRes.norm_mk_mul_pow F _ hF,
    coeff_natDegree, pow_add, ← mul_assoc, mul_comm]

end Adj

/-- **Discriminant of the power basis of `k[X]/(F)` w.r.t. the trace form** (exact sign): for any non-zero `F`
of degree `n ≥ 1` over a field (any characteristic; `F` need not be irreducible, separable or monic)
`discr(1, θ, …, θ^(n-1)) · lc(F)^(2n-2) = discr F`  (`Polynomial.discr`, Mathlib's sign convention). -/
theorem discr_powerBasis_adjoinRoot_eq {k : Type*} [Field k] (F : k[X]) (hF : F ≠ 0) (hn : 1 ≤ F.natDegree) :
    Algebra.discr k (AdjoinRoot.powerBasis hF).basis * F.leadingCoeff ^ (2 * F.natDegree - 2) = F.discr := by
  change Algebra.discr k (bas F hF) * _ = _
  -- `lc^n · discr = det Λ · N(F'(θ))`, `N(F'(θ)) · lc^(n-1) = ± lc · discr F`, and `± det Λ = 1`
  have h1 := congrArg Matrix.det (lc_smul_traceMatrix F hF hn)
  have e : F.leadingCoeff ^ F.natDegree = F.leadingCoeff ^ (F.natDegree - 1) * F.leadingCoeff := by
    rw [← pow_succ, Nat.sub_add_cancel hn]
  rw [Matrix.det_smul, Matrix.det_mul, Fintype.card_fin, ← Algebra.norm_eq_matrix_det, e] at h1
  have h2 := norm_deriv_mul_pow F hF
  rw [resultant_deriv (natDegree_pos_iff_degree_pos.mp hn)] at h2
  have hl := leadingCoeff_ne_zero.mpr hF
  rw [← Nat.mul_sub_one, pow_mul', sq, Algebra.discr_def]
  refine mul_left_cancel₀ (mul_ne_zero (pow_ne_zero (F.natDegree - 1) hl) hl) ?_
  generalize F.leadingCoeff ^ (F.natDegree - 1) = a at h1 h2 ⊢
  linear_combination (a * a) * h1 + (a * (Lam F hF hn).det) * h2
    + (a * F.leadingCoeff * F.discr) * neg_one_pow_mul_det_Lam F hF hn

/-- Sanity check on `2X²+1` over `ℚ`: `Tr`-Gram matrix of `(1, θ)` is `diag(2, -1)`, `lc² = 4`, and
`discr (2X²+1) = 0² - 4·1·2 = -8 = (-2)·4`. -/
example :
    Algebra.discr ℚ (AdjoinRoot.powerBasis (show (C 2 * X ^ 2 + 1 : ℚ[X]) ≠ 0 from
        fun h => by simpa using congrArg (fun p => p.coeff 0) h)).basis = -2 := by
  generalize_proofs hF0
  have hd : (C 2 * X ^ 2 + 1 : ℚ[X]).natDegree = 2 := by compute_degree!
  have h := discr_powerBasis_adjoinRoot_eq _ hF0 (hd.ge.trans' one_le_two)
  rw [discr_of_degree_eq_two ((degree_eq_iff_natDegree_eq hF0).mpr hd), leadingCoeff, hd] at h
  generalize Algebra.discr ℚ (AdjoinRoot.powerBasis hF0).basis = d at h ⊢
  simp only [coeff_add, coeff_C_mul, coeff_X_pow, coeff_one] at h
  norm_num at h
  linear_combination h / 4

end NTV.DiscrTrace
