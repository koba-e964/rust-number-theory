import NTV.Model.Draw
import Mathlib.Data.Finset.Card
import Mathlib.Tactic.Ring
import Mathlib.Tactic.Positivity
/-! The byte decoder `NTV.Draw.decode` (`gen_biguint(bits)`) is *uniform*: well-formed chunks
(4·len bytes) are in bijection with the numbers N < 2^(32·len) (little-endian value), the decoded
value is an explicit function `decodeNum bits N` of N, and every v < 2^bits has exactly
2^(32·len − bits) preimages N; likewise every r in [lo, hi) is what `range lo hi` returns on the same
number of single chunks. Only counting statements about one chunk: the retry of `below` after a rejected
chunk is not stated, and there is no probability theory. -/
namespace NTV.Draw

/-- number of u32 digits `gen_biguint(bits)` asks for -/
def lenOf (bits : Nat) : Nat := bits / 32 + (if bits % 32 > 0 then 1 else 0)

/-- the 4·len little-endian bytes of N -/
def bytesOf : Nat → Nat → List Nat
  | 0, _ => []
  | len + 1, N =>
    (N % 256) :: (N / 256 % 256) :: (N / 65536 % 256) :: (N / 16777216 % 256) ::
      bytesOf len (N / 4294967296)

/-- the len little-endian base-2^32 digits of N -/
def digitsOf : Nat → Nat → List Nat
  | 0, _ => []
  | len + 1, N => (N % 4294967296) :: digitsOf len (N / 4294967296)

theorem pow32_succ (L : Nat) : 2 ^ (32 * (L + 1)) = 4294967296 * 2 ^ (32 * L) := by
  rw [Nat.mul_succ, pow_add]; norm_num [mul_comm]

theorem digit_of_bytes (N : Nat) :
    N % 256 + 256 * (N / 256 % 256) + 65536 * (N / 65536 % 256) + 16777216 * (N / 16777216 % 256) =
      N % 4294967296 := by
  have e : (4294967296 : Nat) = 256 * (256 * (256 * 256)) := by norm_num
  rw [e, Nat.mod_mul, Nat.mod_mul, Nat.mod_mul, Nat.div_div_eq_div_mul, Nat.div_div_eq_div_mul]
  ring

theorem byte_mod (b q : Nat) (hb : b < 256) : (b + 256 * q) % 256 = b := by
  rw [Nat.add_mul_mod_self_left, Nat.mod_eq_of_lt hb]

theorem byte_div (b q : Nat) (hb : b < 256) : (b + 256 * q) / 256 = q := by
  rw [Nat.add_mul_div_left _ _ (by norm_num), Nat.div_eq_of_lt hb, zero_add]

theorem bytes_of_digit (b0 b1 b2 b3 V N : Nat) (h0 : b0 < 256) (h1 : b1 < 256) (h2 : b2 < 256)
    (h3 : b3 < 256) (hN : N = b0 + 256 * b1 + 65536 * b2 + 16777216 * b3 + 4294967296 * V) :
    N % 256 = b0 ∧ N / 256 % 256 = b1 ∧ N / 65536 % 256 = b2 ∧ N / 16777216 % 256 = b3 ∧
      N / 4294967296 = V := by
  -- Horner form, then one byte at a time
  have e : N = b0 + 256 * (b1 + 256 * (b2 + 256 * (b3 + 256 * V))) := by rw [hN]; ring
  have e2 : (65536 : Nat) = 256 * 256 := by norm_num
  have e3 : (16777216 : Nat) = 256 * 256 * 256 := by norm_num
  have e4 : (4294967296 : Nat) = 256 * 256 * 256 * 256 := by norm_num
  rw [e2, e3, e4]
  simp only [← Nat.div_div_eq_div_mul, e, byte_mod, byte_div, h0, h1, h2, h3, and_self]

theorem bytesOf_length (len N : Nat) : (bytesOf len N).length = 4 * len := by
  induction len generalizing N with
  | zero => rfl
  | succ len ih => simp only [bytesOf, List.length_cons, ih]; omega

theorem bytesOf_lt (len N : Nat) : ∀ b ∈ bytesOf len N, b < 256 := by
  induction len generalizing N with
  | zero => exact fun _ h => absurd h List.not_mem_nil
  | succ len ih =>
    have h (M : Nat) : M % 256 < 256 := Nat.mod_lt _ (by norm_num)
    simp only [bytesOf, List.forall_mem_cons]
    exact ⟨h _, h _, h _, h _, ih _⟩

theorem toU32s_bytesOf (len N : Nat) : toU32s (bytesOf len N) = digitsOf len N := by
  induction len generalizing N with
  | zero => rfl
  | succ len ih => simp only [bytesOf, toU32s, digitsOf, ih, digit_of_bytes]

theorem fromDigits_digitsOf (len N : Nat) : fromDigits (digitsOf len N) = N % 2 ^ (32 * len) := by
  induction len generalizing N with
  | zero => exact (Nat.mod_one N).symm
  | succ len ih => simp only [digitsOf, fromDigits, ih, pow32_succ, Nat.mod_mul]

theorem digitsOf_lt (len N : Nat) : ∀ d ∈ digitsOf len N, d < 4294967296 := by
  induction len generalizing N with
  | zero => exact fun _ h => absurd h List.not_mem_nil
  | succ len ih =>
    simp only [digitsOf, List.forall_mem_cons]
    exact ⟨Nat.mod_lt _ (by norm_num), ih _⟩

def valueOf (c : List Nat) : Nat := fromDigits (toU32s c)

theorem valueOf_bytesOf (len N : Nat) (hN : N < 2 ^ (32 * len)) : valueOf (bytesOf len N) = N := by
  unfold valueOf
  rw [toU32s_bytesOf, fromDigits_digitsOf, Nat.mod_eq_of_lt hN]

theorem bytesOf_valueOf (len : Nat) (c : List Nat) (hl : c.length = 4 * len)
    (hb : ∀ b ∈ c, b < 256) : bytesOf len (valueOf c) = c ∧ valueOf c < 2 ^ (32 * len) := by
  induction len generalizing c with
  | zero =>
    obtain rfl : c = [] := List.length_eq_zero_iff.mp hl
    exact ⟨rfl, Nat.one_pos⟩
  | succ len ih =>
    match c, hl with
    | b0 :: b1 :: b2 :: b3 :: rest, hl =>
      simp only [List.forall_mem_cons] at hb
      obtain ⟨h0, h1, h2, h3, hr⟩ := hb
      have hl' : rest.length + 4 = 4 * len + 4 := hl
      obtain ⟨i1, i2⟩ := ih rest (Nat.add_right_cancel hl') hr
      obtain ⟨a0, a1, a2, a3, q⟩ := bytes_of_digit b0 b1 b2 b3 (valueOf rest)
        (valueOf (b0 :: b1 :: b2 :: b3 :: rest)) h0 h1 h2 h3 rfl
      constructor
      · simp only [bytesOf, a0, a1, a2, a3, q, i1]
      · rw [pow32_succ, mul_comm, ← Nat.div_lt_iff_lt_mul (by norm_num), q]
        exact i2

theorem fixLast_cons_cons (rem d e : Nat) (es : List Nat) :
    fixLast rem (d :: e :: es) = d :: fixLast rem (e :: es) :=
  rfl

theorem fromDigits_fixLast_digitsOf (rem L N : Nat) :
    fromDigits (fixLast rem (digitsOf (L + 1) N)) =
      N % 2 ^ (32 * L) + 2 ^ (32 * L) * (N / 2 ^ (32 * L) % 4294967296 / 2 ^ (32 - rem)) := by
  induction L generalizing N with
  | zero => simp [digitsOf, fixLast, fromDigits, Nat.mod_one]
  | succ L ih =>
    have hd : digitsOf (L + 1 + 1) N = (N % 4294967296) :: digitsOf (L + 1) (N / 4294967296) := rfl
    have hd' : digitsOf (L + 1) (N / 4294967296) =
        (N / 4294967296 % 4294967296) :: digitsOf L (N / 4294967296 / 4294967296) := rfl
    rw [hd, hd', fixLast_cons_cons, ← hd']
    simp only [fromDigits]
    rw [ih, pow32_succ, Nat.mod_mul, Nat.div_div_eq_div_mul, Nat.mul_add, ← Nat.mul_assoc, Nat.add_assoc]

/-- the decoded value as a function of the raw little-endian value N of the chunk:
all of N below bit K = 32·(bits/32), and the top u32 digit shifted right by s = 32·len − bits -/
def decodeNum (bits N : Nat) : Nat :=
  N % 2 ^ (32 * (bits / 32)) +
    2 ^ (32 * (bits / 32)) * (N / 2 ^ (32 * (bits / 32)) / 2 ^ (32 * lenOf bits - bits))

theorem decode_bytesOf (bits N : Nat) (hN : N < 2 ^ (32 * lenOf bits)) :
    decode bits (bytesOf (lenOf bits) N) = some (decodeNum bits N) := by
  have hlen : (bytesOf (lenOf bits) N).length =
      4 * (bits / 32 + if bits % 32 > 0 then 1 else 0) := bytesOf_length _ _
  simp only [decode, hlen, ne_eq, not_true_eq_false, ↓reduceIte, toU32s_bytesOf, decodeNum,
    Option.some.injEq]
  by_cases hrem : bits % 32 > 0
  · have hl : lenOf bits = bits / 32 + 1 := by rw [lenOf, if_pos hrem]
    rw [hl] at hN ⊢
    have hq : N / 2 ^ (32 * (bits / 32)) < 4294967296 := by
      rw [Nat.div_lt_iff_lt_mul (by positivity), ← pow32_succ]; exact hN
    have hs : 32 * (bits / 32 + 1) - bits = 32 - bits % 32 := by
      have h := Nat.add_sub_add_left (32 * (bits / 32)) 32 (bits % 32)
      rwa [Nat.div_add_mod, ← Nat.mul_add_one] at h
    rw [if_pos hrem, fromDigits_fixLast_digitsOf, Nat.mod_eq_of_lt hq, hs]
  · have hl : lenOf bits = bits / 32 := by rw [lenOf, if_neg hrem, add_zero]
    rw [hl] at hN ⊢
    rw [if_neg hrem, fromDigits_digitsOf, Nat.mod_eq_of_lt hN, Nat.div_eq_of_lt hN, Nat.zero_div,
      mul_zero, add_zero]

theorem fibre_iff (A B R N v : Nat) (hA : 0 < A) (hB : 0 < B) (hv : v < A * R) :
    (N < A * (B * R) ∧ N % A + A * (N / A / B) = v) ↔
      ∃ j, j < B ∧ v % A + A * (v / A * B + j) = N := by
  constructor
  · rintro ⟨_, rfl⟩
    refine ⟨N / A % B, Nat.mod_lt _ hB, ?_⟩
    rw [Nat.add_mul_mod_self_left, Nat.mod_mod, Nat.add_mul_div_left _ _ hA,
      Nat.div_eq_of_lt (Nat.mod_lt _ hA), zero_add, Nat.div_add_mod', Nat.mod_add_div]
  · rintro ⟨j, hj, rfl⟩
    have d1 : (v % A + A * (v / A * B + j)) / A = v / A * B + j := by
      rw [Nat.add_mul_div_left _ _ hA, Nat.div_eq_of_lt (Nat.mod_lt _ hA), zero_add]
    have d2 : (v / A * B + j) / B = v / A := by
      rw [add_comm, Nat.add_mul_div_right _ _ hB, Nat.div_eq_of_lt hj, zero_add]
    constructor
    · rw [mul_comm A (B * R), ← Nat.div_lt_iff_lt_mul hA, mul_comm B R, ← Nat.div_lt_iff_lt_mul hB,
        d1, d2, Nat.div_lt_iff_lt_mul hA, mul_comm]
      exact hv
    · rw [d1, d2, Nat.add_mul_mod_self_left, Nat.mod_mod, Nat.mod_add_div]

/-- the map N ↦ N % A + A·(N / A / B) on [0, A·B·R) takes each value v < A·R exactly B times -/
theorem fibre_card (A B R v : Nat) (hA : 0 < A) (hB : 0 < B) (hv : v < A * R) :
    ((Finset.range (A * (B * R))).filter (fun N => N % A + A * (N / A / B) = v)).card = B := by
  have hset : (Finset.range (A * (B * R))).filter (fun N => N % A + A * (N / A / B) = v) =
      (Finset.range B).image (fun j => v % A + A * (v / A * B + j)) := by
    ext N
    simp only [Finset.mem_filter, Finset.mem_range, Finset.mem_image]
    exact fibre_iff A B R N v hA hB hv
  rw [hset, Finset.card_image_of_injective, Finset.card_range]
  intro j j' h
  exact Nat.add_left_cancel (Nat.eq_of_mul_eq_mul_left hA (Nat.add_left_cancel h))

theorem le_lenOf (bits : Nat) : bits ≤ 32 * lenOf bits := by
  unfold lenOf
  split
  · exact (Nat.lt_mul_div_succ bits (by norm_num)).le
  · rename_i h
    rw [add_zero, Nat.mul_div_cancel' (Nat.dvd_of_mod_eq_zero (Nat.eq_zero_of_not_pos h))]

theorem pow_split (bits : Nat) :
    2 ^ bits = 2 ^ (32 * (bits / 32)) * 2 ^ (bits % 32) ∧
    2 ^ (32 * lenOf bits) =
      2 ^ (32 * (bits / 32)) * (2 ^ (32 * lenOf bits - bits) * 2 ^ (bits % 32)) := by
  rw [← pow_add, ← pow_add, ← pow_add, add_comm (32 * lenOf bits - bits), ← add_assoc,
    Nat.div_add_mod, Nat.add_sub_cancel' (le_lenOf bits)]
  exact ⟨rfl, rfl⟩

theorem decodeNum_fibre_card (bits v : Nat) (hv : v < 2 ^ bits) :
    ((Finset.range (2 ^ (32 * lenOf bits))).filter (fun N => decodeNum bits N = v)).card =
      2 ^ (32 * lenOf bits - bits) := by
  -- `decodeNum bits` is the mixed-radix map of `fibre_card` with A = 2^(32·(bits/32)),
  -- B = 2^(32·len − bits), R = 2^(bits % 32)
  obtain ⟨e1, e2⟩ := pow_split bits
  rw [e1] at hv
  rw [e2]
  exact fibre_card _ _ _ v (by positivity) (by positivity) hv

/-- the well-formed chunks of len u32 digits: all byte strings of length 4·len -/
def chunks (len : Nat) : Finset (List Nat) := (Finset.range (2 ^ (32 * len))).image (bytesOf len)

theorem bytesOf_injOn (len : Nat) :
    Set.InjOn (bytesOf len) (Finset.range (2 ^ (32 * len)) : Set Nat) := by
  intro N hN N' hN' h
  simp only [Finset.coe_range, Set.mem_Iio] at hN hN'
  rw [← valueOf_bytesOf len N hN, ← valueOf_bytesOf len N' hN', h]

theorem card_chunks (len : Nat) : (chunks len).card = 2 ^ (32 * len) := by
  unfold chunks
  rw [Finset.card_image_of_injOn (bytesOf_injOn len), Finset.card_range]

/-- **uniformity of `gen_biguint(bits)`**: each value v < 2^bits is decoded from exactly
2^(32·len − bits) of the 2^(32·len) well-formed chunks -/
theorem decode_fibre_card (bits v : Nat) (hv : v < 2 ^ bits) :
    ((chunks (lenOf bits)).filter (fun c => decode bits c = some v)).card =
      2 ^ (32 * lenOf bits - bits) := by
  rw [chunks, Finset.filter_image, Finset.card_image_of_injOn
    ((bytesOf_injOn _).mono (Finset.coe_subset.mpr (Finset.filter_subset _ _))),
    ← decodeNum_fibre_card bits v hv]
  refine congrArg Finset.card (Finset.filter_congr fun N hN => ?_)
  rw [decode_bytesOf bits N (Finset.mem_range.mp hN), Option.some.injEq]

theorem lt_two_pow_bitLen (bound : Nat) : bound < 2 ^ bitLen bound := by
  unfold bitLen
  split
  · subst_vars; exact Nat.one_pos
  · exact Nat.lt_log2_self

/-- **uniformity of `gen_bigint_range(lo, hi)`** on one chunk: each r in [lo, hi) is produced from
exactly 2^(32·len − bits) well-formed chunks (the same number for every r). The stream here is the
single chunk; what happens after a rejected chunk is not stated. -/
theorem range_fibre_card (lo hi r : Int) (hr : lo ≤ r ∧ r < hi) :
    ((chunks (lenOf (bitLen (hi - lo).toNat))).filter
        (fun c => range lo hi [c] = some (r, []))).card =
      2 ^ (32 * lenOf (bitLen (hi - lo).toNat) - bitLen (hi - lo).toNat) := by
  have hw : ((r - lo).toNat : Int) = r - lo := Int.toNat_of_nonneg (sub_nonneg.mpr hr.1)
  have hv : (r - lo).toNat < (hi - lo).toNat :=
    (Int.toNat_lt_toNat (sub_pos.mpr (hr.1.trans_lt hr.2))).mpr (sub_lt_sub_right hr.2 lo)
  refine Eq.trans (congrArg Finset.card (Finset.filter_congr fun c _ => ?_))
    (decode_fibre_card _ (r - lo).toNat (hv.trans (lt_two_pow_bitLen _)))
  generalize (r - lo).toNat = w at hw hv
  unfold range below
  cases hd : decode (bitLen (hi - lo).toNat) c with
  | none => simp
  | some v =>
    simp only [below]
    by_cases hvb : v < (hi - lo).toNat
    · simp only [hvb, ↓reduceIte, Option.some.injEq, Prod.mk.injEq, and_true]
      exact ⟨fun h => Int.ofNat_inj.mp (by rw [hw, ← h, add_sub_cancel_left]),
        fun h => by rw [h, hw, add_sub_cancel]⟩
    · simp only [hvb, ↓reduceIte, reduceCtorEq, false_iff, Option.some.injEq]
      exact fun h => hvb (h ▸ hv)

end NTV.Draw
