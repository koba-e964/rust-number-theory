import NTV.Proofs.Lemmas.EcmDriverRun
import Mathlib.Algebra.Order.GroupWithZero.Basic
import Mathlib.Algebra.Order.Ring.Int
import Mathlib.Tactic.Ring
import Mathlib.Tactic.Linarith
/-! Invariants of the work-stack driver, for both build profiles.
* `InvA` (no hypothesis on the profile): the keys of the map are pairwise distinct, the current stream
  is a suffix of the initial one, every key was accepted by `is_prime` on a segment of the initial stream.
* `InvB` (dev profile, or release with `x < 2^(2^64)` so that no u64 multiplicity can wrap):
  `∏ stack^mult · ∏ map = x`, all multiplicities ≥ 1, keys ≥ 2.
* `sortPairs` of a list with distinct keys is strictly increasing in the keys.
* `factorizeWith_ok`: what both invariants give for a returned result, for any splitting routine with
  `GoodSplit`; `driver_ok`: the sequential and the batched driver are two such routines. -/
namespace NTV.Ecm
open NTV.Draw (Stream)

/-! ## `result.sort()` -/

theorem insertSorted_perm (v : Int × Nat) (l : List (Int × Nat)) : (insertSorted v l).Perm (v :: l) := by
  induction l with
  | nil => simp [insertSorted]
  | cons u us ih =>
    unfold insertSorted
    split
    · exact List.Perm.refl _
    · exact (List.Perm.cons u ih).trans (List.Perm.swap v u us)

theorem sortPairs_perm (l : List (Int × Nat)) : (sortPairs l).Perm l := by
  unfold sortPairs
  induction l with
  | nil => exact List.Perm.refl _
  | cons a l ih =>
    simp only [List.foldr_cons]
    exact (insertSorted_perm a _).trans (List.Perm.cons a ih)

theorem pairLe_of_fst_ne {u v : Int × Nat} (h : u.1 ≠ v.1) : pairLe v u = true ↔ v.1 < u.1 := by
  unfold pairLe
  simp only [Bool.or_eq_true, decide_eq_true_eq, Bool.and_eq_true, beq_iff_eq]
  exact ⟨fun h' => h'.elim id fun e => absurd e.1.symm h, Or.inl⟩

theorem insertSorted_pairwise (v : Int × Nat) (l : List (Int × Nat))
    (hl : l.Pairwise (fun a b => a.1 < b.1)) (hne : ∀ u ∈ l, u.1 ≠ v.1) :
    (insertSorted v l).Pairwise (fun a b => a.1 < b.1) := by
  induction l with
  | nil => simp [insertSorted]
  | cons u us ih =>
    rw [List.pairwise_cons] at hl
    have hu : u.1 ≠ v.1 := hne u (by simp)
    unfold insertSorted
    split
    · rename_i hle
      have hlt : v.1 < u.1 := (pairLe_of_fst_ne hu).mp hle
      rw [List.pairwise_cons]
      refine ⟨?_, List.pairwise_cons.mpr hl⟩
      intro w hw
      rcases List.mem_cons.mp hw with h | h
      · rw [h]; exact hlt
      · exact lt_trans hlt (hl.1 w h)
    · rename_i hle
      have hlt : u.1 < v.1 := lt_of_le_of_ne (not_lt.mp ((pairLe_of_fst_ne hu).not.mp hle)) hu
      rw [List.pairwise_cons]
      refine ⟨?_, ih hl.2 (fun w hw => hne w (List.mem_cons_of_mem _ hw))⟩
      intro w hw
      have := (insertSorted_perm v us).mem_iff.mp hw
      rcases List.mem_cons.mp this with h | h
      · rw [h]; exact hlt
      · exact hl.1 w h

theorem sortPairs_pairwise (l : List (Int × Nat)) (hnd : (l.map Prod.fst).Nodup) :
    (sortPairs l).Pairwise (fun a b => a.1 < b.1) := by
  induction l with
  | nil => simp [sortPairs]
  | cons a l ih =>
    rw [List.map_cons, List.nodup_cons] at hnd
    have : sortPairs (a :: l) = insertSorted a (sortPairs l) := rfl
    rw [this]
    refine insertSorted_pairwise a _ (ih hnd.2) ?_
    intro u hu heq
    have hul : u ∈ l := (sortPairs_perm l).mem_iff.mp hu
    exact hnd.1 (heq ▸ List.mem_map_of_mem hul)

/-! ## checked u64 arithmetic that does not wrap -/

theorem addU64_exact (prof : Profile) (a b c : Nat) (h : addU64 prof a b = .ok c)
    (hnw : prof = .dev ∨ a + b < two64) : c = a + b := by
  unfold addU64 at h
  split at h
  · injection h with h; exact h.symm
  · rename_i hge
    rcases hnw with hd | hlt
    · subst hd; cases h
    · exact absurd hlt hge

theorem mulU64_exact (prof : Profile) (a b c : Nat) (h : mulU64 prof a b = .ok c)
    (hnw : prof = .dev ∨ a * b < two64) : c = a * b := by
  unfold mulU64 at h
  split at h
  · injection h with h; exact h.symm
  · rename_i hge
    rcases hnw with hd | hlt
    · subst hd; cases h
    · exact absurd hlt hge

/-! ## `map.entry(now).or_insert(0) += multiplicity` -/

theorem except_map_ok {ε α β : Type} {f : α → β} {r : Except ε α} {b : β} (h : r.map f = .ok b) :
    ∃ a, r = .ok a ∧ f a = b := by
  cases r with
  | error e => cases h
  | ok a => exact ⟨a, rfl, by injection h⟩

theorem mapAdd_keys (prof : Profile) (m : List (Int × Nat)) (p : Int) (mult : Nat) (m' : List (Int × Nat))
    (h : mapAdd prof m p mult = .ok m') :
    (p ∈ m.map Prod.fst ∧ m'.map Prod.fst = m.map Prod.fst) ∨
    (p ∉ m.map Prod.fst ∧ m'.map Prod.fst = m.map Prod.fst ++ [p]) := by
  induction m generalizing m' with
  | nil =>
    obtain ⟨c, -, rfl⟩ := except_map_ok h
    exact Or.inr ⟨List.not_mem_nil, rfl⟩
  | cons qe rest ih =>
    obtain ⟨q, e⟩ := qe
    unfold mapAdd at h
    split at h
    · rename_i hq
      obtain ⟨c, -, rfl⟩ := except_map_ok h
      exact Or.inl ⟨by rw [beq_iff_eq.mp hq]; exact List.mem_cons_self, rfl⟩
    · rename_i hq
      have hq' : p ≠ q := fun e => hq (beq_iff_eq.mpr e.symm)
      obtain ⟨r, hrec, rfl⟩ := except_map_ok h
      rcases ih r hrec with ⟨h1, h2⟩ | ⟨h1, h2⟩
      · exact Or.inl ⟨List.mem_cons_of_mem _ h1, congrArg (q :: ·) h2⟩
      · exact Or.inr ⟨fun hh => (List.mem_cons.mp hh).elim hq' h1, congrArg (q :: ·) h2⟩

theorem mapAdd_forall_key {prof : Profile} {m m' : List (Int × Nat)} {p : Int} {mult : Nat}
    (h : mapAdd prof m p mult = .ok m') (P : Int → Prop) (hm : ∀ e ∈ m, P e.1) (hp : P p) :
    ∀ e ∈ m', P e.1 := by
  intro e he
  have hk : e.1 ∈ m'.map Prod.fst := List.mem_map_of_mem he
  have hkeys : e.1 ∈ m.map Prod.fst ∨ e.1 = p := by
    rcases mapAdd_keys _ _ _ _ _ h with ⟨_, h2⟩ | ⟨_, h2⟩
    · exact Or.inl (h2 ▸ hk)
    · rw [h2, List.mem_append, List.mem_singleton] at hk; exact hk
  rcases hkeys with hk | hk
  · obtain ⟨w, hw, hw1⟩ := List.mem_map.mp hk
    rw [← hw1]; exact hm w hw
  · rw [hk]; exact hp

theorem mapAdd_exact (prof : Profile) (m : List (Int × Nat)) (p : Int) (mult : Nat) (m' : List (Int × Nat))
    (h : mapAdd prof m p mult = .ok m')
    (hnw : prof = .dev ∨ (mult < two64 ∧ ∀ e, (p, e) ∈ m → e + mult < two64)) :
    prodPairs m' = prodPairs m * p ^ mult ∧
    (1 ≤ mult → (∀ e ∈ m, 1 ≤ e.2) → ∀ e ∈ m', 1 ≤ e.2) := by
  induction m generalizing m' with
  | nil =>
    obtain ⟨c, hadd, rfl⟩ := except_map_ok h
    have hc : c = 0 + mult := addU64_exact _ _ _ _ hadd (hnw.imp_right fun h => by rw [Nat.zero_add]; exact h.1)
    rw [Nat.zero_add] at hc
    subst hc
    exact ⟨by rw [prodPairs, prodPairs, prodPairs, mul_one, one_mul],
      fun hm _ => List.forall_mem_singleton.mpr hm⟩
  | cons qe rest ih =>
    obtain ⟨q, e⟩ := qe
    unfold mapAdd at h
    split at h
    · rename_i hq
      obtain rfl : q = p := beq_iff_eq.mp hq
      obtain ⟨c, hadd, rfl⟩ := except_map_ok h
      obtain rfl : c = e + mult :=
        addU64_exact _ _ _ _ hadd (hnw.imp_right fun h => h.2 e List.mem_cons_self)
      refine ⟨by rw [prodPairs, prodPairs, pow_add]; ring, fun hm hall => ?_⟩
      exact List.forall_mem_cons.mpr ⟨Nat.le_add_left_of_le hm, fun w hw => hall w (List.mem_cons_of_mem _ hw)⟩
    · obtain ⟨r, hrec, rfl⟩ := except_map_ok h
      obtain ⟨i1, i2⟩ := ih r hrec
        (hnw.imp_right fun h => ⟨h.1, fun e' he' => h.2 e' (List.mem_cons_of_mem _ he')⟩)
      refine ⟨by rw [prodPairs, prodPairs, i1]; ring, fun hm hall => ?_⟩
      exact List.forall_mem_cons.mpr ⟨hall _ List.mem_cons_self,
        i2 hm fun w hw => hall w (List.mem_cons_of_mem _ hw)⟩

theorem prodPairs_mem_dvd (l : List (Int × Nat)) (p : Int) (e : Nat) (h : (p, e) ∈ l) :
    p ^ e ∣ prodPairs l := by
  induction l with
  | nil => simp at h
  | cons a l ih =>
    simp only [prodPairs]
    rcases List.mem_cons.mp h with h1 | h1
    · subst h1; exact Dvd.intro _ rfl
    · exact Dvd.dvd.mul_left (ih h1) _

/-- the build profile cannot wrap a multiplicity: dev (overflow checks), or release with an input
below `2^(2^64)` (every multiplicity e satisfies `2^e ≤ p^e ≤ x`) -/
def NoWrap (prof : Profile) (x : Int) : Prop := prof = .dev ∨ x < 2 ^ two64

theorem exp_bound (a : Int) (n : Nat) (x : Int) (ha : 2 ≤ a) (hx : 0 < x) (hd : a ^ n ∣ x)
    (hlt : x < 2 ^ two64) : n < two64 := by
  have h1 : (2 : Int) ^ n ≤ a ^ n := pow_le_pow_left₀ (by decide) ha n
  have h2 : a ^ n ≤ x := Int.le_of_dvd hx hd
  have h3 : (2 : Int) ^ n < 2 ^ two64 := lt_of_le_of_lt (le_trans h1 h2) hlt
  exact (pow_lt_pow_iff_right₀ (by decide : (1 : Int) < 2)).mp h3

structure InvB (x : Int) (st : DState) : Prop where
  value : prodPairs st.stack * prodPairs st.map = x
  stackPos : ∀ e ∈ st.stack, 1 ≤ e.1
  multPos : ∀ e ∈ st.stack, 1 ≤ e.2
  mapGe : ∀ e ∈ st.map, 2 ≤ e.1
  mapExp : ∀ e ∈ st.map, 1 ≤ e.2

theorem InvB.pop {x : Int} {st : DState} (hinv : InvB x st) {now : Int} {mult : Nat}
    (h : st.stack.getLast? = some (now, mult)) :
    (∀ e ∈ st.stack.dropLast, 1 ≤ e.1) ∧ (∀ e ∈ st.stack.dropLast, 1 ≤ e.2) ∧ 1 ≤ now ∧ 1 ≤ mult ∧
      prodPairs st.stack.dropLast * now ^ mult * prodPairs st.map = x := by
  obtain ⟨hval, hpos, hmult, -, -⟩ := hinv
  obtain ⟨D, hD⟩ := List.getLast?_eq_some_iff.mp h
  rw [hD] at hval hpos hmult ⊢
  rw [List.forall_mem_append, List.forall_mem_singleton] at hpos hmult
  rw [prodPairs_append, prodPairs, prodPairs, mul_one] at hval
  rw [List.dropLast_concat]
  exact ⟨hpos.1, hmult.1, hpos.2, hmult.2, hval⟩

theorem InvB.push {x : Int} {D l m : List (Int × Nat)} {count : Nat} {stream : Stream}
    (hD1 : ∀ e ∈ D, 1 ≤ e.1) (hD2 : ∀ e ∈ D, 1 ≤ e.2) (hl1 : ∀ e ∈ l, 1 ≤ e.1) (hl2 : ∀ e ∈ l, 1 ≤ e.2)
    (hge : ∀ e ∈ m, 2 ≤ e.1) (hexp : ∀ e ∈ m, 1 ≤ e.2) (hv : prodPairs D * prodPairs l * prodPairs m = x) :
    InvB x { stack := D ++ l, map := m, count := count, stream := stream } :=
  ⟨by rw [prodPairs_append]; exact hv, List.forall_mem_append.mpr ⟨hD1, hl1⟩,
    List.forall_mem_append.mpr ⟨hD2, hl2⟩, hge, hexp⟩

theorem invB_step (ecmFn : Int → Nat → Nat → Stream → EcmRes) (prof : Profile) (bsel : Int → Option Nat) (x : Int)
    (hE : ∀ now b1 b2 s fac c s', 1 < now → ecmFn now b1 b2 s = .found fac c s' → fac ∣ now ∧ 0 < fac)
    (hx : 1 ≤ x) (hnw : NoWrap prof x) (st st' : DState) (hinv : InvB x st)
    (hs : Step ecmFn prof bsel st st') : InvB x st' := by
  have hge := hinv.mapGe
  have hexp := hinv.mapExp
  cases hs with
  | drop now mult h hle =>
    obtain ⟨hD1, hD2, hnow1, _, hv⟩ := hinv.pop h
    rw [le_antisymm hle hnow1, one_pow, mul_one] at hv
    exact ⟨hv, hD1, hD2, hge, hexp⟩
  | prime now mult s m h hgt hp hm =>
    obtain ⟨hD1, hD2, hnow1, hmult1, hv⟩ := hinv.pop h
    -- in release, `now ^ (e + mult)` divides `x < 2^(2^64)`, so the new multiplicity does not wrap
    have hbound : prof = .dev ∨ (mult < two64 ∧ ∀ e, (now, e) ∈ st.map → e + mult < two64) := by
      refine hnw.imp_right fun hlt => ⟨exp_bound now mult x hgt hx ⟨prodPairs st.stack.dropLast * prodPairs st.map, ?_⟩ hlt, ?_⟩
      · rw [← hv]; ring
      · intro e he
        obtain ⟨c, hc⟩ := prodPairs_mem_dvd _ _ _ he
        refine exp_bound now (e + mult) x hgt hx ⟨prodPairs st.stack.dropLast * c, ?_⟩ hlt
        rw [← hv, hc, pow_add]; ring
    obtain ⟨hprod, hexp'⟩ := mapAdd_exact _ _ _ _ _ hm hbound
    exact ⟨by rw [← hv]; show _ * prodPairs m = _; rw [hprod]; ring, hD1, hD2,
      mapAdd_forall_key hm (2 ≤ ·) hge hgt, hexp' hmult1 hexp⟩
  | power now mult s base k m h hgt hp hpp hk hm =>
    obtain ⟨hD1, hD2, hnow1, hmult1, hv⟩ := hinv.pop h
    obtain ⟨hpow, hbase⟩ := perfectPower_spec now hgt base k hpp
    have hbase2 : 2 ≤ base :=
      lt_of_le_of_ne hbase fun e => by rw [← e, one_pow] at hpow; exact ne_of_gt hgt hpow.symm
    have hpw : base ^ (mult * k) = now ^ mult := by
      rw [← hpow, ← pow_mul, Nat.mul_comm]
    have hm' : m = mult * k := mulU64_exact _ _ _ _ hm
      (hnw.imp_right (exp_bound base (mult * k) x hbase2 hx
        ⟨prodPairs st.stack.dropLast * prodPairs st.map, by rw [hpw, ← hv]; ring⟩))
    refine InvB.push hD1 hD2 (List.forall_mem_singleton.mpr hbase)
      (List.forall_mem_singleton.mpr ?_) hge hexp ?_
    · rw [hm']; exact Nat.mul_pos hmult1 (lt_of_lt_of_le Nat.zero_lt_two hk)
    · rw [prodPairs, prodPairs, mul_one, hm', hpw]; exact hv
  | retry now mult s base k b b2 fac nowcount s' count h hgt hp hpp hk hb hb2 hf hc h1 =>
    obtain ⟨hD1, hD2, hnow1, hmult1, hv⟩ := hinv.pop h
    refine InvB.push hD1 hD2 (List.forall_mem_singleton.mpr hnow1) (List.forall_mem_singleton.mpr hmult1)
      hge hexp ?_
    rw [prodPairs, prodPairs, mul_one]; exact hv
  | split now mult s base k b b2 fac nowcount s' count h hgt hp hpp hk hb hb2 hf hc h1 =>
    obtain ⟨hD1, hD2, hnow1, hmult1, hv⟩ := hinv.pop h
    obtain ⟨hdvd, hfacpos⟩ := hE _ _ _ _ _ _ _ hgt hf
    have hmul : fac * Int.tdiv now fac = now := Int.mul_tdiv_cancel' hdvd
    have hother : 1 ≤ Int.tdiv now fac :=
      (mul_pos_iff_of_pos_left hfacpos).mp (by rw [hmul]; exact lt_trans Int.zero_lt_one hgt)
    refine InvB.push hD1 hD2 (List.forall_mem_cons.mpr ⟨hfacpos, List.forall_mem_singleton.mpr hother⟩)
      (List.forall_mem_cons.mpr ⟨hmult1, List.forall_mem_singleton.mpr hmult1⟩) hge hexp ?_
    rw [prodPairs, prodPairs, prodPairs, mul_one, ← mul_pow, hmul]; exact hv

/-- p was accepted by the primality test reading a segment `s₁ … s₂` of the stream s0 -/
def Accepted (s0 : Stream) (p : Int) : Prop :=
  ∃ s₁ s₂ : Stream, s₁ <:+ s0 ∧ s₂ <:+ s₁ ∧ isPrimeS p s₁ = some (true, s₂)

structure InvA (s0 : Stream) (st : DState) : Prop where
  keys : (st.map.map Prod.fst).Nodup
  suffix : st.stream <:+ s0
  accepted : ∀ e ∈ st.map, Accepted s0 e.1

theorem invA_step (ecmFn : Int → Nat → Nat → Stream → EcmRes) (prof : Profile) (bsel : Int → Option Nat) (s0 : Stream)
    (hS : ∀ now b1 b2 s fac c s', ecmFn now b1 b2 s = .found fac c s' → s' <:+ s)
    (st st' : DState) (hinv : InvA s0 st) (hs : Step ecmFn prof bsel st st') : InvA s0 st' := by
  obtain ⟨hkeys, hsuf, hacc⟩ := hinv
  cases hs with
  | drop now mult h hle => exact ⟨hkeys, hsuf, hacc⟩
  | prime now mult s m h hgt hp hm =>
    have hs1 := isPrimeS_suffix _ _ _ _ hp
    refine ⟨?_, hs1.trans hsuf, ?_⟩
    · simp only
      rcases mapAdd_keys _ _ _ _ _ hm with ⟨_, h2⟩ | ⟨h1, h2⟩
      · rw [h2]; exact hkeys
      · rw [h2]
        rw [List.nodup_append]
        refine ⟨hkeys, by simp, ?_⟩
        intro a ha c hc hac
        simp only [List.mem_singleton] at hc
        subst hc
        exact h1 (hac ▸ ha)
    · exact mapAdd_forall_key hm (Accepted s0) hacc ⟨st.stream, s, hsuf, hs1, hp⟩
  | power now mult s base k m h hgt hp hpp hk hm =>
    exact ⟨hkeys, (isPrimeS_suffix _ _ _ _ hp).trans hsuf, hacc⟩
  | retry now mult s base k b b2 fac nowcount s' count h hgt hp hpp hk hb hb2 hf hc h1 =>
    exact ⟨hkeys, ((hS _ _ _ _ _ _ _ hf).trans (isPrimeS_suffix _ _ _ _ hp)).trans hsuf, hacc⟩
  | split now mult s base k b b2 fac nowcount s' count h hgt hp hpp hk hb hb2 hf hc h1 =>
    exact ⟨hkeys, ((hS _ _ _ _ _ _ _ hf).trans (isPrimeS_suffix _ _ _ _ hp)).trans hsuf, hacc⟩

/-- what the invariants need of the splitting routine (`ecm_found`, `ecmParallel_found`): a non-negative
divisor other than 1 and the number itself, and the unread rest of the stream -/
def GoodSplit (ecmFn : Int → Nat → Nat → Stream → EcmRes) : Prop :=
  ∀ now b1 b2 s fac c s', ecmFn now b1 b2 s = .found fac c s' → (Dv now fac ∧ fac ≠ 1 ∧ fac ≠ now) ∧ s' <:+ s

theorem factorizeWith_ok {ecmFn : Int → Nat → Nat → Stream → EcmRes} (hG : GoodSplit ecmFn)
    {x : Int} {bsel : Int → Option Nat} {stream : Stream} {fuel : Nat} {prof : Profile}
    {result : List (Int × Nat)} {count : Nat} {rest : Stream}
    (h : factorizeWith ecmFn x bsel stream fuel prof = .ok result count rest) :
    1 ≤ x ∧ result.Pairwise (fun a b => a.1 < b.1) ∧ rest <:+ stream ∧ (∀ pe ∈ result, Accepted stream pe.1) ∧
      (NoWrap prof x → prodPairs result = x ∧ ∀ pe ∈ result, 2 ≤ pe.1 ∧ 1 ≤ pe.2) := by
  unfold factorizeWith at h
  split at h
  · cases h
  · rename_i hx
    have hx1 : 1 ≤ x := by omega
    obtain ⟨fin, hr, hstack, rfl, _, rfl⟩ := driverLoop_ok_run _ _ _ _ _ _ _ _ h
    have hmem : ∀ pe ∈ sortPairs fin.map, pe ∈ fin.map := fun pe => (sortPairs_perm _).mem_iff.mp
    have hA : InvA stream fin :=
      run_invariant (InvA stream) (invA_step ecmFn prof bsel stream fun _ _ _ _ _ _ _ hf => (hG _ _ _ _ _ _ _ hf).2)
        (st := ⟨[(x, 1)], [], 0, stream⟩)
        ⟨List.nodup_nil, List.suffix_refl _, fun _ he => absurd he List.not_mem_nil⟩ hr
    refine ⟨hx1, sortPairs_pairwise _ hA.keys, hA.suffix, fun pe hpe => hA.accepted pe (hmem pe hpe), fun hnw => ?_⟩
    have hE : ∀ now b1 b2 s fac c s', 1 < now → ecmFn now b1 b2 s = .found fac c s' → fac ∣ now ∧ 0 < fac := by
      intro now b1 b2 s fac c s' hnow hf
      obtain ⟨⟨hd, h1, h2⟩, _⟩ := hG _ _ _ _ _ _ _ hf
      exact ⟨hd.1, lt_trans Int.zero_lt_one (proper_of now fac hnow hd h1 h2).1⟩
    have hB : InvB x fin :=
      run_invariant (InvB x) (invB_step ecmFn prof bsel x hE hx1 hnw) (st := ⟨[(x, 1)], [], 0, stream⟩)
        ⟨by rw [prodPairs, prodPairs, prodPairs, pow_one, mul_one, mul_one],
          List.forall_mem_singleton.mpr hx1, List.forall_mem_singleton.mpr (le_refl 1),
          fun _ he => absurd he List.not_mem_nil, fun _ he => absurd he List.not_mem_nil⟩ hr
    refine ⟨?_, fun pe hpe => ⟨hB.mapGe pe (hmem pe hpe), hB.mapExp pe (hmem pe hpe)⟩⟩
    rw [prodPairs_sortPairs, ← hB.value, hstack, prodPairs, one_mul]

theorem factorizeWith_one (ecmFn : Int → Nat → Nat → Stream → EcmRes) (bsel : Int → Option Nat) (stream : Stream)
    (fuel : Nat) (prof : Profile) :
    factorizeWith ecmFn 1 bsel stream (fuel + 1) prof = .ok [] 0 stream := by
  unfold factorizeWith
  rw [if_neg (by decide), driverLoop_step (.drop _ 1 1 rfl (le_refl 1)), driverLoop_nil _ _ _ _ _ rfl]
  rfl

/-- `x ≤ 0`: the documented `panic!("x <= 0")`, of kind `"other"` in the model -/
theorem factorizeWith_nonpos (ecmFn : Int → Nat → Nat → Stream → EcmRes) (x : Int) (hx : x ≤ 0) (bsel : Int → Option Nat)
    (stream : Stream) (fuel : Nat) (prof : Profile) :
    factorizeWith ecmFn x bsel stream fuel prof = .panic "other" := by
  unfold factorizeWith; simp [hx]

theorem goodSplit_seq (prof : Profile) :
    GoodSplit (fun now b1 b2 (s : Stream) => ecm now b1 b2 s (s.length + 1) prof) :=
  fun now b1 b2 s fac c s' hf => ecm_found now b1 b2 s _ prof fac c s' hf

theorem goodSplit_par (prof : Profile) :
    GoodSplit (fun now b1 b2 (s : Stream) => ecmParallel now b1 b2 s (s.length + 1) prof) :=
  fun now b1 b2 s fac c s' hf => ecmParallel_found now b1 b2 s _ prof fac c s' hf

theorem driver_ok {x : Int} {b : Nat} {btab : List (Int × Nat)} {stream : Stream} {fuel : Nat} {prof : Profile}
    {result : List (Int × Nat)} {count : Nat} {rest : Stream}
    (h : factorizeSeq x b stream fuel prof = .ok result count rest ∨
         factorizePar x b btab stream fuel prof = .ok result count rest) :
    ∃ ecmFn bsel, GoodSplit ecmFn ∧ factorizeWith ecmFn x bsel stream fuel prof = .ok result count rest :=
  h.elim (fun h => ⟨_, _, goodSplit_seq prof, h⟩) (fun h => ⟨_, _, goodSplit_par prof, h⟩)

end NTV.Ecm
