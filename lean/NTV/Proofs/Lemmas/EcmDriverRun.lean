import NTV.Proofs.Lemmas.EcmProofs
import Mathlib.Logic.Relation
/-! The work-stack driver `driverLoop` as a transition system.
`Step ecmFn prof bsel st st'` is one iteration of `while let Some(..) = stack.pop()` that does not leave
the loop; `driverLoop_ok_run`: a run that returns `.ok result count rest` is a finite chain of steps
from the start state to a state with an empty stack whose map, sorted, is the result.
Also: every stream-consuming routine returns a suffix of the stream it was given, and what the curve
loops `ecm / ecmParallel` return is a proper divisor. -/
namespace NTV.Ecm
open NTV.Draw (Stream)

/-- one iteration of the driver loop (the five `continue`/fall-through paths of the Rust) -/
inductive Step (ecmFn : Int → Nat → Nat → Stream → EcmRes) (prof : Profile) (bsel : Int → Option Nat) : DState → DState → Prop
  /-- `if now <= 1 { continue }` -/
  | drop (st : DState) (now : Int) (mult : Nat) (h : st.stack.getLast? = some (now, mult)) (hle : now ≤ 1) :
      Step ecmFn prof bsel st { st with stack := st.stack.dropLast }
  /-- `if is_prime(&now) { *map.entry(now).or_insert(0) += multiplicity; continue }` -/
  | prime (st : DState) (now : Int) (mult : Nat) (s : Stream) (m : List (Int × Nat))
      (h : st.stack.getLast? = some (now, mult)) (hgt : 1 < now)
      (hp : isPrimeS now st.stream = some (true, s)) (hm : mapAdd prof st.map now mult = .ok m) :
      Step ecmFn prof bsel st { st with stack := st.stack.dropLast, map := m, stream := s }
  /-- `if k >= 2 { stack.push((b, multiplicity * k)); continue }` -/
  | power (st : DState) (now : Int) (mult : Nat) (s : Stream) (base : Int) (k m : Nat)
      (h : st.stack.getLast? = some (now, mult)) (hgt : 1 < now)
      (hp : isPrimeS now st.stream = some (false, s))
      (hpp : NTV.Elem.perfectPower now = some (base, k)) (hk : k ≥ 2) (hm : mulU64 prof mult k = .ok m) :
      Step ecmFn prof bsel st { st with stack := st.stack.dropLast ++ [(base, m)], stream := s }
  /-- `if fac == 1 { stack.push((now, multiplicity)); continue }` -/
  | retry (st : DState) (now : Int) (mult : Nat) (s : Stream) (base : Int) (k b b2 : Nat)
      (fac : Int) (nowcount : Nat) (s' : Stream) (count : Nat)
      (h : st.stack.getLast? = some (now, mult)) (hgt : 1 < now)
      (hp : isPrimeS now st.stream = some (false, s))
      (hpp : NTV.Elem.perfectPower now = some (base, k)) (hk : ¬ k ≥ 2) (hb : bsel now = some b)
      (hb2 : mulU64 prof 100 b = .ok b2)
      (hf : ecmFn now b b2 s = .found fac nowcount s') (hc : addU64 prof st.count nowcount = .ok count)
      (h1 : fac = 1) :
      Step ecmFn prof bsel st { stack := st.stack.dropLast ++ [(now, mult)], map := st.map, count := count, stream := s' }
  /-- `stack.push((fac, multiplicity)); stack.push((now / fac, multiplicity))` -/
  | split (st : DState) (now : Int) (mult : Nat) (s : Stream) (base : Int) (k b b2 : Nat)
      (fac : Int) (nowcount : Nat) (s' : Stream) (count : Nat)
      (h : st.stack.getLast? = some (now, mult)) (hgt : 1 < now)
      (hp : isPrimeS now st.stream = some (false, s))
      (hpp : NTV.Elem.perfectPower now = some (base, k)) (hk : ¬ k ≥ 2) (hb : bsel now = some b)
      (hb2 : mulU64 prof 100 b = .ok b2)
      (hf : ecmFn now b b2 s = .found fac nowcount s') (hc : addU64 prof st.count nowcount = .ok count)
      (h1 : fac ≠ 1) :
      Step ecmFn prof bsel st
        { stack := st.stack.dropLast ++ [(fac, mult), (Int.tdiv now fac, mult)], map := st.map, count := count, stream := s' }

theorem driverLoop_ok_run (ecmFn : Int → Nat → Nat → Stream → EcmRes) (prof : Profile) (bsel : Int → Option Nat)
    (fuel : Nat) (st : DState) (result : List (Int × Nat)) (count : Nat) (rest : Stream)
    (h : driverLoop ecmFn prof bsel fuel st = .ok result count rest) :
    ∃ fin : DState, Relation.ReflTransGen (Step ecmFn prof bsel) st fin ∧ fin.stack = [] ∧
      result = sortPairs fin.map ∧ count = fin.count ∧ rest = fin.stream := by
  revert h
  -- the returning paths of the loop: two ends with an empty stack, five `Step`s; the ten others do not return `.ok`
  fun_induction driverLoop ecmFn prof bsel fuel st with
  | case1 st hemp =>
    intro h; injection h with h1 h2 h3
    exact ⟨st, .refl, List.isEmpty_iff.mp hemp, h1.symm, h2.symm, h3.symm⟩
  | case3 f st hnone =>
    intro h; injection h with h1 h2 h3
    exact ⟨st, .refl, List.getLast?_eq_none_iff.mp hnone, h1.symm, h2.symm, h3.symm⟩
  | case4 f st now mult hsome stack hle ih =>
    intro h; obtain ⟨fin, hr, hfin⟩ := ih h
    exact ⟨fin, .head (.drop st now mult hsome hle) hr, hfin⟩
  | case7 f st now mult hsome stack hgt s hp m hm ih =>
    intro h; obtain ⟨fin, hr, hfin⟩ := ih h
    exact ⟨fin, .head (.prime st now mult s m hsome (not_le.mp hgt) hp hm) hr, hfin⟩
  | case10 f st now mult hsome stack hgt s hp base k hpp hk m hm ih =>
    intro h; obtain ⟨fin, hr, hfin⟩ := ih h
    exact ⟨fin, .head (.power st now mult s base k m hsome (not_le.mp hgt) hp hpp hk hm) hr, hfin⟩
  | case16 f st now mult hsome stack hgt s hp base k hpp hk b hb b2 hb2 fac nowcount s' hf cnt hc h1 ih =>
    intro h; obtain ⟨fin, hr, hfin⟩ := ih h
    exact ⟨fin, .head (.retry st now mult s base k b b2 fac nowcount s' cnt hsome (not_le.mp hgt) hp hpp hk hb
      hb2 hf hc (beq_iff_eq.mp h1)) hr, hfin⟩
  | case17 f st now mult hsome stack hgt s hp base k hpp hk b hb b2 hb2 fac nowcount s' hf cnt hc h1 other ih =>
    intro h; obtain ⟨fin, hr, hfin⟩ := ih h
    exact ⟨fin, .head (.split st now mult s base k b b2 fac nowcount s' cnt hsome (not_le.mp hgt) hp hpp hk hb
      hb2 hf hc (fun e => h1 (beq_iff_eq.mpr e))) hr, hfin⟩
  | case2 | case5 | case6 | case8 | case9 | case11 | case12 | case13 | case14 | case15 => exact fun h => nomatch h

theorem run_invariant {ecmFn : Int → Nat → Nat → Stream → EcmRes} {prof : Profile} {bsel : Int → Option Nat}
    (P : DState → Prop) (hstep : ∀ st st', P st → Step ecmFn prof bsel st st' → P st')
    {st fin : DState} (h0 : P st) (hr : Relation.ReflTransGen (Step ecmFn prof bsel) st fin) : P fin := by
  induction hr with
  | refl => exact h0
  | tail _ hs ih => exact hstep _ _ ih hs

theorem driverLoop_step {ecmFn : Int → Nat → Nat → Stream → EcmRes} {prof : Profile} {bsel : Int → Option Nat}
    {st st' : DState} (hs : Step ecmFn prof bsel st st') (f : Nat) :
    driverLoop ecmFn prof bsel (f + 1) st = driverLoop ecmFn prof bsel f st' := by
  cases hs with
  | drop now mult h hle => rw [driverLoop, h]; exact if_pos hle
  | prime now mult s m h hgt hp hm =>
    rw [driverLoop, h]; simp only [hp, hm]; exact if_neg (not_le.mpr hgt)
  | power now mult s base k m h hgt hp hpp hk hm =>
    rw [driverLoop, h]; simp only [hp, hpp, hm]; rw [if_neg (not_le.mpr hgt), if_pos hk]
  | retry now mult s base k b b2 fac nowcount s' count h hgt hp hpp hk hb hb2 hf hc h1 =>
    rw [driverLoop, h]; simp only [hp, hpp, hb, hb2, hf, hc]
    rw [if_neg (not_le.mpr hgt), if_neg hk, if_pos (beq_iff_eq.mpr h1)]
  | split now mult s base k b b2 fac nowcount s' count h hgt hp hpp hk hb hb2 hf hc h1 =>
    rw [driverLoop, h]; simp only [hp, hpp, hb, hb2, hf, hc]
    rw [if_neg (not_le.mpr hgt), if_neg hk, if_neg (fun e => h1 (beq_iff_eq.mp e))]

theorem driverLoop_nil (ecmFn : Int → Nat → Nat → Stream → EcmRes) (prof : Profile) (bsel : Int → Option Nat)
    (f : Nat) (st : DState) (h : st.stack = []) :
    driverLoop ecmFn prof bsel f st = .ok (sortPairs st.map) st.count st.stream := by
  cases f with
  | zero => rw [driverLoop, h]; rfl
  | succ f => rw [driverLoop, h]; rfl

theorem suffix_of_eq {α : Type} {a b : α} {s t u : Stream} (h : s <:+ u) (e : some (a, s) = some (b, t)) :
    t <:+ u := by
  cases e; exact h

theorem below_suffix (bound : Nat) (s : Stream) (v : Nat) (rest : Stream)
    (h : NTV.Draw.below bound s = some (v, rest)) : rest <:+ s := by
  revert h
  fun_induction NTV.Draw.below bound s with
  | case3 => exact suffix_of_eq (List.suffix_cons _ _)
  | case4 c cs v' hd hlt ih => exact fun h => (ih h).trans (List.suffix_cons _ _)
  | case1 | case2 => exact fun h => nomatch h

theorem range_suffix (lo hi : Int) (s : Stream) (v : Int) (rest : Stream)
    (h : NTV.Draw.range lo hi s = some (v, rest)) : rest <:+ s := by
  revert h
  fun_cases NTV.Draw.range lo hi s with
  | case1 => exact fun h => nomatch h
  | case2 v' r hb => exact suffix_of_eq (below_suffix _ _ _ _ hb)

theorem roundsS_suffix (n d c k : Nat) (s : Stream) (v : Bool) (rest : Stream)
    (h : NTV.Prime.roundsS n d c k s = some (v, rest)) : rest <:+ s := by
  revert h
  fun_induction NTV.Prime.roundsS n d c k s with
  | case1 => exact suffix_of_eq (List.suffix_refl _)
  | case2 => exact fun h => nomatch h
  | case3 k s r s' hr hm ih => exact fun h => (ih h).trans (range_suffix _ _ _ _ _ hr)
  | case4 k s r s' hr hm => exact suffix_of_eq (range_suffix _ _ _ _ _ hr)

theorem isPrimeS_suffix (n : Int) (s : Stream) (v : Bool) (rest : Stream)
    (h : isPrimeS n s = some (v, rest)) : rest <:+ s := by
  revert h
  unfold isPrimeS
  fun_cases NTV.Prime.isPrimeS n s with
  | case1 | case2 | case3 => exact suffix_of_eq (List.suffix_refl _)
  | case4 => exact roundsS_suffix _ _ _ _ _ _ _

theorem isPrimeS_true_ge (n : Int) (s : Stream) (rest : Stream)
    (h : isPrimeS n s = some (true, rest)) : 2 ≤ n := by
  revert h
  unfold isPrimeS
  fun_cases NTV.Prime.isPrimeS n s with
  | case1 => exact fun h => nomatch h
  | case2 hn | case3 hn | case4 hn => exact fun _ => by omega

theorem debugAssertComposite_suffix (n : Int) (prof : Profile) (s s' : Stream)
    (h : debugAssertComposite n prof s = .ok s') : s' <:+ s := by
  revert h
  fun_cases debugAssertComposite n prof s with
  | case1 => exact fun h => Except.ok.inj h ▸ List.suffix_refl _
  | case2 | case3 => exact fun h => nomatch h
  | case4 s2 hp => exact fun h => Except.ok.inj h ▸ isPrimeS_suffix _ _ _ _ hp

theorem debugAssertComposite_error {n : Int} {prof : Profile} {s : Stream} {r : EcmRes}
    (h : debugAssertComposite n prof s = .error r) (fac : Int) (c : Nat) (rest : Stream) :
    r ≠ .found fac c rest := by
  revert h
  fun_cases debugAssertComposite n prof s with
  | case1 | case4 => exact fun h => nomatch h
  | case2 | case3 => exact fun h => Except.error.inj h ▸ fun e => nomatch e

theorem proper_of (n fac : Int) (hn : 1 < n) (hd : Dv n fac) (h1 : fac ≠ 1) (h2 : fac ≠ n) :
    1 < fac ∧ fac < n ∧ fac ∣ n := by
  obtain ⟨hdvd, h0⟩ := hd
  have hne : fac ≠ 0 := by
    rintro rfl
    exact absurd (Int.zero_dvd.mp hdvd) (by omega)
  have hle : fac ≤ n := Int.le_of_dvd (by omega) hdvd
  exact ⟨by omega, by omega, hdvd⟩

theorem ecmLoop_found (n : Int) (b1 b2 : Nat) (prof : Profile) (f count : Nat) (s : Stream)
    (fac : Int) (c : Nat) (rest : Stream)
    (h : ecmLoop n b1 b2 prof f count s = .found fac c rest) :
    (Dv n fac ∧ fac ≠ 1 ∧ fac ≠ n) ∧ rest <:+ s := by
  revert h
  -- a curve draws `a, x, y`; it ends the loop only with a factor other than 1 and n
  fun_induction ecmLoop n b1 b2 prof f count s with
  | case7 f count s cur _ _ a s1 h1 x s2 h2 y s3 h3 _ ih | case8 f count s cur _ _ a s1 h1 x s2 h2 y s3 h3 _ _ _ ih =>
    exact fun h => (ih h).imp_right
      (·.trans (((range_suffix _ _ _ _ _ h3).trans (range_suffix _ _ _ _ _ h2)).trans (range_suffix _ _ _ _ _ h1)))
  | case10 f count s cur _ _ a s1 h1 x s2 h2 y s3 h3 d hd hne _ =>
    intro h
    injection h with e1 _ e3
    subst e1 e3
    simp only [Bool.or_eq_true, beq_iff_eq, not_or] at hne
    exact ⟨⟨ecmOneshot_factor_dvd _ _ _ _ _ _ _ hd, hne.1, hne.2⟩,
      ((range_suffix _ _ _ _ _ h3).trans (range_suffix _ _ _ _ _ h2)).trans (range_suffix _ _ _ _ _ h1)⟩
  | case1 | case2 | case3 | case4 | case5 | case6 | case9 | case11 | case12 => exact fun h => nomatch h

theorem ecm_found (n : Int) (b1 b2 : Nat) (stream : Stream) (fuel : Nat) (prof : Profile)
    (fac : Int) (c : Nat) (rest : Stream) (h : ecm n b1 b2 stream fuel prof = .found fac c rest) :
    (Dv n fac ∧ fac ≠ 1 ∧ fac ≠ n) ∧ rest <:+ stream := by
  revert h
  fun_cases ecm n b1 b2 stream fuel prof with
  | case1 r hr => exact fun h => absurd h (debugAssertComposite_error hr _ _ _)
  | case2 s hs =>
    exact fun h => (ecmLoop_found _ _ _ _ _ _ _ _ _ _ h).imp_right
      (·.trans (debugAssertComposite_suffix _ _ _ _ hs))

theorem drawN_suffix (n : Int) (k : Nat) (s : Stream) (vs : List Int) (rest : Stream)
    (h : drawN n k s = some (vs, rest)) : rest <:+ s := by
  revert vs rest
  fun_induction drawN n k s with
  | case1 => exact fun _ _ => suffix_of_eq (List.suffix_refl _)
  | case4 k s v s1 h1 vs' s2 h2 ih =>
    exact fun _ _ => suffix_of_eq ((ih _ _ h2).trans (range_suffix _ _ _ _ _ h1))
  | case2 | case3 => exact fun _ _ h => nomatch h

theorem drawPts_suffix (n : Int) (k : Nat) (s : Stream) (ps : List Point) (rest : Stream)
    (h : drawPts n k s = some (ps, rest)) : rest <:+ s := by
  revert ps rest
  fun_induction drawPts n k s with
  | case1 => exact fun _ _ => suffix_of_eq (List.suffix_refl _)
  | case5 k s x s1 h1 y s2 h2 ps' s3 h3 ih =>
    exact fun _ _ => suffix_of_eq
      (((ih _ _ h3).trans (range_suffix _ _ _ _ _ h2)).trans (range_suffix _ _ _ _ _ h1))
  | case2 | case3 | case4 => exact fun _ _ h => nomatch h

theorem ecmParLoop_found (n : Int) (b1 b2 pc : Nat) (prof : Profile) (f count : Nat) (s : Stream)
    (fac : Int) (c : Nat) (rest : Stream)
    (h : ecmParLoop n b1 b2 pc prof f count s = .found fac c rest) :
    (Dv n fac ∧ fac ≠ 1 ∧ fac ≠ n) ∧ rest <:+ s := by
  revert h
  fun_induction ecmParLoop n b1 b2 pc prof f count s with
  | case6 f count s cur _ _ as s1 h1 pts s2 h2 _ ih | case7 f count s cur _ _ as s1 h1 pts s2 h2 _ _ _ ih =>
    exact fun h => (ih h).imp_right (·.trans ((drawPts_suffix _ _ _ _ _ h2).trans (drawN_suffix _ _ _ _ _ h1)))
  | case10 f count s cur _ _ as s1 h1 pts s2 h2 d hd hne _ cnt _ =>
    intro h
    injection h with e1 _ e3
    subst e1 e3
    simp only [Bool.or_eq_true, beq_iff_eq, not_or] at hne
    exact ⟨⟨ecmOneshotParallel_factor_dvd _ _ _ _ _ _ _ hd, hne.1, hne.2⟩,
      (drawPts_suffix _ _ _ _ _ h2).trans (drawN_suffix _ _ _ _ _ h1)⟩
  | case1 | case2 | case3 | case4 | case5 | case8 | case9 | case11 | case12 => exact fun h => nomatch h

theorem ecmParallel_found (n : Int) (b1 b2 : Nat) (stream : Stream) (fuel : Nat) (prof : Profile)
    (fac : Int) (c : Nat) (rest : Stream) (h : ecmParallel n b1 b2 stream fuel prof = .found fac c rest) :
    (Dv n fac ∧ fac ≠ 1 ∧ fac ≠ n) ∧ rest <:+ stream := by
  revert h
  fun_cases ecmParallel n b1 b2 stream fuel prof with
  | case1 r hr => exact fun h => absurd h (debugAssertComposite_error hr _ _ _)
  | case2 => exact fun h => nomatch h
  | case3 s hs =>
    exact fun h => (ecmParLoop_found _ _ _ _ _ _ _ _ _ _ _ h).imp_right
      (·.trans (debugAssertComposite_suffix _ _ _ _ hs))

end NTV.Ecm
