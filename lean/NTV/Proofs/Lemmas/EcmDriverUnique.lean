import NTV.Proofs.Lemmas.EcmDriverInv
import NTV.Proofs.Lemmas.TrialProofs
import Mathlib.Data.Nat.Factorization.Defs
/-! Uniqueness of the sorted prime factorisation as a list of (prime, exponent), and its consequences:
* any strictly increasing list of (prime, positive exponent) with product n is `NTV.Trial.factorize n`
  (`mem_isPF_iff`: its entries are the `(p, n.factorization p)` with p prime and a positive exponent);
* a result of the ECM drivers all of whose entries are prime is that list. -/
namespace NTV.Trial

structure IsPF (l : List (Nat × Nat)) : Prop where
  primes : ∀ qe ∈ l, qe.1.Prime ∧ 0 < qe.2
  sorted : l.Pairwise (fun a b => a.1 < b.1)

theorem prodOf_cons (a : Nat × Nat) (l : List (Nat × Nat)) : prodOf (a :: l) = a.1 ^ a.2 * prodOf l := by
  simp [prodOf]

theorem prodOf_ne_zero (l : List (Nat × Nat)) (h : ∀ qe ∈ l, qe.1.Prime) : prodOf l ≠ 0 := by
  induction l with
  | nil => simp [prodOf]
  | cons a l ih =>
    rw [prodOf_cons]
    exact Nat.mul_ne_zero (pow_ne_zero _ (h a (by simp)).ne_zero) (ih (fun qe hq => h qe (List.mem_cons_of_mem _ hq)))

theorem factorization_prodOf_not_key (l : List (Nat × Nat)) (h : ∀ qe ∈ l, qe.1.Prime) (q : Nat)
    (hq : ∀ qe ∈ l, qe.1 ≠ q) : (prodOf l).factorization q = 0 := by
  induction l with
  | nil => simp [prodOf]
  | cons a l ih =>
    have ha := h a (by simp)
    have hl : ∀ qe ∈ l, qe.1.Prime := fun qe hm => h qe (List.mem_cons_of_mem _ hm)
    rw [prodOf_cons, Nat.factorization_mul (pow_ne_zero _ ha.ne_zero) (prodOf_ne_zero l hl),
      Nat.Prime.factorization_pow ha]
    simp only [Finsupp.coe_add, Pi.add_apply]
    rw [ih hl (fun qe hm => hq qe (List.mem_cons_of_mem _ hm)), Finsupp.single_apply,
      if_neg (hq a (by simp))]

theorem factorization_prodOf_key (l : List (Nat × Nat)) (hl : IsPF l) (p e : Nat) (hpe : (p, e) ∈ l) :
    (prodOf l).factorization p = e := by
  induction l with
  | nil => simp at hpe
  | cons a l ih =>
    obtain ⟨hprimes, hsorted⟩ := hl
    rw [List.pairwise_cons] at hsorted
    have ha := (hprimes a (by simp)).1
    have hlp : ∀ qe ∈ l, qe.1.Prime := fun qe hm => (hprimes qe (List.mem_cons_of_mem _ hm)).1
    rw [prodOf_cons, Nat.factorization_mul (pow_ne_zero _ ha.ne_zero) (prodOf_ne_zero l hlp),
      Nat.Prime.factorization_pow ha]
    simp only [Finsupp.coe_add, Pi.add_apply]
    rcases List.mem_cons.mp hpe with h1 | h1
    · subst h1
      rw [factorization_prodOf_not_key l hlp p (fun qe hm => Nat.ne_of_gt (hsorted.1 qe hm)),
        Finsupp.single_eq_same, add_zero]
    · have hlt : a.1 < p := hsorted.1 (p, e) h1
      rw [ih ⟨fun qe hm => hprimes qe (List.mem_cons_of_mem _ hm), hsorted.2⟩ h1, Finsupp.single_apply,
        if_neg (Nat.ne_of_lt hlt), zero_add]

theorem mem_isPF_iff (l : List (Nat × Nat)) (hl : IsPF l) (p e : Nat) :
    (p, e) ∈ l ↔ p.Prime ∧ 0 < e ∧ (prodOf l).factorization p = e := by
  constructor
  · intro h
    exact ⟨(hl.primes _ h).1, (hl.primes _ h).2, factorization_prodOf_key l hl p e h⟩
  · rintro ⟨_, he, hf⟩
    by_cases hk : ∃ qe ∈ l, qe.1 = p
    · obtain ⟨⟨q, e'⟩, hm, hq⟩ := hk
      simp only at hq
      subst hq
      have := factorization_prodOf_key l hl q e' hm
      rw [this] at hf
      rw [← hf]; exact hm
    · exfalso
      simp only [not_exists, not_and] at hk
      rw [factorization_prodOf_not_key l (fun qe hm => (hl.primes qe hm).1) p hk] at hf
      omega

/-- **uniqueness**: two strictly increasing lists of (prime, positive exponent) with the same product
are equal -/
theorem isPF_unique (l₁ l₂ : List (Nat × Nat)) (h₁ : IsPF l₁) (h₂ : IsPF l₂) (h : prodOf l₁ = prodOf l₂) :
    l₁ = l₂ := by
  have nd : ∀ l : List (Nat × Nat), l.Pairwise (fun a b => a.1 < b.1) → l.Nodup := by
    intro l hl
    exact hl.imp (fun {a b} hab heq => by rw [heq] at hab; exact lt_irrefl _ hab)
  have hperm : l₁.Perm l₂ := by
    rw [List.perm_ext_iff_of_nodup (nd _ h₁.sorted) (nd _ h₂.sorted)]
    rintro ⟨p, e⟩
    rw [mem_isPF_iff l₁ h₁, mem_isPF_iff l₂ h₂, h]
  exact hperm.eq_of_pairwise (fun a b _ _ hab hba => absurd hab (not_lt.mpr (le_of_lt hba))) h₁.sorted h₂.sorted

theorem factorize_isPF (n : Nat) (hn : 1 ≤ n) : IsPF (factorize n) :=
  ⟨(factorize_correct n hn).2.1, (factorize_correct n hn).2.2⟩

theorem eq_factorize (n : Nat) (hn : 1 ≤ n) (l : List (Nat × Nat)) (hl : IsPF l) (hprod : prodOf l = n) :
    l = factorize n :=
  isPF_unique l (factorize n) hl (factorize_isPF n hn) (by rw [hprod]; exact (factorize_correct n hn).1)

end NTV.Trial

namespace NTV.Ecm

/-- the driver's `(BigInt, u64)` entries read as naturals -/
def toNatPairs (l : List (Int × Nat)) : List (Nat × Nat) := l.map (fun pe => (pe.1.toNat, pe.2))

theorem prodOf_toNatPairs (l : List (Int × Nat)) (h : ∀ pe ∈ l, 0 ≤ pe.1) :
    ((NTV.Trial.prodOf (toNatPairs l) : Nat) : Int) = prodPairs l := by
  induction l with
  | nil => simp [toNatPairs, NTV.Trial.prodOf, prodPairs]
  | cons a l ih =>
    have h0 := h a (by simp)
    have : toNatPairs (a :: l) = (a.1.toNat, a.2) :: toNatPairs l := rfl
    rw [this, NTV.Trial.prodOf_cons]
    simp only [prodPairs, Nat.cast_mul, Nat.cast_pow]
    rw [ih (fun pe hm => h pe (List.mem_cons_of_mem _ hm)), Int.toNat_of_nonneg h0]

/-- a driver result with strictly increasing keys ≥ 2, exponents ≥ 1, product x ≥ 1 and **prime**
keys is the sorted prime factorisation of x -/
theorem result_eq_factorize (x : Int) (hx : 1 ≤ x) (result : List (Int × Nat))
    (hprod : prodPairs result = x) (hsorted : result.Pairwise (fun a b => a.1 < b.1))
    (hge : ∀ pe ∈ result, 2 ≤ pe.1 ∧ 1 ≤ pe.2) (hprime : ∀ pe ∈ result, Nat.Prime pe.1.toNat) :
    toNatPairs result = NTV.Trial.factorize x.toNat := by
  apply NTV.Trial.eq_factorize x.toNat (by omega)
  · refine ⟨?_, ?_⟩
    · intro qe hqe
      obtain ⟨pe, hpe, rfl⟩ := List.mem_map.mp hqe
      exact ⟨hprime pe hpe, (hge pe hpe).2⟩
    · unfold toNatPairs
      rw [List.pairwise_map]
      refine hsorted.imp_of_mem ?_
      intro a c ha hc hac
      exact (Int.toNat_lt_toNat (lt_of_lt_of_le (by decide) (hge c hc).1)).mpr hac
  · have := prodOf_toNatPairs result (fun pe hpe => le_trans (by decide) (hge pe hpe).1)
    rw [← hprod, ← this, Int.toNat_natCast]

end NTV.Ecm
