import NTV.Proofs.Lemmas.EcmDriverInv
import NTV.Proofs.Lemmas.ElemProofs
import Mathlib.Data.Nat.Prime.Basic
/-! The release profile really wraps a multiplicity at `x = 2^(2^64)`: both drivers return `[(2, 0)]`
(product 1) for every B1, every stream and every fuel ≥ 2.
Everything is proved for `x = 2^E` with a *variable* E and the hypothesis `E = two64`, so that neither
the elaborator nor the kernel is ever tempted to evaluate the power. -/
namespace NTV.Ecm
open NTV.Draw (Stream)

theorem two64_pos : 0 < two64 := by unfold two64; norm_num

theorem pow_gt (E : Nat) (h2 : 2 ≤ E) : 2 < 2 ^ E :=
  calc 2 < 2 ^ 2 := by norm_num
    _ ≤ 2 ^ E := Nat.pow_le_pow_right (by norm_num) h2

theorem pow_even (E : Nat) (h2 : 2 ≤ E) : 2 ^ E % 2 = 0 := by
  obtain ⟨m, rfl⟩ := Nat.exists_eq_add_of_le' (Nat.one_le_of_lt h2)
  rw [pow_succ]; exact Nat.mul_mod_left _ _

theorem ppSearch_pow (E : Nat) (h2 : 2 ≤ E) : NTV.Elem.ppSearch (2 ^ E) (NTV.Elem.bits (2 ^ E)) = (2, E) := by
  obtain ⟨s1, s2, s3⟩ := NTV.Elem.ppSearch_spec (2 ^ E) (NTV.Elem.bits (2 ^ E))
  generalize NTV.Elem.ppSearch (2 ^ E) (NTV.Elem.bits (2 ^ E)) = r at s1 s2 s3
  obtain ⟨base, k⟩ := r
  simp only at s1 s2 s3
  have hbits : NTV.Elem.bits (2 ^ E) = E + 1 := by
    unfold NTV.Elem.bits
    rw [if_neg (by positivity), Nat.log2_two_pow]
  have hk : E ≤ k := by
    by_contra hlt
    exact s3 E (by omega) (by omega) ⟨2, rfl⟩
  have hdvd : base ∣ 2 ^ E := by
    rw [← s1]; exact dvd_pow_self base (by omega)
  obtain ⟨j, _, hj⟩ := (Nat.dvd_prime_pow Nat.prime_two).mp hdvd
  subst hj
  have hjk : j * k = E := by
    rw [← pow_mul] at s1
    exact Nat.pow_right_injective (le_refl 2) s1
  have hj1 : j = 1 := by
    have hle : j ≤ 1 :=
      Nat.le_of_mul_le_mul_right (by rw [hjk, one_mul]; exact hk) (lt_of_lt_of_le (Nat.lt_of_succ_lt h2) hk)
    have h0 : j ≠ 0 := by
      rintro rfl
      rw [zero_mul] at hjk
      exact absurd (hjk ▸ h2) (by decide)
    exact le_antisymm hle (Nat.one_le_iff_ne_zero.mpr h0)
  subst hj1
  simp only [pow_one, one_mul] at hjk ⊢
  rw [hjk]

theorem perfectPower_pow (E : Nat) (h2 : 2 ≤ E) :
    NTV.Elem.perfectPower (((2 ^ E : Nat)) : Int) = some (2, E) := by
  unfold NTV.Elem.perfectPower
  have h := pow_gt E h2
  rw [if_neg (by omega), if_neg (by omega)]
  simp only [Int.toNat_natCast, ppSearch_pow E h2]
  rfl

theorem isPrimeS_even (n : Int) (h2 : 2 < n) (he : n % 2 = 0) (s : Stream) : isPrimeS n s = some (false, s) := by
  unfold isPrimeS NTV.Prime.isPrimeS
  rw [if_neg (not_le.mpr (lt_trans (by decide) h2)), if_neg (fun e => absurd (beq_iff_eq.mp e) (ne_of_gt h2)),
    if_pos (beq_iff_eq.mpr he)]

theorem isPrimeS_two (s : Stream) : isPrimeS 2 s = some (true, s) := by
  unfold isPrimeS NTV.Prime.isPrimeS
  rw [if_neg (by decide), if_pos (by decide)]

theorem factorizeWith_release_wrap_gen (ecmFn : Int → Nat → Nat → Stream → EcmRes) (E : Nat) (hE : E = two64)
    (bsel : Int → Option Nat) (stream : Stream) (fuel : Nat) :
    factorizeWith ecmFn (((2 ^ E : Nat)) : Int) bsel stream (fuel + 2) .release = .ok [(2, 0)] 0 stream := by
  have h2 : 2 ≤ E := hE ▸ (by decide : 2 ≤ two64)
  have hgt : (2 : Int) < ((2 ^ E : Nat) : Int) := Int.ofNat_lt.mpr (pow_gt E h2)
  have hev : ((2 ^ E : Nat) : Int) % 2 = 0 := by exact_mod_cast pow_even E h2
  have hm : mulU64 .release 1 E = .ok 0 := by
    rw [hE, mulU64, Nat.one_mul, if_neg (lt_irrefl _)]
    show Except.ok (two64 % two64) = _
    rw [Nat.mod_self]
  have hpp := perfectPower_pow E h2
  generalize (((2 ^ E : Nat)) : Int) = X at hgt hev hpp ⊢
  have h1 : 1 < X := lt_trans (by decide) hgt
  unfold factorizeWith
  rw [if_neg (not_le.mpr (lt_trans Int.zero_lt_one h1)),
    -- even, perfect power with k = 2^64, multiplicity 1 * 2^64 wraps to 0
    driverLoop_step (.power _ X 1 stream 2 E 0 rfl h1 (isPrimeS_even _ hgt hev _) hpp h2 hm),
    -- 2 is prime, `0 + 0`
    driverLoop_step (.prime _ 2 0 stream [(2, 0)] rfl (by decide) (isPrimeS_two _)
      (show mapAdd .release [] 2 0 = .ok [(2, 0)] from rfl)),
    driverLoop_nil _ _ _ _ _ rfl]
  rfl

theorem factorizeWith_release_wrap (ecmFn : Int → Nat → Nat → Stream → EcmRes) (bsel : Int → Option Nat) (stream : Stream)
    (fuel : Nat) :
    factorizeWith ecmFn (((2 ^ two64 : Nat)) : Int) bsel stream (fuel + 2) .release = .ok [(2, 0)] 0 stream :=
  factorizeWith_release_wrap_gen ecmFn two64 rfl bsel stream fuel

theorem wrap_product_ne_gen (E : Nat) (h2 : 2 ≤ E) : prodPairs [(2, 0)] ≠ (((2 ^ E : Nat)) : Int) := by
  have := pow_gt E h2
  simp only [prodPairs, pow_zero, mul_one]
  omega

theorem wrap_product_ne : prodPairs [(2, 0)] ≠ (((2 ^ two64 : Nat)) : Int) :=
  wrap_product_ne_gen two64 (by unfold two64; norm_num)

end NTV.Ecm
