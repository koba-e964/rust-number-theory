import NTV.Model.Ecm
import NTV.Proofs.Lemmas.InvProofs
import Mathlib.Tactic.Ring
import Mathlib.Tactic.Linarith
/-! Lemmas about the ECM model (`NTV.Ecm`):
* every `Err d` leaving `simplify / addPt / mulPt / ecmOneshot` and their batched versions is
  `gcd(z, n)` for some z, hence divides n; for `ecmOneshot` this is an instance of a statement about
  all its exits (`ecmOneshot_exits`), whose other instance is the dev-profile no-panic theorem of C01;
* the sequential stage lemmas (`*_exits`) are for any exit predicate `Q`; the batched ones (`*_good`) are for
  `DvExit n`, the instance `C01.oneshot_parallel_err_divides` needs;
* `prodPairs`, the product of a result list, is invariant under `sortPairs`; `perfectPower_spec`;
* the u64 operations of the dev profile, when they do not overflow. -/
namespace NTV.Ecm

theorem inv_err (a m d : Int) (h : NTV.inv a m = .error d) : d = (Int.gcd a m : Int) ∧ Int.gcd a m ≠ 1 := by
  obtain ⟨_, hg⟩ := NTV.extgcd_spec a m
  unfold NTV.inv at h
  generalize NTV.extgcd a m = t at hg h
  obtain ⟨g, x, y⟩ := t
  simp only at hg h
  split at h
  · rename_i hne
    injection h with h
    subst h
    rw [hg] at hne ⊢
    exact ⟨rfl, hne⟩
  · cases h

/-- what an `Err(d)` is: a non-negative divisor of the modulus -/
def Dv (n d : Int) : Prop := d ∣ n ∧ 0 ≤ d

theorem inv_err_dvd (a m d : Int) (h : NTV.inv a m = .error d) : Dv m d := by
  rw [(inv_err a m d h).1]
  exact ⟨Int.gcd_dvd_right a m, Int.natCast_nonneg _⟩

theorem simplify_err_dvd (p : Point) (n d : Int) (h : simplify p n = .error d) : Dv n d := by
  revert h
  fun_cases simplify p n with
  | case2 => rename_i g hg; exact fun e => Except.error.inj e ▸ inv_err_dvd _ _ _ hg
  | case1 | case3 => exact fun h => nomatch h

theorem addPt_err_dvd (p1 p2 : Point) (a n d : Int) (h : addPt p1 p2 a n = .error d) : Dv n d := by
  revert h
  fun_cases addPt p1 p2 a n with
  | case3 => exact simplify_err_dvd _ _ _
  | case1 | case2 => exact fun h => nomatch h

theorem mulLoop_err_dvd (a n d : Int) (f e : Nat) (sum cur : Point)
    (h : mulLoop a n f e sum cur = .error d) : Dv n d := by
  revert h
  fun_induction mulLoop a n f e sum cur with
  | case3 f e sum cur hne g hg =>
    intro h
    injection h with h
    subst h
    split at hg
    · exact addPt_err_dvd _ _ _ _ _ hg
    · cases hg
  | case5 f e sum cur hne sum' hs e' he g hg =>
    intro h
    injection h with h
    subst h
    exact addPt_err_dvd _ _ _ _ _ hg
  | case6 f e sum cur hne sum' hs e' he cur' hc ih => exact ih
  | case1 | case2 | case4 => exact fun h => nomatch h

theorem mulPt_err_dvd (p : Point) (e a n d : Int) (h : mulPt p e a n = .error d) : Dv n d := by
  unfold mulPt at h
  split at h
  · cases h
  · exact mulLoop_err_dvd _ _ _ _ _ _ _ h

def Exits {α : Type} (Q : Stop → Prop) (r : Except Stop α) : Prop := ∀ s, r = .error s → Q s

theorem exits_bind {α β : Type} {Q : Stop → Prop} {m : Except Stop α} {f : α → Except Stop β}
    (hm : Exits Q m) (hf : ∀ a, Exits Q (f a)) : Exits Q (m >>= f) := by
  intro s h
  cases m with
  | error e =>
    have : e = s := by
      simp only [bind, Except.bind] at h
      injection h
    exact hm s (by rw [this])
  | ok a => exact hf a s h

theorem exits_ok {α : Type} {Q : Stop → Prop} (a : α) : Exits Q (.ok a : Except Stop α) :=
  fun _ h => nomatch h

theorem exits_error {α : Type} {Q : Stop → Prop} {s : Stop} (h : Q s) : Exits Q (.error s : Except Stop α) :=
  fun _ e => Except.error.inj e ▸ h

theorem exits_ite {α : Type} {Q : Stop → Prop} {c : Prop} [Decidable c] {a b : Except Stop α}
    (ha : Exits Q a) (hb : Exits Q b) : Exits Q (if c then a else b) := by
  split
  · exact ha
  · exact hb

theorem exits_liftE {α : Type} {Q : Stop → Prop} {r : Except Int α} (hr : ∀ d, r = .error d → Q (.factor d)) :
    Exits Q (liftE r) := by
  intro s h
  cases r with
  | ok a => cases h
  | error e =>
    injection h with h
    subst h
    exact hr e rfl

theorem exits_liftP {α : Type} {Q : Stop → Prop} {r : Except String α} (hr : ∀ k, r = .error k → Q (.panic k)) :
    Exits Q (liftP r) := by
  intro s h
  cases r with
  | ok a => cases h
  | error e =>
    injection h with h
    subst h
    exact hr e rfl

/-- `Q` holds of the regular exits of a curve modulo `n`: `Err(d)` with `d` a divisor, `Ok(())`, model fuel.
What remains are the panics, and each theorem says what it assumes of those. -/
structure Regular (n : Int) (Q : Stop → Prop) : Prop where
  factor : ∀ d, Dv n d → Q (.factor d)
  done : Q .done
  fuel : Q .fuel

def DvExit (n : Int) (s : Stop) : Prop := ∀ d, s = .factor d → Dv n d

theorem regular_dvExit (n : Int) : Regular n (DvExit n) :=
  ⟨fun _ hd _ e => Stop.factor.inj e ▸ hd, fun _ e => (nomatch e), fun _ e => (nomatch e)⟩

theorem dvExit_panic (n : Int) (k : String) : DvExit n (.panic k) := fun _ e => nomatch e

section
variable {n : Int} {Q : Stop → Prop}

theorem stage1_exits (hQ : Regular n Q) (a : Int) (f k : Nat) (pt : Point) : Exits Q (stage1 a n f k pt) := by
  fun_induction stage1 a n f k pt with
  | case2 f k pt g hg => exact exits_error (hQ.factor _ (mulPt_err_dvd _ _ _ _ _ hg))
  | case3 => exact exits_error hQ.done
  | case4 f k pt pt' hpt hinf ih => exact ih
  | case1 => exact exits_ok _

theorem stage2While_exits (hQ : Regular n Q) (a : Int) {prof : Profile} {b2 : Nat}
    (hp : ∀ cur k, cur ≤ b2 → addU64 prof cur 6 = .error k → Q (.panic k))
    (p6 : Point) (f cur : Nat) (pt : Point) : Exits Q (stage2While a n prof b2 p6 f cur pt) := by
  fun_induction stage2While a n prof b2 p6 f cur pt with
  | case1 => exact exits_error hQ.fuel
  | case3 f cur pt hle k hk => exact exits_error (hp _ _ hle hk)
  | case4 f cur pt hle cur' hcur g hg => exact exits_error (hQ.factor _ (addPt_err_dvd _ _ _ _ _ hg))
  | case5 => exact exits_error hQ.done
  | case6 f cur pt hle cur' hcur pt' hpt hinf ih => exact ih
  | case2 | case7 => exact exits_ok _

theorem stage2One_exits (hQ : Regular n Q) (a : Int) {prof : Profile} {b2 : Nat}
    (hp : ∀ cur k, cur ≤ b2 → addU64 prof cur 6 = .error k → Q (.panic k)) (pt : Point) (init : Nat) :
    Exits Q (stage2One a n prof b2 pt init) := by
  unfold stage2One
  refine exits_bind (exits_liftE fun d h => hQ.factor d (addPt_err_dvd _ _ _ _ _ h)) (fun p2 => ?_)
  refine exits_bind (exits_liftE fun d h => hQ.factor d (addPt_err_dvd _ _ _ _ _ h)) (fun p4 => ?_)
  refine exits_bind (exits_liftE fun d h => hQ.factor d (addPt_err_dvd _ _ _ _ _ h)) (fun p6 => ?_)
  refine exits_bind (exits_liftE fun d h => hQ.factor d (mulPt_err_dvd _ _ _ _ _ h)) (fun pt' => ?_)
  split
  · intro s h; injection h with h; subst h; exact hQ.done
  · exact stage2While_exits hQ _ hp _ _ _ _

/-- how `ecm_oneshot` ends, given what the three kinds of u64 arithmetic in it do when they fail -/
theorem ecmOneshot_exits (hQ : Regular n Q) (pt : Point) (a : Int) {b1 b2 : Nat} {prof : Profile}
    (h1 : ∀ k, addU64 prof b1 1 = .error k → Q (.panic k))
    (h2 : ∀ k, stage2Inits prof b1 = .error k → Q (.panic k))
    (hp : ∀ cur k, cur ≤ b2 → addU64 prof cur 6 = .error k → Q (.panic k)) :
    Q (ecmOneshot pt a n b1 b2 prof) := by
  unfold ecmOneshot
  simp only
  split
  · exact hQ.done
  · rename_i s hs
    revert s
    show Exits Q _
    refine exits_bind (exits_liftP h1) (fun hi => ?_)
    refine exits_bind (stage1_exits hQ _ _ _ _) (fun pt1 => ?_)
    refine exits_bind (exits_liftP h2) (fun inits => ?_)
    refine exits_bind (stage2One_exits hQ _ hp _ _) (fun pt2 => ?_)
    refine exits_bind (stage2One_exits hQ _ hp _ _) (fun _ => ?_)
    exact exits_ok _

end

/-- **every `Err(d)` of `ecm_oneshot` is a non-negative divisor of n** -/
theorem ecmOneshot_factor_dvd (pt : Point) (a n : Int) (b1 b2 : Nat) (prof : Profile) (d : Int)
    (h : ecmOneshot pt a n b1 b2 prof = .factor d) : d ∣ n ∧ 0 ≤ d :=
  ecmOneshot_exits (regular_dvExit n) pt a (fun k _ => dvExit_panic n k) (fun k _ => dvExit_panic n k)
    (fun _ k _ _ => dvExit_panic n k) d h

theorem manySimplify_err_dvd (pts : List Point) (n d : Int) (h : manySimplify pts n = .error d) : Dv n d := by
  revert h
  fun_cases manySimplify pts n with
  | case1 => exact fun e => Except.error.inj e ▸ ⟨Int.gcd_dvd_right _ _, Int.natCast_nonneg _⟩
  | case2 => rename_i g hg _ _; exact fun e => Except.error.inj e ▸ inv_err_dvd _ _ _ hg
  | case3 => rename_i g hg _; exact fun e => Except.error.inj e ▸ inv_err_dvd _ _ _ hg
  | case4 => exact fun h => nomatch h

theorem manyAdds_good (pts : List (Point × Point × Int)) (n : Int) : Exits (DvExit n) (manyAdds pts n) := by
  unfold manyAdds
  simp only
  split
  · intro _ h d rfl; cases h
  · exact exits_liftE fun d h => (regular_dvExit n).factor d (manySimplify_err_dvd _ _ _ h)

theorem manyMulsLoop_good (n : Int) (as : List Int) (f e : Nat) (sum cur : List Point) :
    Exits (DvExit n) (manyMulsLoop n as f e sum cur) := by
  fun_induction manyMulsLoop n as f e sum cur with
  | case3 f e sum cur hne s hs => exact hs ▸ exits_ite (manyAdds_good _ _) (exits_ok _)
  | case5 f e sum cur hne sum' hs e' he s hs' => exact hs' ▸ manyAdds_good _ _
  | case6 f e sum cur hne sum' hs e' he cur' hc ih => exact ih
  | case1 | case2 | case4 => exact exits_ok _

theorem manyMuls_good (pts : List Point) (as : List Int) (e : Nat) (n : Int) : Exits (DvExit n) (manyMuls pts as e n) := by
  unfold manyMuls
  split
  · exact exits_ok _
  · exact manyMulsLoop_good _ _ _ _ _ _

theorem pStage1_good (n : Int) (as : List Int) (f mult : Nat) (pts : List Point) :
    Exits (DvExit n) (pStage1 n as f mult pts) := by
  fun_induction pStage1 n as f mult pts with
  | case2 f mult pts s hs => exact hs ▸ manyMuls_good _ _ _ _
  | case3 f mult pts pts' hpts ih => exact ih
  | case1 => exact exits_ok _

theorem pStage2While_good (n : Int) (as : List Int) (prof : Profile) (b2 : Nat) (p6 : List Point)
    (f cur : Nat) (t0 : List Point) : Exits (DvExit n) (pStage2While n as prof b2 p6 f cur t0) := by
  fun_induction pStage2While n as prof b2 p6 f cur t0 with
  | case1 => exact exits_error (regular_dvExit n).fuel
  | case3 => exact exits_error (dvExit_panic n _)
  | case4 f cur t0 hle cur' hcur s hs => exact exits_error (manyAdds_good _ _ s hs)
  | case5 f cur t0 hle cur' hcur t1 ht1 ih => exact ih
  | case2 | case6 => exact exits_ok _

theorem pStage2One_good (n : Int) (as : List Int) (prof : Profile) (b2 : Nat) (joint : List Point) (init : Nat) :
    Exits (DvExit n) (pStage2One n as prof b2 joint init) := by
  unfold pStage2One
  refine exits_bind (manyAdds_good _ _) (fun p2 => ?_)
  refine exits_bind (manyAdds_good _ _) (fun p4 => ?_)
  refine exits_bind (manyAdds_good _ _) (fun p6 => ?_)
  refine exits_bind (manyMuls_good _ _ _ _) (fun j => ?_)
  refine exits_bind (pStage2While_good _ _ _ _ _ _ _ _) (fun _ => ?_)
  exact exits_ok _

/-- **every `Err(d)` of `ecm_oneshot_parallel` divides n** -/
theorem ecmOneshotParallel_factor_dvd (pts : List Point) (as : List Int) (n : Int) (b1 b2 : Nat)
    (prof : Profile) (d : Int) (h : ecmOneshotParallel pts as n b1 b2 prof = .factor d) : d ∣ n ∧ 0 ≤ d := by
  suffices H : DvExit n (ecmOneshotParallel pts as n b1 b2 prof) from H d h
  unfold ecmOneshotParallel
  simp only
  split
  · exact (regular_dvExit n).done
  · rename_i s hs
    revert s
    show Exits (DvExit n) _
    refine exits_bind (exits_liftP fun k _ => dvExit_panic n k) (fun hi => ?_)
    refine exits_bind (pStage1_good _ _ _ _ _) (fun j1 => ?_)
    refine exits_bind (exits_liftP fun k _ => dvExit_panic n k) (fun inits => ?_)
    refine exits_bind (pStage2One_good _ _ _ _ _ _) (fun j2 => ?_)
    refine exits_bind (pStage2One_good _ _ _ _ _ _) (fun _ => ?_)
    exact exits_ok _

def prodPairs : List (Int × Nat) → Int
  | [] => 1
  | pe :: l => pe.1 ^ pe.2 * prodPairs l

theorem prodPairs_append (l1 l2 : List (Int × Nat)) : prodPairs (l1 ++ l2) = prodPairs l1 * prodPairs l2 := by
  induction l1 with
  | nil => simp [prodPairs]
  | cons a l ih => simp only [List.cons_append, prodPairs, ih]; ring

theorem prodPairs_insertSorted (v : Int × Nat) (l : List (Int × Nat)) :
    prodPairs (insertSorted v l) = v.1 ^ v.2 * prodPairs l := by
  induction l with
  | nil => simp [insertSorted, prodPairs]
  | cons u us ih =>
    unfold insertSorted
    split
    · simp [prodPairs]
    · simp only [prodPairs, ih]; ring

theorem prodPairs_sortPairs (l : List (Int × Nat)) : prodPairs (sortPairs l) = prodPairs l := by
  unfold sortPairs
  induction l with
  | nil => rfl
  | cons a l ih => simp only [List.foldr_cons, prodPairs_insertSorted, ih, prodPairs]

theorem ppSearch_spec (n k : Nat) : (NTV.Elem.ppSearch n k).1 ^ (NTV.Elem.ppSearch n k).2 = n := by
  fun_induction NTV.Elem.ppSearch n k with
  | case1 => simp
  | case2 => simp
  | case3 k b hb =>
    unfold NTV.Elem.isPerfectPower at hb
    simp only at hb
    split at hb
    · rename_i hp
      injection hb with hb
      subst hb
      exact hp
    · cases hb
  | case4 k hb ih => exact ih

theorem perfectPower_spec (n : Int) (hn : 1 < n) (b : Int) (k : Nat)
    (h : NTV.Elem.perfectPower n = some (b, k)) : b ^ k = n ∧ 1 ≤ b := by
  revert h
  fun_cases NTV.Elem.perfectPower n with
  | case1 => exact fun h => nomatch h
  | case2 => rename_i hle; exact absurd hn (not_lt.mpr hle)
  | case3 =>
    intro h
    obtain ⟨rfl, rfl⟩ := Prod.mk.inj (Option.some.inj h)
    have hs := ppSearch_spec n.toNat (NTV.Elem.bits n.toNat)
    refine ⟨?_, ?_⟩
    · rw [← Int.natCast_pow, hs, Int.toNat_of_nonneg (le_trans Int.one_nonneg (le_of_lt hn))]
    · -- the base is not 0: `0 ^ k ≤ 1 < n`
      refine Int.natCast_pos.mpr (Nat.pos_of_ne_zero fun h0 => ?_)
      rw [h0] at hs
      have := zero_pow_le_one (M₀ := ℕ) (NTV.Elem.ppSearch n.toNat (NTV.Elem.bits n.toNat)).2
      omega

theorem addU64_dev_ok (a b : Nat) (h : a + b < two64) : addU64 .dev a b = .ok (a + b) := by
  simp [addU64, h]

theorem mulU64_dev_ok (a b : Nat) (h : a * b < two64) : mulU64 .dev a b = .ok (a * b) := by
  simp [mulU64, h]

theorem subU64_dev_ok (a b : Nat) (h : b ≤ a) : subU64 .dev a b = .ok (a - b) := by
  simp [subU64, h]

structure Benign (P : Stop → Prop) : Prop where
  factor : ∀ d, ¬ P (.factor d)
  done : ¬ P .done
  fuel : ¬ P .fuel

theorem Benign.regular {P : Stop → Prop} (hP : Benign P) (n : Int) : Regular n (fun s => ¬ P s) :=
  ⟨fun d _ => hP.factor d, hP.done, hP.fuel⟩

/-- without the `max … 6` the start of the second residue class, `(b1 + 1) / 6 * 6 - 1`, underflows at b1 = 4
(= `select_b(n)` for every n ≤ 1000); `stage2Inits` does not -/
example : subU64 .dev ((4 + 1) / 6 * 6) 1 = .error "overflow" := by decide
example : stage2Inits .dev 4 = .ok (1, 5) := by decide

end NTV.Ecm
