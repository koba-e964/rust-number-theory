import NTV.Model.Elementary
import Mathlib.Tactic.Ring
import Mathlib.Tactic.Linarith
import Mathlib.Tactic.NormNum
import Mathlib.Tactic.Positivity
import Mathlib.Tactic.IntervalCases
import Mathlib.Data.Nat.Log
namespace NTV.Elem

theorem mid_bounds (lo hi w : Nat) (h : hi ≤ lo + 2 * w) :
    hi ≤ (lo + hi) / 2 + w ∧ (lo + hi) / 2 ≤ lo + w := by omega

theorem rootSearch_spec (n k : Nat) (f lo hi : Nat) (h1 : lo ^ k ≤ n) (h2 : n < hi ^ k)
    (hf : hi ≤ lo + 2 ^ f) :
    (rootSearch n k f lo hi) ^ k ≤ n ∧ n < (rootSearch n k f lo hi + 1) ^ k := by
  fun_induction rootSearch n k f lo hi with
  | case1 lo hi => exact ⟨h1, lt_of_lt_of_le h2 (Nat.pow_le_pow_left hf k)⟩
  | case2 f lo hi hsmall =>
    exact ⟨h1, lt_of_lt_of_le h2 (Nat.pow_le_pow_left (Nat.sub_le_iff_le_add'.mp hsmall) k)⟩
  | case3 f lo hi hbig mid hmid ih =>
    exact ih hmid h2 (mid_bounds lo hi (2 ^ f) (by rwa [pow_succ'] at hf)).1
  | case4 f lo hi hbig mid hmid ih =>
    exact ih h1 (Nat.lt_of_not_le hmid) (mid_bounds lo hi (2 ^ f) (by rwa [pow_succ'] at hf)).2

/-- `nth_root`: the floor k-th root, for every n and every k ≥ 1 -/
theorem nthRoot_spec (n k : Nat) (hk : 1 ≤ k) : (nthRoot n k) ^ k ≤ n ∧ n < (nthRoot n k + 1) ^ k := by
  unfold nthRoot
  split
  · rename_i h0
    rw [h0, zero_pow (Nat.one_le_iff_ne_zero.mp hk), zero_add, one_pow]
    exact ⟨le_rfl, Nat.one_pos⟩
  · apply rootSearch_spec
    · rw [zero_pow (Nat.one_le_iff_ne_zero.mp hk)]
      exact Nat.zero_le n
    · -- n < 2^(log2 n + 1) ≤ (2^(log2 n / k + 1))^k
      refine lt_of_lt_of_le Nat.lt_log2_self ?_
      rw [← pow_mul, mul_comm]
      exact Nat.pow_le_pow_right (by norm_num) (Nat.lt_mul_div_succ _ hk)
    · rw [Nat.zero_add]
      exact Nat.pow_le_pow_right (by norm_num) (Nat.le_succ _)

theorem nthRoot_of_pow (r k : Nat) (hk : 1 ≤ k) : nthRoot (r ^ k) k = r := by
  obtain ⟨h1, h2⟩ := nthRoot_spec (r ^ k) k hk
  have hk0 : k ≠ 0 := Nat.one_le_iff_ne_zero.mp hk
  have a : nthRoot (r ^ k) k ≤ r := (Nat.pow_le_pow_iff_left hk0).mp h1
  have b : r < nthRoot (r ^ k) k + 1 := (Nat.pow_lt_pow_iff_left hk0).mp h2
  exact le_antisymm a (Nat.le_of_lt_succ b)

theorem isPerfectPower_iff (n k : Nat) (hk : 1 ≤ k) :
    (∃ x, isPerfectPower n k = some x ∧ x ^ k = n) ↔ ∃ r, r ^ k = n := by
  constructor
  · rintro ⟨x, _, hx⟩; exact ⟨x, hx⟩
  · rintro ⟨r, rfl⟩
    refine ⟨r, ?_, rfl⟩
    simp [isPerfectPower, nthRoot_of_pow r k hk]

theorem isPerfectPower_none (n k : Nat) (hk : 1 ≤ k) (h : isPerfectPower n k = none) : ¬ ∃ r, r ^ k = n := by
  intro hex
  obtain ⟨x, hx, _⟩ := (isPerfectPower_iff n k hk).mpr hex
  rw [h] at hx; exact absurd hx (by simp)

theorem isPerfectPower_some (n k x : Nat) (h : isPerfectPower n k = some x) : x ^ k = n := by
  unfold isPerfectPower at h
  simp only at h
  split at h
  · simp only [Option.some.injEq] at h; subst h; assumption
  · simp at h

theorem ppSearch_spec (n K : Nat) :
    (ppSearch n K).1 ^ (ppSearch n K).2 = n ∧ 1 ≤ (ppSearch n K).2 ∧
    ∀ k', (ppSearch n K).2 < k' → k' ≤ K → ¬ ∃ r, r ^ k' = n := by
  fun_induction ppSearch n K with
  | case1 => exact ⟨pow_one n, le_rfl, fun k' h1 h2 => absurd (h1.trans_le h2) (Nat.not_lt_zero 1)⟩
  | case2 => exact ⟨pow_one n, le_rfl, fun k' h1 h2 => absurd (h1.trans_le h2) (lt_irrefl 1)⟩
  | case3 k b hb =>
    exact ⟨isPerfectPower_some _ _ _ hb, Nat.le_add_left 1 (k + 1),
      fun k' h1 h2 => absurd (h1.trans_le h2) (lt_irrefl _)⟩
  | case4 k hnone ih =>
    obtain ⟨i1, i2, i3⟩ := ih
    refine ⟨i1, i2, fun k' h1 h2 => ?_⟩
    rcases Nat.eq_or_lt_of_le h2 with rfl | h
    · exact isPerfectPower_none _ _ (Nat.le_add_left 1 (k + 1)) hnone
    · exact i3 k' h1 (Nat.le_of_lt_succ h)

theorem pow_ne_of_bits_lt {N r k : Nat} (hN : 2 ≤ N) (hk : bits N < k) : r ^ k ≠ N := by
  intro h
  have hk0 : k ≠ 0 := Nat.ne_of_gt (Nat.zero_lt_of_lt hk)
  have hb : N.log2 + 1 ≤ k := by
    rw [bits, if_neg (Nat.ne_of_gt (Nat.lt_of_lt_of_le two_pos hN))] at hk
    exact hk.le
  have hr2 : 2 ≤ r := by
    by_contra hr
    interval_cases r
    · rw [zero_pow hk0] at h
      exact absurd (h ▸ hN) (by decide)
    · rw [one_pow] at h
      exact absurd (h ▸ hN) (by decide)
  have : N < N := calc
    N < 2 ^ (N.log2 + 1) := Nat.lt_log2_self
    _ ≤ 2 ^ k := Nat.pow_le_pow_right two_pos hb
    _ ≤ r ^ k := Nat.pow_le_pow_left hr2 k
    _ = N := h
  exact lt_irrefl _ this

end NTV.Elem
