import NTV.Spec.Enum
import NTV.Proofs.Lemmas.RowOpsProofs
import Mathlib.Data.Rat.Floor
import Mathlib.Data.Nat.Sqrt
import Mathlib.Algebra.BigOperators.Fin
import Mathlib.Tactic.Ring
import Mathlib.Tactic.Linarith
/-! Checker soundness for `NTV.Spec.Enum` (C20), part 1: `quadVal` is `xᵀQx` and `floorSqrt r` is `Nat.sqrt ⌊r⌋₊`. -/
open Matrix
namespace NTV.EnumCheck
open NTV.Spec.Enum NTV.Spec.Mat
open NTV.RowOps (toM Rect)

def vec (n : Nat) (x : List Int) : Fin n → ℚ := fun i => ((x.getD i 0 : Int) : ℚ)

def qf {n : Nat} (M : Matrix (Fin n) (Fin n) ℚ) (x : Fin n → ℚ) : ℚ := x ⬝ᵥ (M *ᵥ x)

theorem getD_map_cast (x : List Int) (i : Nat) :
    (x.map (fun (t : Int) => (t : ℚ))).getD i 0 = ((x.getD i 0 : Int) : ℚ) :=
  NTV.RowOps.getD_map_default (fun (t : Int) => (t : ℚ)) x i 0

theorem quadVal_spec (Q : QMat) (x : List Int) (n : Nat) (hr : Rect n n Q) (hx : x.length = n) :
    quadVal Q x = qf (toM n n Q) (vec n x) := by
  unfold quadVal qf
  simp only
  rw [← List.sum_eq_foldl,
    NTV.RowOps.zipWith_eq_ofFn _ Q (x.map (fun (t : Int) => (t : ℚ))) n [] 0 hr.1 (by simpa using hx), List.sum_ofFn]
  unfold dotProduct
  apply Finset.sum_congr rfl
  intro i _
  rw [getD_map_cast]
  show _ = vec n x i * _
  congr 1
  rw [← List.sum_eq_foldl,
    NTV.RowOps.zipWith_eq_ofFn _ (Q.getD i []) (x.map (fun (t : Int) => (t : ℚ))) n 0 0 (hr.row_length i i.2)
      (by simpa using hx), List.sum_ofFn]
  unfold mulVec dotProduct
  apply Finset.sum_congr rfl
  intro j _
  rw [getD_map_cast]
  rfl

theorem rat_floor_eq (r : ℚ) : Rat.floor r = ⌊r⌋ := rfl

theorem floorSqrt_eq (r : ℚ) (hr : 0 ≤ r) : floorSqrt r = Nat.sqrt ⌊r⌋₊ := by
  unfold floorSqrt
  rw [if_neg (not_lt.mpr hr), rat_floor_eq, Int.floor_toNat]

/-- for negative `r` the value is `0` (documented totalisation) -/
theorem floorSqrt_neg (r : ℚ) (hr : r < 0) : floorSqrt r = 0 := by
  unfold floorSqrt; rw [if_pos hr]

theorem natAbs_le_floorSqrt (r : ℚ) (t : ℤ) (h : ((t : ℚ)) ^ 2 ≤ r) : t.natAbs ≤ floorSqrt r := by
  have hr : 0 ≤ r := le_trans (sq_nonneg _) h
  rw [floorSqrt_eq r hr, Nat.le_sqrt', Nat.le_floor_iff hr, Nat.cast_pow, Nat.cast_natAbs, Int.cast_abs, sq_abs]
  exact h

example : floorSqrt (17 / 2) = 2 := by decide +kernel
example : quadVal [[2, 1], [1, 3]] [1, -2] = 10 := by decide +kernel

end NTV.EnumCheck
