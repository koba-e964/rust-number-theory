import NTV.Proofs.Lemmas.EnumCheckCS
/-! Checker soundness for `NTV.Spec.Enum` (C20), part 3: the list side — `boxVectors` lists every vector
of the box exactly once, `canon`/`isCanonical` pick one of `±x`, and membership in `shortVectors`. -/
open Matrix
namespace NTV.EnumCheck
open NTV.Spec.Enum NTV.Spec.Mat
open NTV.RowOps (toM Rect)

def InBox (x : List Int) (b : List Nat) : Prop := List.Forall₂ (fun (t : Int) (k : Nat) => t.natAbs ≤ k) x b

theorem head_range (h : Int) (b : Nat) :
    (∃ t : Nat, t < 2 * b + 1 ∧ h = Int.ofNat t - Int.ofNat b) ↔ h.natAbs ≤ b := by
  rw [← Int.ofNat_le, Int.natCast_natAbs, abs_le]
  constructor
  · rintro ⟨t, ht, rfl⟩
    simp only [Int.ofNat_eq_natCast]
    omega
  · intro hb
    obtain ⟨t, ht⟩ := Int.eq_ofNat_of_zero_le (show 0 ≤ h + b by omega)
    exact ⟨t, by omega, by simp only [Int.ofNat_eq_natCast]; omega⟩

theorem mem_boxVectors (b : List Nat) (x : List Int) : x ∈ boxVectors b ↔ InBox x b := by
  induction b generalizing x with
  | nil => simp [boxVectors, InBox]
  | cons k rest ih =>
    simp only [boxVectors, List.mem_flatMap, List.mem_range, List.mem_map]
    constructor
    · rintro ⟨t, ht, v, hv, rfl⟩
      refine List.Forall₂.cons ?_ ((ih v).mp hv)
      exact (head_range _ k).mp ⟨t, ht, rfl⟩
    · intro h
      cases h with
      | cons h1 h2 =>
        obtain ⟨t, ht, e⟩ := (head_range _ k).mpr h1
        exact ⟨t, ht, _, (ih _).mpr h2, by rw [e]⟩

theorem nodup_boxVectors (b : List Nat) : (boxVectors b).Nodup := by
  induction b with
  | nil => simp [boxVectors]
  | cons k rest ih =>
    simp only [boxVectors]
    rw [List.nodup_flatMap]
    constructor
    · intro t _
      refine List.Nodup.map ?_ ih
      intro v w h; simpa using h
    · refine List.Pairwise.imp ?_ (List.nodup_range (n := 2 * k + 1))
      intro s t hne
      show List.Disjoint _ _
      intro x hs ht
      simp only [List.mem_map] at hs ht
      obtain ⟨v, _, rfl⟩ := hs
      obtain ⟨w, _, e⟩ := ht
      simp only [List.cons.injEq, Int.ofNat_eq_natCast] at e
      omega

def NonZero (x : List Int) : Prop := ∃ t ∈ x, t ≠ 0

def negv (x : List Int) : List Int := x.map (fun t => -t)

theorem negv_negv (x : List Int) : negv (negv x) = x := by
  simp [negv, List.map_map]

theorem length_negv (x : List Int) : (negv x).length = x.length := by simp [negv]

theorem nonZero_negv (x : List Int) : NonZero (negv x) ↔ NonZero x := by
  simp only [NonZero, negv, List.mem_map]
  constructor
  · rintro ⟨t, ⟨a, ha, rfl⟩, hne⟩
    exact ⟨a, ha, by simpa using hne⟩
  · rintro ⟨t, ht, hne⟩
    exact ⟨-t, ⟨t, ht, rfl⟩, by simpa using hne⟩

theorem isCanonical_nonZero (x : List Int) (h : isCanonical x = true) : NonZero x := by
  induction x with
  | nil => simp [isCanonical] at h
  | cons a rest ih =>
    by_cases ha : a = 0
    · subst ha
      simp only [isCanonical, beq_self_eq_true, ↓reduceIte] at h
      obtain ⟨t, ht, hne⟩ := ih h
      exact ⟨t, List.mem_cons_of_mem _ ht, hne⟩
    · exact ⟨a, List.mem_cons_self, ha⟩

theorem isCanonical_negv_eq (x : List Int) (hnz : NonZero x) : isCanonical (negv x) = !isCanonical x := by
  induction x with
  | nil => obtain ⟨t, ht, _⟩ := hnz; cases ht
  | cons a rest ih =>
    by_cases ha : a = 0
    · subst ha
      have hnz' : NonZero rest := by
        obtain ⟨t, ht, hne⟩ := hnz
        rcases List.mem_cons.mp ht with rfl | ht
        · exact absurd rfl hne
        · exact ⟨t, ht, hne⟩
      simpa [negv, isCanonical] using ih hnz'
    · have hna : (-a == 0) = false := by simpa using ha
      have ha' : (a == 0) = false := by simpa using ha
      simp only [negv, List.map_cons, isCanonical, hna, ha', Bool.false_eq_true, ↓reduceIte]
      rw [← decide_not]
      exact decide_eq_decide.mpr (by omega)

theorem isCanonical_negv (x : List Int) (h : isCanonical x = true) : isCanonical (negv x) = false := by
  rw [isCanonical_negv_eq x (isCanonical_nonZero x h), h]; rfl

theorem isCanonical_negv_of_not (x : List Int) (hnz : NonZero x) (h : isCanonical x = false) :
    isCanonical (negv x) = true := by
  rw [isCanonical_negv_eq x hnz, h]; rfl

theorem canon_cases (x : List Int) : canon x = x ∨ canon x = negv x := by
  unfold canon negv; split <;> simp

theorem canon_of_canonical (x : List Int) (h : isCanonical x = true) : canon x = x := by
  unfold canon; rw [if_pos h]

theorem isCanonical_canon (x : List Int) (hnz : NonZero x) : isCanonical (canon x) = true := by
  unfold canon
  by_cases h : isCanonical x = true
  · rw [if_pos h]; exact h
  · rw [if_neg h]
    exact isCanonical_negv_of_not x hnz (by simpa using h)

theorem inBox_negv (x : List Int) (b : List Nat) : InBox (negv x) b ↔ InBox x b := by
  unfold InBox negv
  rw [List.forall₂_map_left_iff]
  simp only [Int.natAbs_neg]

theorem vec_negv (n : Nat) (x : List Int) : vec n (negv x) = - vec n x := by
  funext i
  unfold vec negv
  simp only [List.getD_eq_getElem?_getD, List.getElem?_map, Pi.neg_apply]
  cases x[(i : Nat)]? <;> simp

theorem qf_neg {n : Nat} (M : Matrix (Fin n) (Fin n) ℚ) (v : Fin n → ℚ) : qf M (-v) = qf M v := by
  rw [qf, qf, mulVec_neg, neg_dotProduct, dotProduct_neg, neg_neg]

theorem quadVal_negv (Q : QMat) (x : List Int) (n : Nat) (hr : Rect n n Q) (hx : x.length = n) :
    quadVal Q (negv x) = quadVal Q x := by
  rw [quadVal_spec Q _ n hr (by rw [length_negv]; exact hx), quadVal_spec Q x n hr hx, vec_negv, qf_neg]

theorem quadVal_canon (Q : QMat) (x : List Int) (n : Nat) (hr : Rect n n Q) (hx : x.length = n) :
    quadVal Q (canon x) = quadVal Q x := by
  rcases canon_cases x with h | h <;> rw [h]
  exact quadVal_negv Q x n hr hx

theorem inBox_canon (x : List Int) (b : List Nat) : InBox (canon x) b ↔ InBox x b := by
  rcases canon_cases x with h | h <;> rw [h]
  exact inBox_negv x b

theorem mem_shortVectors (Q : QMat) (c : ℚ) (b : List Nat) (p : List Int × ℚ) :
    p ∈ shortVectors Q c b ↔
      InBox p.1 b ∧ isCanonical p.1 = true ∧ quadVal Q p.1 ≤ c ∧ p.2 = quadVal Q p.1 := by
  unfold shortVectors
  simp only [List.mem_filterMap, List.mem_filter, mem_boxVectors]
  constructor
  · rintro ⟨x, ⟨hb, hc⟩, h⟩
    split at h
    · rename_i hle
      simp only [Option.some.injEq] at h
      subst h
      exact ⟨hb, hc, hle, rfl⟩
    · simp at h
  · rintro ⟨hb, hc, hle, hv⟩
    refine ⟨p.1, ⟨hb, hc⟩, ?_⟩
    rw [if_pos hle, ← hv]

theorem filterMap_fst {α β : Type} (l : List α) (p : α → Prop) [DecidablePred p] (v : α → β) :
    (l.filterMap (fun x => if p x then some (x, v x) else none)).map Prod.fst = l.filter (fun x => decide (p x)) := by
  induction l with
  | nil => simp
  | cons a t ih =>
    by_cases h : p a
    · simp [h, ih]
    · simp [h, ih]

theorem shortVectors_fst (Q : QMat) (c : ℚ) (b : List Nat) :
    (shortVectors Q c b).map Prod.fst =
      ((boxVectors b).filter isCanonical).filter (fun x => decide (quadVal Q x ≤ c)) := by
  unfold shortVectors
  exact filterMap_fst _ (fun x => quadVal Q x ≤ c) (fun x => quadVal Q x)

theorem nodup_shortVectors (Q : QMat) (c : ℚ) (b : List Nat) :
    ((shortVectors Q c b).map Prod.fst).Nodup := by
  rw [shortVectors_fst]
  exact ((nodup_boxVectors b).filter _).filter _

end NTV.EnumCheck
