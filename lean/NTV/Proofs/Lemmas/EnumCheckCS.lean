import NTV.Proofs.Lemmas.EnumCheckBasic
import Mathlib.LinearAlgebra.Matrix.NonsingularInverse
/-! Checker soundness for `NTV.Spec.Enum` (C20), part 2: Cauchy–Schwarz in the `Q` inner product and the
coordinate bound `x_i² ≤ (xᵀQx) · (Q⁻¹)_{ii}` that makes the box complete. -/
open Matrix
namespace NTV.EnumCheck

def PosDefQ {n : Nat} (M : Matrix (Fin n) (Fin n) ℚ) : Prop := ∀ y : Fin n → ℚ, y ≠ 0 → 0 < qf M y

variable {n : Nat}

theorem bil_symm (M : Matrix (Fin n) (Fin n) ℚ) (hs : M.IsSymm) (x u : Fin n → ℚ) :
    u ⬝ᵥ (M *ᵥ x) = x ⬝ᵥ (M *ᵥ u) := by
  rw [dotProduct_mulVec, ← mulVec_transpose, hs.eq, dotProduct_comm]

theorem qf_add_smul (M : Matrix (Fin n) (Fin n) ℚ) (hs : M.IsSymm) (x u : Fin n → ℚ) (t : ℚ) :
    qf M (x + t • u) = qf M x + 2 * t * (x ⬝ᵥ (M *ᵥ u)) + t ^ 2 * qf M u := by
  unfold qf
  rw [mulVec_add, mulVec_smul, add_dotProduct, dotProduct_add, dotProduct_add, smul_dotProduct,
    smul_dotProduct, dotProduct_smul, dotProduct_smul, bil_symm M hs x u]
  simp only [smul_eq_mul]
  ring

theorem qf_zero (M : Matrix (Fin n) (Fin n) ℚ) : qf M 0 = 0 := by
  rw [qf, zero_dotProduct]

theorem qf_nonneg (M : Matrix (Fin n) (Fin n) ℚ) (hp : PosDefQ M) (y : Fin n → ℚ) : 0 ≤ qf M y := by
  by_cases hy : y = 0
  · rw [hy, qf_zero]
  · exact le_of_lt (hp y hy)

theorem sq_le_of_nonneg_at_min (a b c : ℚ) (hc : 0 < c)
    (h : 0 ≤ a + 2 * (-b / c) * b + (-b / c) ^ 2 * c) : b ^ 2 ≤ a * c := by
  have hd : b / c * c = b := div_mul_cancel₀ b (ne_of_gt hc)
  have e : a + 2 * (-b / c) * b + (-b / c) ^ 2 * c = a - b / c * b := by
    rw [neg_div]
    generalize b / c = d at hd ⊢
    rw [← hd]; ring
  rw [e, sub_nonneg, div_mul_eq_mul_div, div_le_iff₀ hc, ← sq] at h
  exact h

theorem cauchy_schwarz (M : Matrix (Fin n) (Fin n) ℚ) (hs : M.IsSymm) (hp : PosDefQ M) (x u : Fin n → ℚ) :
    (x ⬝ᵥ (M *ᵥ u)) ^ 2 ≤ qf M x * qf M u := by
  by_cases hu : u = 0
  · rw [hu, mulVec_zero, dotProduct_zero, qf_zero, mul_zero, sq]
    exact le_of_eq (mul_zero 0)
  · refine sq_le_of_nonneg_at_min _ _ _ (hp u hu) ?_
    rw [← qf_add_smul M hs]
    exact qf_nonneg M hp _

theorem qf_inv_col (M Mi : Matrix (Fin n) (Fin n) ℚ) (hinv : Mi * M = 1) (i : Fin n) :
    M *ᵥ (Mi *ᵥ Pi.single i 1) = Pi.single i 1 ∧ qf M (Mi *ᵥ Pi.single i 1) = Mi i i := by
  have hMu : M *ᵥ (Mi *ᵥ Pi.single i 1) = Pi.single i 1 := by
    rw [mulVec_mulVec, mul_eq_one_comm.mp hinv, one_mulVec]
  refine ⟨hMu, ?_⟩
  rw [qf, hMu, dotProduct_single_one, mulVec_single_one]
  rfl

theorem coord_bound (M Mi : Matrix (Fin n) (Fin n) ℚ) (hs : M.IsSymm) (hp : PosDefQ M)
    (hinv : Mi * M = 1) (x : Fin n → ℚ) (i : Fin n) :
    (x i) ^ 2 ≤ qf M x * Mi i i := by
  have h := cauchy_schwarz M hs hp x (Mi *ᵥ Pi.single i 1)
  rwa [(qf_inv_col M Mi hinv i).1, (qf_inv_col M Mi hinv i).2, dotProduct_single_one] at h

theorem inv_diag_nonneg (M Mi : Matrix (Fin n) (Fin n) ℚ) (hp : PosDefQ M)
    (hinv : Mi * M = 1) (i : Fin n) : 0 ≤ Mi i i := by
  rw [← (qf_inv_col M Mi hinv i).2]
  exact qf_nonneg M hp _

end NTV.EnumCheck
