import NTV.Spec.Enum
import NTV.Proofs.Lemmas.RowOpsProofs
import NTV.Proofs.Lemmas.DetLemmas
import Mathlib.LinearAlgebra.Matrix.NonsingularInverse
import Mathlib.Tactic.Ring
/-! Soundness of the exact rational inverse `NTV.Spec.Enum.inverse` used by the C20 short-vector
checker (Gauss–Jordan elimination on the augmented matrix `[Q | I]`):
`inverse Q = some Qi → Qi * Q = 1 ∧ Q * Qi = 1`, and `inverse Q = none → det Q = 0`. -/
open Matrix
namespace NTV.EnumCheck
open NTV.RowOps (toM Rect ent swapRows ent_swapRows)
open NTV.Spec.Mat (QMat qent)
open NTV.Spec.Enum (idQ jordanCol inverse)

theorem qent_eq (a : QMat) (i j : Nat) : qent a i j = ent a i j := rfl

theorem getD_row {a : QMat} {i : Nat} (h : i < a.length) : a.getD i [] = a[i] :=
  (List.getElem_eq_getD []).symm

theorem getD_map_div (row : List ℚ) (piv : ℚ) (j : Nat) :
    (row.map (· / piv)).getD j 0 = row.getD j 0 / piv :=
  (congrArg _ (zero_div piv).symm).trans (NTV.RowOps.getD_map_default (· / piv) row j 0)

theorem Rect.swapRows {n m : Nat} {a : QMat} (hr : Rect n m a) (i j : Nat) (hi : i < n) (hj : j < n) :
    Rect n m (swapRows a i j) :=
  NTV.RowOps.Rect.swapRows hr i j hi hj

theorem jordanCol_none {a : QMat} {c : Nat} (h : jordanCol a c = none) (p : Nat) (h1 : c ≤ p)
    (h2 : p < a.length) : ent a p c = 0 := by
  unfold jordanCol at h
  split at h
  · rename_i hf
    have := List.find?_eq_none.mp hf (p - c) (List.mem_range.mpr (by omega))
    rw [Nat.add_sub_cancel' h1] at this
    exact not_not.mp fun hne => this (bne_iff_ne.mpr hne)
  · exact absurd h (Option.some_ne_none _)

theorem jordanCol_some {a a' : QMat} {c : Nat} (h : jordanCol a c = some a') :
    ∃ p, c ≤ p ∧ p < a.length ∧ ent a p c ≠ 0 ∧
      a' = (swapRows a p c).mapIdx (fun i row =>
        if i = c then (a.getD p []).map (· / ent a p c) else
          List.zipWith (fun x y => x - row.getD c 0 * y) row ((a.getD p []).map (· / ent a p c))) := by
  unfold jordanCol at h
  split at h
  · simp at h
  · rename_i t hf
    have hp := List.find?_some hf
    have hm := List.mem_of_find?_eq_some hf
    simp only [List.mem_range] at hm
    refine ⟨c + t, by omega, by omega, bne_iff_ne.mp hp, ?_⟩
    simp only [Option.some.injEq] at h
    rw [← h]
    rfl

theorem length_jordanCol {a a' : QMat} {c : Nat} (h : jordanCol a c = some a') : a'.length = a.length := by
  obtain ⟨p, _, _, _, rfl⟩ := jordanCol_some h
  rw [List.length_mapIdx, NTV.RowOps.swapRows, List.length_set, List.length_set]

theorem jordanCol_ent {n m : Nat} {a a' : QMat} (hr : Rect n m a) {c : Nat} (hc : c < n)
    (h : jordanCol a c = some a') :
    Rect n m a' ∧ ∃ p, c ≤ p ∧ p < n ∧ ent a p c ≠ 0 ∧ ∀ r j, r < n →
      ent a' r j = if r = c then ent a p j / ent a p c
        else ent (swapRows a p c) r j - ent (swapRows a p c) r c * (ent a p j / ent a p c) := by
  obtain ⟨p, h1, h2, h3, rfl⟩ := jordanCol_some h
  have hp : p < n := by rw [← hr.1]; exact h2
  have hsw := Rect.swapRows hr p c hp hc
  have hrowP : (a.getD p []).length = m := hr.row_length p hp
  refine ⟨⟨by rw [List.length_mapIdx, hsw.1], ?_⟩, p, h1, hp, h3, ?_⟩
  · intro row hmem
    rw [List.mem_mapIdx] at hmem
    obtain ⟨i, hi, rfl⟩ := hmem
    have hl : ((swapRows a p c)[i]).length = m := hsw.2 _ (List.getElem_mem hi)
    split
    · rw [List.length_map, hrowP]
    · rw [List.length_zipWith, List.length_map, hrowP, hl, Nat.min_self]
  · intro r j hrn
    show ((List.mapIdx _ (swapRows a p c)).getD r []).getD j 0 = _
    rw [NTV.RowOps.getD_mapIdx_of_lt _ _ _ (by rw [hsw.1]; exact hrn) []]
    by_cases hrc : r = c
    · rw [if_pos hrc, if_pos hrc, getD_map_div]; rfl
    · rw [if_neg hrc, if_neg hrc,
        NTV.RowOps.getD_zipWith_sub _ _ _ _ (by rw [List.length_map, hsw.row_length r hrn, hrowP]), getD_map_div]
      rfl

theorem jordanCol_unit {n m : Nat} {a a' : QMat} (hr : Rect n m a) {c : Nat} (hc : c < n)
    (h : jordanCol a c = some a')
    (hu : ∀ r k, r < n → k < c → ent a r k = if r = k then 1 else 0) :
    ∀ r k, r < n → k < c + 1 → ent a' r k = if r = k then 1 else 0 := by
  obtain ⟨_, p, h1, hp, h3, he⟩ := jordanCol_ent hr hc h
  intro r k hrn hk
  rw [he r k hrn]
  rcases Nat.lt_succ_iff_lt_or_eq.mp hk with hk' | rfl
  · -- column `k < c` of `a` is a unit column with its 1 above rows `c ≤ p`: the step leaves it alone
    have hkc : c ≠ k := Nat.ne_of_gt hk'
    have hkp : p ≠ k := Nat.ne_of_gt (lt_of_lt_of_le hk' h1)
    have hpk : ent a p k = 0 := by rw [hu p k hp hk', if_neg hkp]
    rw [hpk, zero_div, mul_zero, sub_zero, ent_swapRows a p c r k (hr.1 ▸ hp) (hr.1 ▸ hc), hpk,
      hu c k hc hk', if_neg hkc]
    by_cases hrc : r = c
    · rw [if_pos hrc, if_neg (hrc ▸ hkc)]
    · rw [if_neg hrc, if_neg hrc]
      by_cases hrp : r = p
      · rw [if_pos hrp, if_neg (hrp ▸ hkp)]
      · rw [if_neg hrp, hu r k hrn hk']
  · rw [div_self h3, mul_one, sub_self]

theorem updateCol_one_mul {n m : Nat} (c : Fin n) (v : Fin n → ℚ) (S : Matrix (Fin n) (Fin m) ℚ)
    (r : Fin n) (j : Fin m) :
    ((1 : Matrix (Fin n) (Fin n) ℚ).updateCol c v * S) r j =
      S r j + (v r - (1 : Matrix (Fin n) (Fin n) ℚ) r c) * S c j := by
  have e : ∀ k, (1 : Matrix (Fin n) (Fin n) ℚ).updateCol c v r k * S k j =
      (1 : Matrix (Fin n) (Fin n) ℚ) r k * S k j +
        if k = c then (v r - (1 : Matrix (Fin n) (Fin n) ℚ) r c) * S c j else 0 := by
    intro k
    rw [Matrix.updateCol_apply]
    by_cases h : k = c
    · rw [if_pos h, if_pos h, h]; ring
    · rw [if_neg h, if_neg h, add_zero]
  rw [Matrix.mul_apply, Finset.sum_congr rfl fun k _ => e k, Finset.sum_add_distrib,
    Finset.sum_ite_eq', if_pos (Finset.mem_univ _), ← Matrix.mul_apply, Matrix.one_mul]

theorem det_updateCol_one {n : Nat} (c : Fin n) (v : Fin n → ℚ) :
    ((1 : Matrix (Fin n) (Fin n) ℚ).updateCol c v).det = v c := by
  rw [← Matrix.cramer_apply, Matrix.cramer_one]; rfl

theorem det_swap_ne_zero {n : Nat} (p c : Fin n) :
    ((1 : Matrix (Fin n) (Fin n) ℚ).submatrix (Equiv.swap p c) id).det ≠ 0 := by
  rw [Matrix.det_permute, Matrix.det_one, mul_one]
  exact Int.cast_ne_zero.mpr (Units.ne_zero _)

theorem swap_mul {n m : Nat} (p c : Fin n) (M : Matrix (Fin n) (Fin m) ℚ) :
    (1 : Matrix (Fin n) (Fin n) ℚ).submatrix (Equiv.swap p c) id * M = M.submatrix (Equiv.swap p c) id := by
  rw [← Matrix.submatrix_id_id M, ← Matrix.submatrix_mul _ _ _ _ _ Function.bijective_id, Matrix.one_mul]
  rfl

/-- a successful column step is left multiplication by an invertible matrix: the row swap followed
by the identity whose column `c` holds the multipliers of the pivot row -/
theorem jordanCol_toM {n m : Nat} {a a' : QMat} (hr : Rect n m a) {c : Nat} (hc : c < n)
    (h : jordanCol a c = some a') :
    ∃ G : Matrix (Fin n) (Fin n) ℚ, G.det ≠ 0 ∧ toM n m a' = G * toM n m a := by
  obtain ⟨_, p, h1, hp, h3, he⟩ := jordanCol_ent hr hc h
  let cF : Fin n := ⟨c, hc⟩
  let v : Fin n → ℚ := fun r =>
    if r = cF then (ent a p c)⁻¹ else - ent (swapRows a p c) r c * (ent a p c)⁻¹
  refine ⟨(1 : Matrix (Fin n) (Fin n) ℚ).updateCol cF v *
    (1 : Matrix (Fin n) (Fin n) ℚ).submatrix (Equiv.swap ⟨p, hp⟩ cF) id, ?_, ?_⟩
  · rw [Matrix.det_mul, det_updateCol_one]
    refine mul_ne_zero ?_ (det_swap_ne_zero _ _)
    show (if cF = cF then _ else _) ≠ (0 : ℚ)
    rw [if_pos rfl]; exact inv_ne_zero h3
  · rw [Matrix.mul_assoc, swap_mul, ← NTV.RowOps.toM_swapRows n m a hr]
    ext r j
    rw [updateCol_one_mul, Matrix.one_apply]
    show ent a' r j = ent (swapRows a p c) r j +
      ((if r = cF then (ent a p c)⁻¹ else - ent (swapRows a p c) r c * (ent a p c)⁻¹) - _) *
        ent (swapRows a p c) c j
    have hSc : ent (swapRows a p c) c j = ent a p j := by
      rw [ent_swapRows a p c c j (by rw [hr.1]; exact hp) (by rw [hr.1]; exact hc), if_pos rfl]
    rw [he r j r.2, hSc]
    by_cases hrc : r = cF
    · rw [if_pos (congrArg Fin.val hrc), if_pos hrc, if_pos hrc, hrc]
      show _ = ent (swapRows a p c) c j + _
      rw [hSc]; ring
    · rw [if_neg fun e => hrc (Fin.ext e), if_neg hrc, if_neg hrc]
      ring

/-- the augmented start matrix of `inverse` -/
def aug (Q : QMat) : QMat := List.zipWith (· ++ ·) Q (idQ Q.length)

theorem length_idQ (n : Nat) : (idQ n).length = n := by simp [idQ]

theorem rect_aug {Q : QMat} {n : Nat} (hr : Rect n n Q) : Rect n (n + n) (aug Q) := by
  refine ⟨by simp [aug, length_idQ, hr.1], ?_⟩
  intro row hmem
  unfold aug at hmem
  rw [List.mem_iff_getElem] at hmem
  obtain ⟨i, hi, rfl⟩ := hmem
  simp only [List.length_zipWith, length_idQ, hr.1, Nat.min_self] at hi
  have hq : i < Q.length := by rw [hr.1]; exact hi
  rw [List.getElem_zipWith, List.length_append, hr.2 _ (List.getElem_mem hq)]
  simp [idQ, hr.1]

theorem ent_aug {Q : QMat} {n : Nat} (hr : Rect n n Q) (i j : Nat) (hi : i < n) :
    ent (aug Q) i j = if j < n then ent Q i j else if i = j - n then 1 else 0 := by
  have hq : i < Q.length := by rw [hr.1]; exact hi
  have hl : i < (aug Q).length := by rw [(rect_aug hr).1]; exact hi
  have hrow : Q[i].length = n := hr.2 _ (List.getElem_mem hq)
  unfold NTV.RowOps.ent
  rw [getD_row hl, getD_row hq]
  simp only [aug, List.getElem_zipWith, List.getD_eq_getElem?_getD]
  by_cases hj : j < n
  · rw [if_pos hj, List.getElem?_append_left (by rw [hrow]; exact hj)]
  · rw [if_neg hj, List.getElem?_append_right (by rw [hrow]; omega), hrow]
    simp only [idQ, hr.1, List.getElem_map, List.getElem_range, List.getElem?_map]
    by_cases hjn : j - n < n
    · rw [List.getElem?_range hjn]; simp
    · rw [List.getElem?_eq_none (by rw [List.length_range]; exact Nat.le_of_not_lt hjn),
        if_neg (fun e : i = j - n => hjn (e ▸ hi))]
      rfl

theorem submatrix_eq_one {n m : Nat} (M : Matrix (Fin n) (Fin m) ℚ) (f : Fin n → Fin m)
    (h : ∀ i j : Fin n, M i (f j) = if (i : Nat) = j then 1 else 0) : M.submatrix id f = 1 := by
  ext i j
  rw [Matrix.one_apply]
  exact (h i j).trans (if_congr Fin.ext_iff.symm rfl rfl)

theorem aug_left {Q : QMat} {n : Nat} (hr : Rect n n Q) :
    (toM n (n + n) (aug Q)).submatrix id (Fin.castAdd n) = toM n n Q := by
  ext i j
  show ent (aug Q) i (j : Nat) = ent Q i j
  rw [ent_aug hr i j i.2, if_pos j.2]

theorem aug_right {Q : QMat} {n : Nat} (hr : Rect n n Q) :
    (toM n (n + n) (aug Q)).submatrix id (Fin.natAdd n) = 1 := by
  refine submatrix_eq_one _ _ fun i j => ?_
  show ent (aug Q) i (n + (j : Nat)) = _
  rw [ent_aug hr i _ i.2, if_neg (by omega), Nat.add_sub_cancel_left]

/-- state before column `c`: the current augmented matrix is `G · [Q | I]` for an invertible `G`,
and its first `c` columns are identity columns -/
structure J (n : Nat) (Q : QMat) (c : Nat) (a : QMat) : Prop where
  rect : Rect n (n + n) a
  fac : ∃ G : Matrix (Fin n) (Fin n) ℚ, G.det ≠ 0 ∧ toM n (n + n) a = G * toM n (n + n) (aug Q)
  unit : ∀ r k, r < n → k < c → ent a r k = if r = k then 1 else 0

theorem J.init {Q : QMat} {n : Nat} (hr : Rect n n Q) : J n Q 0 (aug Q) where
  rect := rect_aug hr
  fac := ⟨1, by simp, by simp⟩
  unit := fun _ _ _ hk => absurd hk (Nat.not_lt_zero _)

theorem J.step {Q a a' : QMat} {n c : Nat} (h : J n Q c a) (hc : c < n)
    (hs : jordanCol a c = some a') : J n Q (c + 1) a' where
  rect := (jordanCol_ent h.rect hc hs).1
  fac := by
    obtain ⟨G, hG, hGa⟩ := h.fac
    obtain ⟨G', hG', hGa'⟩ := jordanCol_toM h.rect hc hs
    refine ⟨G' * G, ?_, ?_⟩
    · rw [Matrix.det_mul]; exact mul_ne_zero hG' hG
    · rw [hGa', hGa, Matrix.mul_assoc]
  unit := jordanCol_unit h.rect hc hs h.unit

theorem submatrix_mul_left {n m k : Nat} (G : Matrix (Fin n) (Fin n) ℚ) (M : Matrix (Fin n) (Fin m) ℚ)
    (f : Fin k → Fin m) : (G * M).submatrix id f = G * M.submatrix id f := rfl

theorem J.singular {Q a : QMat} {n c : Nat} (hr : Rect n n Q) (h : J n Q c a) (hc : c < n)
    (hs : jordanCol a c = none) : (toM n n Q).det = 0 := by
  obtain ⟨G, hG, hGa⟩ := h.fac
  have hL : (toM n (n + n) a).submatrix id (Fin.castAdd n) = G * toM n n Q := by
    rw [hGa, submatrix_mul_left, aug_left hr]
  have hdet : ((toM n (n + n) a).submatrix id (Fin.castAdd n)).det = 0 := by
    apply NTV.Det.det_zero_of_no_pivot _ ⟨c, hc⟩
    · intro r k hk hkr
      show ent a r (k : Nat) = 0
      rw [h.unit r k r.2 hk, if_neg (by omega)]
    · intro r hcr
      show ent a r c = 0
      exact jordanCol_none hs r hcr (by rw [h.rect.1]; exact r.2)
  rw [hL, Matrix.det_mul] at hdet
  rcases mul_eq_zero.mp hdet with q | q
  · exact absurd q hG
  · exact q

theorem J.final {Q a : QMat} {n : Nat} (hr : Rect n n Q) (h : J n Q n a) :
    Rect n n (a.map (·.drop n)) ∧ toM n n (a.map (·.drop n)) * toM n n Q = 1 := by
  obtain ⟨G, hG, hGa⟩ := h.fac
  refine ⟨⟨by simp [h.rect.1], ?_⟩, ?_⟩
  · intro row hmem
    rw [List.mem_map] at hmem
    obtain ⟨r0, hr0, rfl⟩ := hmem
    rw [List.length_drop, h.rect.2 r0 hr0]; omega
  · have hR : toM n n (a.map (·.drop n)) = (toM n (n + n) a).submatrix id (Fin.natAdd n) := by
      ext i j
      show ent (a.map (·.drop n)) i j = ent a i (n + (j : Nat))
      unfold NTV.RowOps.ent
      simp only [List.getD_eq_getElem?_getD, List.getElem?_map]
      cases a[(i : Nat)]? with
      | none => rfl
      | some r =>
        show (r.drop n)[(j : Nat)]?.getD 0 = r[n + (j : Nat)]?.getD 0
        rw [List.getElem?_drop]
    have hL : (toM n (n + n) a).submatrix id (Fin.castAdd n) = 1 :=
      submatrix_eq_one _ _ fun i j => h.unit i j i.2 j.2
    rw [hR, hGa, submatrix_mul_left, aug_right hr, Matrix.mul_one]
    rw [hGa, submatrix_mul_left, aug_left hr] at hL
    exact hL

/-- the loop of `inverse` over the first `k` columns -/
def run (Q : QMat) (k : Nat) : Option QMat :=
  (List.range k).foldl (fun (acc : Option QMat) c => acc.bind (fun a => jordanCol a c)) (some (aug Q))

theorem run_succ (Q : QMat) (k : Nat) : run Q (k + 1) = (run Q k).bind (fun a => jordanCol a k) := by
  simp [run, List.range_succ]

theorem inverse_eq (Q : QMat) : inverse Q = (run Q Q.length).map (fun a => a.map (·.drop Q.length)) := rfl

theorem run_inv {Q : QMat} {n : Nat} (hr : Rect n n Q) (k : Nat) (hk : k ≤ n) :
    (∀ a, run Q k = some a → J n Q k a) ∧ (run Q k = none → (toM n n Q).det = 0) := by
  induction k with
  | zero =>
    refine ⟨?_, ?_⟩
    · intro a ha
      simp only [run, List.range_zero, List.foldl_nil, Option.some.injEq] at ha
      subst ha; exact J.init hr
    · intro h; simp [run] at h
  | succ k ih =>
    obtain ⟨ih1, ih2⟩ := ih (by omega)
    rw [run_succ]
    cases hrun : run Q k with
    | none => exact ⟨fun a ha => by simp at ha, fun _ => ih2 hrun⟩
    | some a0 =>
      have hJ := ih1 a0 hrun
      simp only [Option.bind_some]
      exact ⟨fun a ha => hJ.step (by omega) ha, fun hn => hJ.singular hr (by omega) hn⟩

/-- **soundness of `inverse`, success case**: on a square `n × n` rational matrix, a returned `Qi`
is a square matrix with `Qi · Q = 1` (exactly, as Mathlib matrices over `ℚ`) -/
theorem inverse_spec (Q Qi : QMat) (n : Nat) (hr : Rect n n Q) (h : inverse Q = some Qi) :
    Rect n n Qi ∧ toM n n Qi * toM n n Q = 1 := by
  rw [inverse_eq, hr.1] at h
  cases hrun : run Q n with
  | none => rw [hrun] at h; simp at h
  | some a =>
    rw [hrun] at h
    simp only [Option.map_some, Option.some.injEq] at h
    subst h
    exact ((run_inv hr n (Nat.le_refl n)).1 a hrun).final hr

/-- non-vacuity: a 3×3 matrix that needs a row swap in the first column -/
example : inverse [[0, 2, 1], [1, 1, 0], [3, 0, 1]] =
    some [[-1/5, 2/5, 1/5], [1/5, 3/5, -1/5], [3/5, -6/5, 2/5]] := by decide +kernel
example : toM 3 3 [[-1/5, 2/5, 1/5], [1/5, 3/5, -1/5], [3/5, -6/5, 2/5]] *
    toM 3 3 [[0, 2, 1], [1, 1, 0], [3, 0, 1]] = (1 : Matrix (Fin 3) (Fin 3) ℚ) :=
  (inverse_spec _ _ 3 ⟨rfl, by decide⟩ (by decide +kernel)).2

/-- **soundness of `inverse`, failure case**: `none` is returned only for singular matrices -/
theorem inverse_none (Q : QMat) (n : Nat) (hr : Rect n n Q) (h : inverse Q = none) :
    (toM n n Q).det = 0 := by
  rw [inverse_eq, hr.1] at h
  cases hrun : run Q n with
  | none => exact (run_inv hr n (Nat.le_refl n)).2 hrun
  | some a => rw [hrun] at h; simp at h

/-- non-vacuity: a singular 3×3 matrix (row 3 = 2·row 1 − row 2); the pivot search fails in column 1 -/
example : inverse [[1, 2, 3], [0, 0, 1], [2, 4, 5]] = none := by decide +kernel
example : (toM 3 3 [[1, 2, 3], [0, 0, 1], [2, 4, 5]] : Matrix (Fin 3) (Fin 3) ℚ).det = 0 :=
  inverse_none _ 3 ⟨rfl, by decide⟩ (by decide +kernel)

theorem inverse_isSome_iff (Q : QMat) (n : Nat) (hr : Rect n n Q) :
    (inverse Q).isSome ↔ (toM n n Q).det ≠ 0 := by
  constructor
  · intro h hd
    obtain ⟨Qi, hQi⟩ := Option.isSome_iff_exists.mp h
    have := congrArg Matrix.det (inverse_spec Q Qi n hr hQi).2
    rw [Matrix.det_mul, hd, mul_zero, Matrix.det_one] at this
    exact zero_ne_one this
  · intro hd
    cases hi : inverse Q with
    | none => exact absurd (inverse_none Q n hr hi) hd
    | some _ => rfl

end NTV.EnumCheck
