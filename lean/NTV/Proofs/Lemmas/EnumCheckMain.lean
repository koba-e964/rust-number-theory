import NTV.Proofs.Lemmas.EnumCheckBox
import NTV.Proofs.Lemmas.EnumCheckSylv
import NTV.Proofs.Lemmas.EnumCheckInv
import NTV.Proofs.Lemmas.MatCheck
/-! Checker soundness for `NTV.Spec.Enum` (C20), part 5: `isPosDef` decides positive definiteness
(Sylvester), the box of `box` is complete, and `shortVectors` lists exactly the short vectors. -/
open Matrix
namespace NTV.EnumCheck
open NTV.Spec.Enum NTV.Spec.Mat
open NTV.RowOps (toM Rect ent)

theorem isSquare_iff (Q : QMat) : isSquare Q = true ↔ Rect Q.length Q.length Q := by
  unfold isSquare Rect
  simp [List.all_eq_true]

theorem isSymmetric_iff (Q : QMat) :
    isSymmetric Q = true ↔ (toM Q.length Q.length Q).IsSymm := by
  unfold isSymmetric
  simp only [List.all_eq_true, List.mem_range, beq_iff_eq]
  constructor
  · intro h
    ext i j
    exact h j j.2 i i.2
  · intro h i hi j hj
    exact h.apply ⟨j, hj⟩ ⟨i, hi⟩

theorem rect_leading (Q : QMat) (n k : Nat) (hr : Rect n n Q) (hk : k ≤ n) : Rect k k (leading Q k) := by
  unfold leading
  refine ⟨by simp [hr.1, hk], ?_⟩
  intro r hrm
  simp only [List.mem_map] at hrm
  obtain ⟨r0, hr0, rfl⟩ := hrm
  have := hr.2 r0 (List.mem_of_mem_take hr0)
  simp [this, hk]

theorem ent_leading (Q : QMat) (k i j : Nat) (hi : i < k) (hj : j < k) :
    ent (leading Q k) i j = ent Q i j := by
  unfold leading NTV.RowOps.ent
  simp only [List.getD_eq_getElem?_getD, List.getElem?_map, List.getElem?_take, hi, if_true]
  cases Q[i]? with
  | none => rfl
  | some r =>
    show (r.take k)[j]?.getD 0 = r[j]?.getD 0
    rw [List.getElem?_take, if_pos hj]

theorem toM_leading (Q : QMat) (n k : Nat) (hk : k ≤ n) :
    toM k k (leading Q k) = lead (toM n n Q) k hk := by
  ext i j
  exact ent_leading Q k i j i.2 j.2

/-- the reader-level notion: symmetric, and `xᵀQx > 0` for every non-zero rational vector -/
def IsPosDefForm (n : Nat) (Q : QMat) : Prop :=
  Rect n n Q ∧ (∀ i j : Fin n, ent Q i j = ent Q j i) ∧
    ∀ x : Fin n → ℚ, x ≠ 0 → 0 < ∑ i : Fin n, ∑ j : Fin n, x i * ent Q i j * x j

theorem qf_eq_sum {n : Nat} (M : Matrix (Fin n) (Fin n) ℚ) (x : Fin n → ℚ) :
    qf M x = ∑ i, ∑ j, x i * M i j * x j := by
  unfold qf dotProduct mulVec dotProduct
  apply Finset.sum_congr rfl
  intro i _
  rw [Finset.mul_sum]
  apply Finset.sum_congr rfl
  intro j _
  ring

theorem isPosDefForm_iff (n : Nat) (Q : QMat) :
    IsPosDefForm n Q ↔ Rect n n Q ∧ (toM n n Q).IsSymm ∧ PosDefQ (toM n n Q) := by
  unfold IsPosDefForm PosDefQ
  constructor
  · rintro ⟨h1, h2, h3⟩
    refine ⟨h1, ?_, ?_⟩
    · ext i j; exact h2 j i
    · intro y hy; rw [qf_eq_sum]; exact h3 y hy
  · rintro ⟨h1, h2, h3⟩
    refine ⟨h1, fun i j => h2.apply j i, ?_⟩
    intro y hy
    have := h3 y hy
    rwa [qf_eq_sum] at this

/-- **Sylvester's criterion decides positive definiteness**: the checker accepts exactly the square,
symmetric matrices whose form is positive on every non-zero rational vector -/
theorem isPosDef_iff (Q : QMat) : isPosDef Q = true ↔ IsPosDefForm Q.length Q := by
  rw [isPosDefForm_iff]
  unfold isPosDef
  simp only [Bool.and_eq_true, isSquare_iff, isSymmetric_iff, and_assoc]
  constructor
  · rintro ⟨hr, hs, hm⟩
    refine ⟨hr, hs, ?_⟩
    rw [sylvester _ _ hs]
    intro k hk
    rcases Nat.eq_zero_or_pos k with rfl | hkpos
    · simp
    · simp only [List.all_eq_true, List.mem_range, decide_eq_true_eq] at hm
      have h := hm (k - 1) (by omega)
      have e : k - 1 + 1 = k := by omega
      rw [e, NTV.MatCheck.qdet_spec _ k (rect_leading Q _ k hr hk), toM_leading Q _ k hk] at h
      exact h
  · rintro ⟨hr, hs, hp⟩
    refine ⟨hr, hs, ?_⟩
    rw [sylvester _ _ hs] at hp
    simp only [List.all_eq_true, List.mem_range, decide_eq_true_eq]
    intro t ht
    have hk : t + 1 ≤ Q.length := ht
    rw [NTV.MatCheck.qdet_spec _ (t + 1) (rect_leading Q _ (t + 1) hr hk), toM_leading Q _ (t + 1) hk]
    exact hp (t + 1) hk

theorem inBox_of_forall (x : List Int) (n : Nat) (f : Nat → Nat) (hx : x.length = n)
    (h : ∀ i, i < n → (x.getD i 0).natAbs ≤ f i) : InBox x ((List.range n).map f) := by
  unfold InBox
  rw [List.forall₂_iff_get]
  refine ⟨by simp [hx], ?_⟩
  intro i h1 h2
  rw [List.get_eq_getElem, List.get_eq_getElem, List.getElem_map, List.getElem_range, List.getElem_eq_getD 0]
  exact h i (hx ▸ h1)

theorem inBox_iff (x : List Int) (b : List Nat) :
    InBox x b ↔ x.length = b.length ∧ ∀ i, i < b.length → (x.getD i 0).natAbs ≤ b.getD i 0 := by
  unfold InBox
  rw [List.forall₂_iff_get]
  constructor
  · rintro ⟨hl, h⟩
    refine ⟨hl, ?_⟩
    intro i hi
    have := h i (hl ▸ hi) hi
    rwa [List.get_eq_getElem, List.get_eq_getElem, List.getElem_eq_getD 0, List.getElem_eq_getD 0] at this
  · rintro ⟨hl, h⟩
    refine ⟨hl, ?_⟩
    intro i h1 h2
    rw [List.get_eq_getElem, List.get_eq_getElem, List.getElem_eq_getD 0, List.getElem_eq_getD 0]
    exact h i h2

theorem coord_le (Q Qi : QMat) (n : Nat) (hpd : IsPosDefForm n Q) (hinv : inverse Q = some Qi)
    (c : ℚ) (x : List Int) (hx : x.length = n) (hq : quadVal Q x ≤ c) (i : Nat) (hi : i < n) :
    (x.getD i 0).natAbs ≤ floorSqrt (c * qent Qi i i) := by
  obtain ⟨hr, hs, hp⟩ := (isPosDefForm_iff n Q).mp hpd
  have hI := (inverse_spec Q Qi n hr hinv).2
  apply natAbs_le_floorSqrt
  have h1 := coord_bound (toM n n Q) (toM n n Qi) hs hp hI (vec n x) ⟨i, hi⟩
  have h2 : 0 ≤ toM n n Qi ⟨i, hi⟩ ⟨i, hi⟩ := inv_diag_nonneg (toM n n Q) (toM n n Qi) hp hI ⟨i, hi⟩
  rw [← quadVal_spec Q x n hr hx] at h1
  have e : toM n n Qi ⟨i, hi⟩ ⟨i, hi⟩ = qent Qi i i := rfl
  rw [e] at h1 h2
  calc ((x.getD i 0 : ℤ) : ℚ) ^ 2 ≤ quadVal Q x * qent Qi i i := h1
    _ ≤ c * qent Qi i i := mul_le_mul_of_nonneg_right hq h2

theorem box_isSome (Q : QMat) (n : Nat) (hpd : IsPosDefForm n Q) (c : ℚ) : (box Q c).isSome = true := by
  obtain ⟨hr, hs, hp⟩ := (isPosDefForm_iff n Q).mp hpd
  unfold box
  rw [Option.isSome_map]
  rw [inverse_isSome_iff Q n hr]
  have := (sylvester n _ hs).mp hp n le_rfl
  rw [lead_self] at this
  exact ne_of_gt this

/-- **K1, box completeness**: every integer vector with `xᵀQx ≤ c` lies in the box -/
theorem box_complete (Q : QMat) (n : Nat) (hpd : IsPosDefForm n Q) (c : ℚ) (b : List Nat)
    (hb : box Q c = some b) (x : List Int) (hx : x.length = n) (hq : quadVal Q x ≤ c) : InBox x b := by
  unfold box at hb
  cases hinv : inverse Q with
  | none => rw [hinv] at hb; simp at hb
  | some Qi =>
    rw [hinv] at hb
    simp only [Option.map_some, Option.some.injEq] at hb
    subst hb
    have hl : Q.length = n := hpd.1.1
    rw [hl]
    exact inBox_of_forall x n _ hx (fun i hi => coord_le Q Qi n hpd hinv c x hx hq i hi)

/-- what the box is: `b_i = ⌊√(c · (Q⁻¹)_{ii})⌋` with `Q⁻¹` the true inverse -/
theorem box_spec (Q : QMat) (n : Nat) (hr : Rect n n Q) (c : ℚ) (b : List Nat) (hb : box Q c = some b) :
    ∃ Qi : QMat, Rect n n Qi ∧ toM n n Qi * toM n n Q = 1 ∧ b.length = n ∧
      ∀ i, i < n → b.getD i 0 = floorSqrt (c * ent Qi i i) := by
  unfold box at hb
  cases hinv : inverse Q with
  | none => rw [hinv] at hb; simp at hb
  | some Qi =>
    rw [hinv] at hb
    simp only [Option.map_some, Option.some.injEq] at hb
    subst hb
    obtain ⟨h1, h2⟩ := inverse_spec Q Qi n hr hinv
    refine ⟨Qi, h1, h2, by simp [hr.1], ?_⟩
    intro i hi
    have hi' : i < Q.length := by rw [hr.1]; exact hi
    simp [List.getD_eq_getElem?_getD, hi']
    rfl

/-- completeness: every non-zero `x ∈ ℤⁿ` with `xᵀQx ≤ c` is listed, as its sign representative, with
its value -/
theorem shortVectors_complete (Q : QMat) (n : Nat) (hpd : IsPosDefForm n Q) (c : ℚ) (b : List Nat)
    (hb : box Q c = some b) (x : List Int) (hx : x.length = n) (hnz : NonZero x) (hq : quadVal Q x ≤ c) :
    (canon x, quadVal Q x) ∈ shortVectors Q c b := by
  rw [mem_shortVectors]
  have hr := hpd.1
  refine ⟨?_, isCanonical_canon x hnz, ?_, ?_⟩
  · show InBox (canon x) b
    rw [inBox_canon]
    exact box_complete Q n hpd c b hb x hx hq
  · show quadVal Q (canon x) ≤ c
    rw [quadVal_canon Q x n hr hx]; exact hq
  · show quadVal Q x = quadVal Q (canon x)
    rw [quadVal_canon Q x n hr hx]

/-- soundness: every listed pair is a canonical non-zero vector of `ℤⁿ` with its exact value `≤ c` -/
theorem shortVectors_sound (Q : QMat) (n : Nat) (hr : Rect n n Q) (c : ℚ) (b : List Nat)
    (hb : box Q c = some b) (p : List Int × ℚ) (hp : p ∈ shortVectors Q c b) :
    p.1.length = n ∧ NonZero p.1 ∧ isCanonical p.1 = true ∧ canon p.1 = p.1 ∧
      p.2 = quadVal Q p.1 ∧ p.2 ≤ c := by
  rw [mem_shortVectors] at hp
  obtain ⟨h1, h2, h3, h4⟩ := hp
  obtain ⟨_, _, _, hbl, _⟩ := box_spec Q n hr c b hb
  refine ⟨?_, isCanonical_nonZero _ h2, h2, canon_of_canonical _ h2, h4, h4 ▸ h3⟩
  rw [← hbl]; exact ((inBox_iff _ _).mp h1).1

end NTV.EnumCheck
