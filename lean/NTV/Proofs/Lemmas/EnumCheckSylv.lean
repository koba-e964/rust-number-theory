import NTV.Proofs.Lemmas.EnumCheckCS
import Mathlib.LinearAlgebra.Matrix.SchurComplement
/-! Checker soundness for `NTV.Spec.Enum` (C20), part 4: Sylvester's criterion over ℚ (not in Mathlib):
a symmetric rational matrix is positive definite iff all its leading principal minors are positive. -/
open Matrix
namespace NTV.EnumCheck

variable {n : Nat}

def lead (M : Matrix (Fin n) (Fin n) ℚ) (k : Nat) (hk : k ≤ n) : Matrix (Fin k) (Fin k) ℚ :=
  M.submatrix (Fin.castLE hk) (Fin.castLE hk)

section step
variable (M : Matrix (Fin (n + 1)) (Fin (n + 1)) ℚ)

def blkA : Matrix (Fin n) (Fin n) ℚ := M.submatrix Fin.castSucc Fin.castSucc
def blkB : Fin n → ℚ := fun i => M (Fin.castSucc i) (Fin.last n)
def blkD : ℚ := M (Fin.last n) (Fin.last n)

theorem blkA_symm (hs : M.IsSymm) : (blkA M).IsSymm := by
  ext i j; exact hs.apply _ _

theorem qf_blocks (hs : M.IsSymm) (x : Fin (n + 1) → ℚ) :
    qf M x = qf (blkA M) (fun i => x (Fin.castSucc i))
      + 2 * x (Fin.last n) * (blkB M ⬝ᵥ fun i => x (Fin.castSucc i))
      + blkD M * x (Fin.last n) ^ 2 := by
  have hsym : ∀ j : Fin n, M (Fin.last n) (Fin.castSucc j) = M (Fin.castSucc j) (Fin.last n) :=
    fun j => hs.apply _ _
  unfold qf dotProduct mulVec dotProduct blkA blkB blkD
  simp only [Fin.sum_univ_castSucc, submatrix_apply, hsym]
  have e1 : ∀ (a s b t : ℚ), a * (s + b * t) = a * s + t * (b * a) := fun a s b t => by ring
  simp only [e1, Finset.sum_add_distrib, ← Finset.mul_sum]
  ring

/-- completing the square: with `A w = b`, `xᵀMx = (y + t w)ᵀA(y + t w) + t² (d − b·w)` -/
theorem qf_complete (hs : M.IsSymm) (w : Fin n → ℚ) (hw : blkA M *ᵥ w = blkB M) (x : Fin (n + 1) → ℚ) :
    qf M x = qf (blkA M) ((fun i => x (Fin.castSucc i)) + x (Fin.last n) • w)
      + x (Fin.last n) ^ 2 * (blkD M - blkB M ⬝ᵥ w) := by
  rw [qf_blocks M hs x, qf_add_smul (blkA M) (blkA_symm M hs)]
  have e1 : qf (blkA M) w = blkB M ⬝ᵥ w := by unfold qf; rw [hw, dotProduct_comm]
  rw [e1, hw, dotProduct_comm (blkB M)]
  ring

/-- Schur complement formula for the determinant (last row/column split off) -/
theorem det_blocks (hs : M.IsSymm) (hA : (blkA M).det ≠ 0) :
    M.det = (blkA M).det * (blkD M - blkB M ⬝ᵥ ((blkA M)⁻¹ *ᵥ blkB M)) := by
  have : Invertible (blkA M) := invertibleOfIsUnitDet _ (Ne.isUnit hA)
  have h0 : ∀ k : Fin 1, (finSumFinEquiv (m := n) (n := 1)) (Sum.inr k) = Fin.last n := by
    intro k; ext; simp [finSumFinEquiv]
  have h1 : ∀ i : Fin n, (finSumFinEquiv (m := n) (n := 1)) (Sum.inl i) = Fin.castSucc i := by
    intro i; ext; simp [finSumFinEquiv]
  have key : M.submatrix (finSumFinEquiv (m := n) (n := 1)) finSumFinEquiv =
      fromBlocks (blkA M) (of fun i (_ : Fin 1) => blkB M i) (of fun (_ : Fin 1) j => blkB M j)
        (of fun (_ : Fin 1) (_ : Fin 1) => blkD M) := by
    ext i j
    rcases i with i | i <;> rcases j with j | j <;>
      simp only [submatrix_apply, fromBlocks_apply₁₁, fromBlocks_apply₁₂, fromBlocks_apply₂₁,
        fromBlocks_apply₂₂, of_apply, h0, h1, blkA, blkB, blkD]
    exact hs.apply _ _
  rw [← det_submatrix_equiv_self (finSumFinEquiv (m := n) (n := 1)) M, key, det_fromBlocks₁₁]
  congr 1
  rw [det_unique, dotProduct_mulVec, invOf_eq_nonsing_inv]
  simp only [Matrix.sub_apply, Matrix.mul_apply, of_apply, vecMul, dotProduct]

theorem snoc_ne_zero_of_init {y : Fin n → ℚ} (t : ℚ) (hy : y ≠ 0) :
    (Fin.snoc (α := fun _ => ℚ) y t : Fin (n + 1) → ℚ) ≠ 0 :=
  fun h => hy (funext fun i => by simpa using congrFun h (Fin.castSucc i))

theorem posDef_restrict (hs : M.IsSymm) (hp : PosDefQ M) : PosDefQ (blkA M) := by
  intro y hy
  have := hp _ (snoc_ne_zero_of_init 0 hy)
  rw [qf_blocks M hs, Fin.snoc_last, mul_zero, zero_mul, add_zero, zero_pow two_ne_zero, mul_zero, add_zero] at this
  simpa only [Fin.snoc_castSucc] using this

theorem posDef_step (hs : M.IsSymm) (hpA : PosDefQ (blkA M)) (hdA : 0 < (blkA M).det) :
    PosDefQ M ↔ 0 < M.det := by
  have hA : (blkA M).det ≠ 0 := ne_of_gt hdA
  have hw : blkA M *ᵥ ((blkA M)⁻¹ *ᵥ blkB M) = blkB M := by
    rw [mulVec_mulVec, mul_nonsing_inv _ (Ne.isUnit hA), one_mulVec]
  rw [det_blocks M hs hA, mul_pos_iff_of_pos_left hdA]
  generalize (blkA M)⁻¹ *ᵥ blkB M = w at hw ⊢
  constructor
  · intro hp
    have hne : (Fin.snoc (α := fun _ => ℚ) (-w) (1 : ℚ) : Fin (n + 1) → ℚ) ≠ 0 :=
      fun h => absurd (congrFun h (Fin.last n)) (by rw [Fin.snoc_last]; exact one_ne_zero)
    have h := hp _ hne
    have e0 : ((fun i => (Fin.snoc (α := fun _ => ℚ) (-w) (1 : ℚ) : Fin (n + 1) → ℚ) (Fin.castSucc i))
        + (Fin.snoc (α := fun _ => ℚ) (-w) (1 : ℚ) : Fin (n + 1) → ℚ) (Fin.last n) • w) = 0 := by
      funext i; simp
    rw [qf_complete M hs w hw, e0, qf_zero, zero_add, Fin.snoc_last, one_pow, one_mul] at h
    exact h
  · intro hsp x hx
    rw [qf_complete M hs w hw]
    by_cases ht : x (Fin.last n) = 0
    · have hy : (fun i => x (Fin.castSucc i)) ≠ 0 := by
        intro h
        refine hx (funext fun i => Fin.lastCases ht (fun j => congrFun h j) i)
      rw [ht, zero_smul, add_zero, zero_pow two_ne_zero, zero_mul, add_zero]
      exact hpA _ hy
    · exact add_pos_of_nonneg_of_pos (qf_nonneg (blkA M) hpA _) (mul_pos (sq_pos_of_ne_zero ht) hsp)

end step

theorem lead_blkA (M : Matrix (Fin (n + 1)) (Fin (n + 1)) ℚ) (k : Nat) (hk : k ≤ n) :
    lead (blkA M) k hk = lead M k (Nat.le_succ_of_le hk) := by
  ext i j; rfl

theorem lead_self (M : Matrix (Fin n) (Fin n) ℚ) : lead M n le_rfl = M := by
  ext i j; rfl

/-- **Sylvester's criterion** over ℚ: a symmetric matrix is positive definite iff all its leading
principal minors are positive -/
theorem sylvester : ∀ (n : Nat) (M : Matrix (Fin n) (Fin n) ℚ), M.IsSymm →
    (PosDefQ M ↔ ∀ (k : Nat) (hk : k ≤ n), 0 < (lead M k hk).det) := by
  intro n
  induction n with
  | zero =>
    intro M _
    constructor
    · intro _ k hk
      have : k = 0 := by omega
      subst this
      simp
    · intro _ y hy
      exact absurd (Subsingleton.elim y 0) hy
  | succ n ih =>
    intro M hs
    have ihA := ih (blkA M) (blkA_symm M hs)
    constructor
    · intro hp
      have hpA := posDef_restrict M hs hp
      have hmin := ihA.mp hpA
      have hdA : 0 < (blkA M).det := by
        have := hmin n le_rfl
        rwa [lead_self] at this
      intro k hk
      by_cases hkn : k ≤ n
      · have := hmin k hkn
        rwa [lead_blkA] at this
      · have : k = n + 1 := by omega
        subst this
        rw [lead_self]
        exact (posDef_step M hs hpA hdA).mp hp
    · intro hmin
      have hpA : PosDefQ (blkA M) := by
        apply ihA.mpr
        intro k hk
        rw [lead_blkA]
        exact hmin k _
      have hdA : 0 < (blkA M).det := by
        have := hmin n (Nat.le_succ n)
        rwa [← lead_blkA M n le_rfl, lead_self] at this
      apply (posDef_step M hs hpA hdA).mpr
      have := hmin (n + 1) le_rfl
      rwa [lead_self] at this

end NTV.EnumCheck
