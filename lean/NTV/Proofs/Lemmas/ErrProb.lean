import NTV.Proofs.Lemmas.RabinMonierCount
import Mathlib.Probability.Distributions.Uniform
/-! Measure-theoretic reading of the Rabin–Monier count: under the uniform distribution on base vectors
in [1, n−1]^k a composite n is accepted with probability ≤ (1/4)^k. -/
namespace NTV.Prime
open scoped ENNReal

theorem icc_nonempty (n : Nat) (hn : 1 < n) : (Finset.Icc 1 (n - 1)).Nonempty :=
  ⟨1, Finset.mem_Icc.mpr ⟨le_refl _, Nat.le_sub_one_of_lt hn⟩⟩

theorem baseVectors_nonempty (n k : Nat) (hn : 1 < n) :
    (Fintype.piFinset (fun _ : Fin k => Finset.Icc 1 (n - 1))).Nonempty :=
  Fintype.piFinset_nonempty.mpr (fun _ => icc_nonempty n hn)

/-- the uniform distribution on vectors of k bases in [1, n − 1] -/
noncomputable def uniformBases (n k : Nat) (hn : 1 < n) : PMF (Fin k → Nat) :=
  PMF.uniformOfFinset (Fintype.piFinset (fun _ : Fin k => Finset.Icc 1 (n - 1)))
    (baseVectors_nonempty n k hn)

theorem ennreal_div_le_of_mul_le (a b c : Nat) (hc : 0 < c) (h : c * a ≤ b) :
    ((a : ℝ≥0∞) / (b : ℝ≥0∞)) ≤ (1 / (c : ℝ≥0∞)) := by
  have hc0 : (c : ℝ≥0∞) ≠ 0 := by exact_mod_cast hc.ne'
  apply ENNReal.div_le_of_le_mul'
  rw [mul_one_div, ENNReal.le_div_iff_mul_le (Or.inl hc0) (Or.inl (ENNReal.natCast_ne_top c)), mul_comm]
  exact_mod_cast h

theorem uniformBases_accept_le (n k : Nat) (hn : 1 < n) (hcomp : ¬ n.Prime) :
    (uniformBases n k hn).toOuterMeasure {f | isPrimeWith (n : Int) (List.ofFn f) = true}
      ≤ (1 / 4 : ℝ≥0∞) ^ k := by
  classical
  rw [uniformBases, PMF.toOuterMeasure_uniformOfFinset_apply, card_all_bases n k]
  have hset : ∀ (inst : DecidablePred
      (fun x : Fin k → Nat => x ∈ {f : Fin k → Nat | isPrimeWith (n : Int) (List.ofFn f) = true})),
      @Finset.filter _ _ inst (Fintype.piFinset (fun _ : Fin k => Finset.Icc 1 (n - 1))) =
        accepting n k := fun inst => by rw [accepting]; congr
  rw [hset]
  calc ((accepting n k).card : ℝ≥0∞) / (((n - 1) ^ k : Nat) : ℝ≥0∞) ≤ 1 / ((4 ^ k : Nat) : ℝ≥0∞) :=
        ennreal_div_le_of_mul_le _ _ _ (Nat.pow_pos (by norm_num))
          (four_pow_mul_card_accepting_le n k hn hcomp)
    _ = (1 / 4 : ℝ≥0∞) ^ k := by
      rw [one_div, one_div, Nat.cast_pow, ENNReal.inv_pow]; norm_cast

/-- the mass function of the uniform distribution on [1, n−1]^k is the product of k uniform mass
functions on [1, n−1]: the k bases are independent and each uniform on [1, n − 1]. -/
theorem uniformBases_apply_eq_prod (n k : Nat) (hn : 1 < n) (f : Fin k → Nat) :
    uniformBases n k hn f =
      ∏ i : Fin k, PMF.uniformOfFinset (Finset.Icc 1 (n - 1)) (icc_nonempty n hn) (f i) := by
  classical
  unfold uniformBases
  simp only [PMF.uniformOfFinset_apply, Fintype.mem_piFinset]
  by_cases h : ∀ i, f i ∈ Finset.Icc 1 (n - 1)
  · rw [if_pos h, Fintype.card_piFinset]
    simp only [Finset.prod_const, Finset.card_univ, Fintype.card_fin]
    simp only [h, if_true, Finset.prod_const, Finset.card_univ, Fintype.card_fin, Nat.cast_pow,
      ENNReal.inv_pow]
  · rw [if_neg h]
    simp only [not_forall] at h
    obtain ⟨i, hi⟩ := h
    exact (Finset.prod_eq_zero (Finset.mem_univ i) (if_neg hi)).symm

end NTV.Prime
