import NTV.Proofs.Lemmas.PolyModOpsZMod
import NTV.Proofs.Lemmas.ContPP
import NTV.Model.PolyModFactor
import Mathlib.Algebra.Polynomial.FieldDivision
import Mathlib.Data.ZMod.Basic
/-! # C08: the bridge from the list model modulo p to `(ZMod p)[X]`

`mp p l` is the image of the coefficient list `l` in `(ZMod p)[X]`; `Good p l` says that `l` is a
canonical list with coefficients in [0, p). On good lists the model operations `polyMod`, `mul`,
`polyDivrem`, `polyGcd` are the field operations of `(ZMod p)[X]`. `mp p l` is the same polynomial as
`red p l` of `PolyModZMod`, and the facts about the primitives are taken from there. -/
open Polynomial
namespace NTV.PolyMod
open NTV.PolyG NTV.Hensel

/-- the image of a coefficient list in `(ZMod p)[X]` -/
noncomputable def mp (p : ℕ) (l : List Int) : (ZMod p)[X] := (toPoly l).map (Int.castRingHom (ZMod p))

/-- canonical with coefficients in [0, p) -/
def Good (p : ℕ) (l : List Int) : Prop := Reduced (p : ℤ) l ∧ Canon l

theorem coeff_mp (p : ℕ) (l : List Int) (j : ℕ) : (mp p l).coeff j = ((l.getD j 0 : ℤ) : ZMod p) := coeff_red p l j

@[simp] theorem mp_nil (p : ℕ) : mp p [] = 0 := red_nil p

theorem mp_mul (p : ℕ) (a b : List Int) : mp p (mul a b) = mp p a * mp p b := red_mul p a b

theorem mp_sub (p : ℕ) (a b : List Int) : mp p (sub a b) = mp p a - mp p b := red_sub p a b

theorem mp_add (p : ℕ) (a b : List Int) : mp p (add a b) = mp p a + mp p b := red_add p a b

theorem mp_fromRaw (p : ℕ) (l : List Int) : mp p (fromRaw l) = mp p l := red_fromRaw p l

theorem mp_polyMod (p : ℕ) (f : List Int) : mp p (polyMod f p) = mp p f :=
  (pcong_iff_map p _ _).mp (polyMod_cong f p)

theorem good_polyMod (p : ℕ) (hp : 0 < p) (f : List Int) : Good p (polyMod f p) :=
  ⟨(polyMod_reduced f p (by exact_mod_cast hp)).1, (polyMod_reduced f p (by exact_mod_cast hp)).2.1⟩

theorem good_nil (p : ℕ) (hp : 0 < p) : Good p [] := ⟨reduced_nil _ (by exact_mod_cast hp), canon_nil⟩

theorem mp_polyModSub (p : ℕ) (a b : List Int) : mp p (polyModSub a b p) = mp p a - mp p b := by
  unfold polyModSub; rw [mp_polyMod, mp_sub]

theorem good_polyModSub (p : ℕ) (hp : 0 < p) (a b : List Int) : Good p (polyModSub a b p) :=
  good_polyMod p hp _

theorem good_differentialMod (p : ℕ) (hp : 0 < p) (f : List Int) : Good p (differentialMod f p) := by
  unfold differentialMod
  split
  · exact good_nil p hp
  · exact good_polyMod p hp _

theorem mp_differentialMod (p : ℕ) (f : List Int) : mp p (differentialMod f p) = derivative (mp p f) := by
  unfold differentialMod
  split
  · rename_i h
    rw [List.isEmpty_iff.mp h, mp_nil, derivative_zero]
  · rw [mp_polyMod]
    unfold mp
    rw [toPoly_differential, derivative_map]

theorem polyMod_of_good (p : ℕ) (l : List Int) (h : Good p l) : polyMod l p = l := by
  unfold polyMod
  have : l.map (fun c => Int.fmod c p) = l := by
    apply List.ext_getElem (by simp)
    intro i h1 h2
    simp only [List.getElem_map]
    have := h.1 i
    simp only [List.getD_eq_getElem?_getD, List.getElem?_eq_getElem h2, Option.getD_some] at this
    rw [Int.fmod_eq_emod_of_nonneg _ (by omega)]
    exact Int.emod_eq_of_lt this.1 this.2
  rw [this]
  exact fromRaw_of_canon l h.2

theorem forall_mem_snoc {α : Type} {P : α → Prop} {l : List α} {x : α} (h : ∀ y ∈ l, P y) (hx : P x) :
    ∀ y ∈ l ++ [x], P y :=
  List.forall_mem_append.mpr ⟨h, List.forall_mem_singleton.mpr hx⟩

section prime
variable (p : ℕ) [hp : Fact p.Prime]

omit hp in
theorem lc_pos_of_good (l : List Int) (h : Good p l) (hne : l ≠ []) : 0 < lc l ∧ lc l < p := by
  have h0 := lc_ne_zero l hne h.2
  have := h.1 (l.length - 1)
  rw [lc_eq_getD l hne] at this
  omega

theorem natDegree_mp (l : List Int) (h : Good p l) (hne : l ≠ []) :
    (mp p l).natDegree = l.length - 1 ∧ (mp p l).leadingCoeff = ((lc l : ℤ) : ZMod p) ∧ mp p l ≠ 0 := by
  obtain ⟨h0, hd⟩ := red_spec p l hne h.1 h.2
  refine ⟨hd, ?_, h0⟩
  rw [← lc_eq_getD l hne, ← coeff_mp, ← hd]
  rfl

theorem degU_eq_natDegree (l : List Int) (h : Good p l) (hne : l ≠ []) : degU l = (mp p l).natDegree := by
  rw [(natDegree_mp p l h hne).1, degU_of_ne_nil hne]

omit hp in
theorem mp_inj (a b : List Int) (ha : Good p a) (hb : Good p b) (h : mp p a = mp p b) : a = b := by
  apply toPoly_inj a b ha.2 hb.2
  ext i
  rw [coeff_toPoly, coeff_toPoly]
  apply cast_inj_of_range p _ _ (ha.1 i).1 (ha.1 i).2 (hb.1 i).1 (hb.1 i).2
  rw [← coeff_mp, h, coeff_mp]

theorem polyDivrem_mp (a b : List Int) (ha : Good p a) (hb : Good p b) (hbne : b ≠ []) :
    mp p a = mp p (polyDivrem a b p).1 * mp p b + mp p (polyDivrem a b p).2 ∧
    (mp p (polyDivrem a b p).2).degree < (mp p b).degree ∧
    Good p (polyDivrem a b p).1 ∧ Good p (polyDivrem a b p).2 := by
  obtain ⟨h1, q1, q2, r1, r2, hlen, _⟩ := polyDivrem_red p hp.out a b ha.1 hb.1 ha.2 hb.2 hbne
  obtain ⟨hd, _, h0⟩ := natDegree_mp p b hb hbne
  refine ⟨h1, ?_, ⟨q1, q2⟩, ⟨r1, r2⟩⟩
  rw [degree_eq_natDegree h0, hd]
  exact (degree_red_lt p _).trans_le (by exact_mod_cast Nat.le_sub_one_of_lt hlen)

/-- g is a greatest common divisor of a and b -/
def IsGcd {R : Type} [CommRing R] (g a b : R) : Prop := g ∣ a ∧ g ∣ b ∧ ∀ c, c ∣ a → c ∣ b → c ∣ g

omit hp in
/-- `poly_gcd(a, 0)` returns a after at most two rounds -/
theorem polyGcd_nil (a : List Int) : polyGcd a [] (p : Int) = .ok a := by
  show polyGcdAux (p : Int) (a.length + 0 + 2 + 1) a [] = .ok a
  rw [polyGcdAux_succ, polyDivrem_short a [] p (Or.inr (Or.inl rfl))]
  split
  · rename_i h
    exact (congrArg Except.ok h).symm
  · rw [polyGcdAux_succ, polyDivrem_short [] a p (Or.inl rfl), if_pos rfl]

theorem polyGcd_isGcd (a b g : List Int) (ha : Good p a) (hb : Good p b)
    (h : polyGcd a b (p : Int) = .ok g) : IsGcd (mp p g) (mp p a) (mp p b) ∧ Good p g := by
  by_cases hbn : b = []
  · subst hbn
    obtain rfl := Except.ok.inj ((polyGcd_nil p a).symm.trans h)
    exact ⟨⟨dvd_refl _, by rw [mp_nil]; exact dvd_zero _, fun c hc _ => hc⟩, ha⟩
  · obtain ⟨_, g2, g3, d1, d2, d3⟩ := polyGcd_red p hp.out a b g ha.1 hb.1 ha.2 hb.2 hbn h
    exact ⟨⟨d1, d2, d3⟩, g2, g3⟩

theorem IsGcd.ne_zero {R : Type} [CommRing R] {g a b : R} (h : IsGcd g a b) (hab : a ≠ 0 ∨ b ≠ 0) : g ≠ 0 := by
  rintro rfl
  rcases hab with h0 | h0
  · exact h0 (zero_dvd_iff.mp h.1)
  · exact h0 (zero_dvd_iff.mp h.2.1)

end prime
end NTV.PolyMod
