import NTV.Proofs.Lemmas.FactorModPMain
import Mathlib.FieldTheory.Finite.Extension
import Mathlib.RingTheory.Ideal.Quotient.Operations
/-! # C08: the distinct degree stage and the assembly of `factorize_mod_p`

The distinct degree stage never runs out of fuel, returns parts that multiply to its input and, for a squarefree input, under the
label d a polynomial all of whose irreducible factors have degree exactly d; the assembled factors are
monic, irreducible, pairwise distinct, and lc · ∏ gᵉ is the input. -/
open Polynomial
namespace NTV.PolyMod
open NTV.PolyG NTV.Hensel

section prime
variable (p : ℕ) [hp : Fact p.Prime]

/-- reduction modulo G -/
noncomputable abbrev qm (G : (ZMod p)[X]) : (ZMod p)[X] →+* (ZMod p)[X] ⧸ Ideal.span {G} :=
  Ideal.Quotient.mk _

theorem qm_eq_iff {G a b : (ZMod p)[X]} : qm p G a = qm p G b ↔ G ∣ a - b := by
  rw [Ideal.Quotient.eq, Ideal.mem_span_singleton]

theorem rem_spec (a g : Poly) (ha : Good p a) (hg : GoodNZ p g) :
    mp p g ∣ mp p (polyDivrem a g p).2 - mp p a ∧ Good p (polyDivrem a g p).2 := by
  obtain ⟨h1, _, _, h4⟩ := polyDivrem_mp p a g ha hg.1 hg.2
  refine ⟨?_, h4⟩
  rw [h1, sub_add_cancel_right]
  exact (dvd_mul_left _ _).neg_right

omit hp in
theorem mp_x : mp p [0, 1] = X := by simp [mp, toPoly]

/-- the irreducible factors of a part labelled d have degree exactly d -/
def DegPart (x : Poly × Nat) : Prop :=
  ∀ q : (ZMod p)[X], Irreducible q → q ∣ mp p x.1 → q.natDegree = x.2

/-- the key step of distinct degree factorisation: with V ∣ W − X^(p^n), an irreducible factor q of V
divides gcd(W − X, V) iff deg q ∣ n -/
theorem ddf_key {q V W A : (ZMod p)[X]} {n : ℕ} (hq : Irreducible q) (hqV : q ∣ V)
    (hVW : V ∣ W - X ^ (p ^ n)) (hA : IsGcd A (W - X) V) : q ∣ A ↔ q.natDegree ∣ n := by
  have hiff := hq.natDegree_dvd_iff_dvd_X_pow_card_pow_sub_X (n := n)
  rw [Nat.card_zmod] at hiff
  constructor
  · intro hqA
    rw [hiff, ← sub_sub_sub_cancel_left X (X ^ p ^ n) W]
    exact dvd_sub (hqA.trans hA.1) (hqV.trans hVW)
  · intro hd
    apply hA.2.2 q _ hqV
    rw [← sub_add_sub_cancel' (X ^ p ^ n) X W]
    exact dvd_add (hiff.mp hd) (hqV.trans hVW)

/-- one round of the distinct degree loop in `(ZMod p)[X]`: W₁ ≡ Wᵖ mod V, A = gcd(W₁ − X, V), every
irreducible factor of V of degree > d. Then A collects exactly the factors of degree d + 1. -/
theorem ddf_step {V W W1 A : (ZMod p)[X]} {d : ℕ} (hw : V ∣ W - X ^ (p ^ d)) (hW1 : V ∣ W1 - W ^ p)
    (hA : IsGcd A (W1 - X) V) (hdeg : ∀ q : (ZMod p)[X], Irreducible q → q ∣ V → d < q.natDegree) :
    V ∣ W1 - X ^ (p ^ (d + 1)) ∧ (∀ q : (ZMod p)[X], Irreducible q → q ∣ A → q.natDegree = d + 1) ∧
    ∀ q : (ZMod p)[X], Irreducible q → q ∣ V → ¬ q ∣ A → d + 1 < q.natDegree := by
  have hw' : V ∣ W1 - X ^ (p ^ (d + 1)) := by
    rw [pow_succ, pow_mul, ← sub_add_sub_cancel W1 (W ^ p)]
    exact dvd_add hW1 (hw.trans (sub_dvd_pow_sub_pow _ _ p))
  refine ⟨hw', fun q hq hqa => ?_, fun q hq hqv hqa => ?_⟩
  · have hqv : q ∣ V := hqa.trans hA.2.1
    have h1 := hdeg q hq hqv
    have h2 := Nat.le_of_dvd d.succ_pos ((ddf_key p hq hqv hw' hA).mp hqa)
    omega
  · have h1 := hdeg q hq hqv
    by_contra hle
    have hdq : q.natDegree = d + 1 := by omega
    exact hqa ((ddf_key p hq hqv hw' hA).mpr (by rw [hdq]))

theorem natDegree_eq_of_dvd_small {V q : (ZMod p)[X]} {d : ℕ} (hV : V ≠ 0) (hsmall : ¬ 2 * d + 2 ≤ V.natDegree)
    (hdeg : ∀ q : (ZMod p)[X], Irreducible q → q ∣ V → d < q.natDegree) (hq : Irreducible q) (hqV : q ∣ V) :
    q.natDegree = V.natDegree := by
  obtain ⟨c, rfl⟩ := hqV
  have hc0 : c ≠ 0 := right_ne_zero_of_mul hV
  rw [natDegree_mul hq.ne_zero hc0] at hsmall ⊢
  by_cases hcu : IsUnit c
  · rw [natDegree_eq_zero_of_isUnit hcu, add_zero]
  · exfalso
    obtain ⟨q', hq', hq'c⟩ := WfDvdMonoid.exists_irreducible_factor hcu hc0
    have h1 := hdeg q hq (dvd_mul_right q c)
    have h2 := hdeg q' hq' (hq'c.trans (dvd_mul_left c q))
    have h3 := natDegree_le_of_dvd hq'c hc0
    omega

/-- the distinct degree loop never runs out of fuel (v loses degree, or d grows towards deg v / 2), and on a
successful run the parts multiply to the input; if moreover v is squarefree, V ∣ W − X^(p^d) and every irreducible
factor of V has degree > d, every part collects the factors of the degree it is labelled with -/
theorem degreeLoop_spec : ∀ (fuel : Nat) (v w : Poly) (d : Nat) (result : Factors),
    GoodNZ p v → (∀ x ∈ result, GoodNZ p x.1) →
    (∀ L, v.length ≤ L → 2 * d ≤ L → L + 2 ≤ fuel + d → ∃ ds, degreeLoop (p : Int) fuel v w d result = .ok ds) ∧
    ∀ ds, degreeLoop (p : Int) fuel v w d result = .ok ds →
      Associated (pprod p ds) (pprod p result * mp p v) ∧ (∀ x ∈ ds, GoodNZ p x.1) ∧
      (Good p w → SqF p (mp p v) → mp p v ∣ mp p w - X ^ (p ^ d) →
        (∀ q : (ZMod p)[X], Irreducible q → q ∣ mp p v → d < q.natDegree) → (∀ x ∈ result, DegPart p x) →
        ∀ x ∈ ds, DegPart p x) := by
  intro fuel
  induction fuel with
  | zero =>
    intro v w d result _ _
    exact ⟨fun L _ _ h => by omega, fun ds h => by simp [degreeLoop] at h⟩
  | succ fuel ih =>
    intro v w d result hv hres
    simp only [degreeLoop]
    by_cases hcond : 2 * d + 2 ≤ degU v
    · simp only [if_pos hcond]
      obtain ⟨ad, hg⟩ := polyGcd_total_good p (polyModSub (polyModpow w p v p) [0, 1] p) v
        (good_polyModSub p hp.out.pos _ _) hv.1
      rw [hg, ok_bind']
      obtain ⟨g1, g2⟩ := gcd_out p (good_polyModSub p hp.out.pos _ _) hv.1 (Or.inr hv.2) hg
      rw [mp_polyModSub, mp_x] at g1
      have round : Good p w → mp p v ∣ mp p w - X ^ (p ^ d) →
          (∀ q : (ZMod p)[X], Irreducible q → q ∣ mp p v → d < q.natDegree) →
          Good p (polyModpow w (p : Int) v p) ∧ mp p v ∣ mp p (polyModpow w (p : Int) v p) - X ^ (p ^ (d + 1)) ∧
          (∀ q : (ZMod p)[X], Irreducible q → q ∣ mp p ad → q.natDegree = d + 1) ∧
          ∀ q : (ZMod p)[X], Irreducible q → q ∣ mp p v → ¬ q ∣ mp p ad → d + 1 < q.natDegree := by
        intro hgw hw hdeg
        obtain ⟨m2r, m2c, m1⟩ := polyModpow_red p hp.out w v (p : Int) hv.1.1 hv.1.2 hv.2 hgw.1 hgw.2
        rw [Int.toNat_natCast] at m1
        exact ⟨⟨m2r, m2c⟩, ddf_step p hw m1 g1 hdeg⟩
      have hdu := degU_of_ne_nil hv.2
      split
      · -- a part of degree d + 1 is split off
        obtain ⟨e1, e2⟩ := divide_out p hv g2 g1.2.1
        have hv'v : mp p (polyDivrem v ad p).1 ∣ mp p v := ⟨mp p ad, e1⟩
        obtain ⟨t1, s1⟩ := ih (polyDivrem v ad p).1
          (polyDivrem (polyModpow w (p : Int) v p) (polyDivrem v ad p).1 p).2 (d + 1) (result ++ [(ad, d + 1)]) e2
          (forall_mem_snoc hres g2)
        refine ⟨fun L hL hd hf => t1 L ?_ (by omega) (by omega), fun ds h => ?_⟩
        · have hn := nd_mul p hv e1
          have hl1 := nd_length p hv
          have hl2 := nd_length p e2
          omega
        obtain ⟨i1, i2, i3⟩ := s1 ds h
        refine ⟨?_, i2, fun hgw hsq hw hdeg hresD => ?_⟩
        · rw [pprod_append, pprod_cons, pprod_nil, mul_one] at i1
          rw [e1, mul_comm (mp p _), ← mul_assoc]
          exact i1
        · obtain ⟨m2, hw', hpart, hrest⟩ := round hgw hw hdeg
          obtain ⟨r1, r2⟩ := rem_spec p (polyModpow w (p : Int) v p) _ m2 e2
          refine i3 r2 (hsq.of_dvd p hv'v) ?_ (fun q hq hqv' => hrest q hq (hqv'.trans hv'v) ?_)
            (forall_mem_snoc hresD (x := (ad, d + 1)) hpart)
          · -- w ← w mod v'
            rw [← sub_add_sub_cancel _ (mp p (polyModpow w (p : Int) v p))]
            exact dvd_add r1 (hv'v.trans hw')
          · rw [e1] at hsq
            exact hsq.not_dvd_right p hq hqv'
      · -- nothing of degree d + 1
        rename_i hd
        obtain ⟨t1, s1⟩ := ih v (polyModpow w (p : Int) v p) (d + 1) result hv hres
        refine ⟨fun L hL hd hf => t1 L hL (by omega) (by omega), fun ds h => ?_⟩
        obtain ⟨i1, i2, i3⟩ := s1 ds h
        refine ⟨i1, i2, fun hgw hsq hw hdeg hresD => ?_⟩
        obtain ⟨m2, hw', _, hrest⟩ := round hgw hw hdeg
        have hu : IsUnit (mp p ad) := isUnit_mp_of_degU_zero p g2 (by omega)
        exact i3 m2 hsq hw'
          (fun q hq hqv => hrest q hq hqv fun hqa => hq.not_isUnit (isUnit_of_dvd_unit hqa hu)) hresD
    · simp only [if_neg hcond]
      refine ⟨fun _ _ _ _ => ⟨_, rfl⟩, fun ds h => ?_⟩
      simp only [pure, Except.pure, Except.ok.injEq] at h
      subst h
      split
      · rw [pprod_append, pprod_cons, pprod_nil, mul_one]
        refine ⟨Associated.refl _, forall_mem_snoc hres hv,
          fun _ _ _ hdeg hresD => forall_mem_snoc hresD fun q hq hqv => ?_⟩
        rw [degU_eq_natDegree p v hv.1 hv.2] at hcond ⊢
        exact natDegree_eq_of_dvd_small p (GoodNZ.mp_ne_zero p hv) hcond hdeg hq hqv
      · rename_i hd
        exact ⟨associated_mul_unit_right _ _ (isUnit_mp_of_degU_zero p hv (by omega)), hres,
          fun _ _ _ _ hresD => hresD⟩

/-- the parts returned by `degree` multiply to the input, up to a unit -/
theorem degree_product (poly : Poly) (ds : Factors) (hpoly : GoodNZ p poly)
    (h : degree poly (p : Int) = .ok ds) :
    Associated (pprod p ds) (mp p poly) ∧ (∀ x ∈ ds, GoodNZ p x.1) := by
  obtain ⟨h1, h2, _⟩ := (degreeLoop_spec p _ poly [0, 1] 0 [] hpoly (by simp)).2 ds h
  rw [pprod_nil, one_mul] at h1
  exact ⟨h1, h2⟩

/-- on a squarefree input, every irreducible factor of the part that `degree`
returns under the label d has degree exactly d -/
theorem degree_sound (poly : Poly) (ds : Factors) (hpoly : GoodNZ p poly) (hsq : SqF p (mp p poly))
    (h : degree poly (p : Int) = .ok ds) : ∀ x ∈ ds, DegPart p x := by
  refine ((degreeLoop_spec p _ poly [0, 1] 0 [] hpoly (by simp)).2 ds h).2.2 (good_x p) hsq ?_ ?_ (by simp)
  · rw [mp_x]; simp
  · intro q hq _
    exact hq.natDegree_pos

omit hp in
theorem mem_dvd_lprod {l : List Poly} {x : Poly} (hx : x ∈ l) : mp p x ∣ lprod p l :=
  List.dvd_prod (List.mem_map_of_mem hx)

omit hp in
theorem mem_dvd_pprod {l : Factors} {x : Poly × Nat} (hx : x ∈ l) : mp p x.1 ∣ pprod p l :=
  List.dvd_prod (List.mem_map.mpr ⟨x, hx, rfl⟩)

/-- the normalisation loop: the normalised factors are monic associates of the pieces, hence keep the products;
a piece of degree d all of whose irreducible factors have degree d is irreducible -/
theorem normaliseAll_spec (d e : Nat) (hd1 : 1 ≤ d) (he : 1 ≤ e) : ∀ (l : List Poly) (result res' : Factors),
    (∀ x ∈ l, GoodNZ p x ∧ ∀ q : (ZMod p)[X], Irreducible q → q ∣ mp p x → q.natDegree = d) →
    (∀ x ∈ result, Shape p x ∧ Irreducible (mp p x.1)) →
    normaliseAll (p : Int) d e l result = .ok res' →
    (∀ x ∈ res', Shape p x ∧ Irreducible (mp p x.1)) ∧
    Associated (pprod p res') (pprod p result * lprod p l) ∧
    Associated (fprod p res') (fprod p result * lprod p l ^ e) := by
  intro l
  induction l with
  | nil =>
    intro result res' _ hres h
    simp only [normaliseAll, pure, Except.pure, Except.ok.injEq] at h
    subst h
    exact ⟨hres, by rw [lprod_nil, mul_one], by rw [lprod_nil, one_pow, mul_one]⟩
  | cons factor rest ih =>
    intro result res' hl hres h
    simp only [normaliseAll] at h
    split at h
    · cases h
    rename_i hdeg
    have hdeg : degU factor = d := by simpa using hdeg
    obtain ⟨hf, hfd⟩ := hl factor List.mem_cons_self
    obtain ⟨s1, s2⟩ := normalise_one p factor d hf hdeg hd1 e he
    have hnd : (mp p factor).natDegree = d := by rw [← degU_eq_natDegree p factor hf.1 hf.2]; exact hdeg
    have hirr : Irreducible (mp p factor) := irreducible_of_factor_degrees p hd1 hnd hfd
    have hres' : ∀ x ∈ result ++ [(polyMod (mul factor (fromRaw [modinv (coefAt factor d) p])) p, e)],
        Shape p x ∧ Irreducible (mp p x.1) := forall_mem_snoc hres ⟨s1, s2.symm.irreducible hirr⟩
    obtain ⟨i1, i2, i3⟩ := ih _ res' (fun x hx => hl x (List.mem_cons_of_mem _ hx)) hres' h
    refine ⟨i1, i2.trans ?_, i3.trans ?_⟩
    · rw [pprod_append, pprod_cons, pprod_nil, mul_one, lprod_cons, ← mul_assoc]
      exact (s2.mul_left (pprod p result)).mul_right (lprod p rest)
    · rw [fprod_append, fprod_cons, fprod_nil, mul_one, lprod_cons, mul_pow, ← mul_assoc]
      exact ((s2.pow_pow (n := e)).mul_left (fprod p result)).mul_right (lprod p rest ^ e)

theorem splitAll_spec (e : Nat) (he : 1 ≤ e) : ∀ (ds result : Factors) (s : NTV.Draw.Stream) (res' : Factors)
    (s' : NTV.Draw.Stream), (∀ x ∈ ds, GoodNZ p x.1 ∧ DegPart p x) →
    (∀ x ∈ result, Shape p x ∧ Irreducible (mp p x.1)) →
    splitAll (p : Int) e ds result s = .ok (res', s') →
    (∀ x ∈ res', Shape p x ∧ Irreducible (mp p x.1)) ∧
    Associated (pprod p res') (pprod p result * pprod p ds) ∧
    Associated (fprod p res') (fprod p result * pprod p ds ^ e) := by
  intro ds
  induction ds with
  | nil =>
    intro result s res' s' _ hres h
    simp only [splitAll, pure, Except.pure, Except.ok.injEq, Prod.mk.injEq] at h
    obtain ⟨rfl, rfl⟩ := h
    exact ⟨hres, by rw [pprod_nil, mul_one], by rw [pprod_nil, one_pow, mul_one]⟩
  | cons x rest ih =>
    obtain ⟨prod, d⟩ := x
    intro result s res' s' hds hres h
    obtain ⟨hprod, hpart⟩ := hds (prod, d) List.mem_cons_self
    have hrest : ∀ x ∈ rest, GoodNZ p x.1 ∧ DegPart p x := fun x hx => hds x (List.mem_cons_of_mem _ hx)
    simp only [splitAll] at h
    split at h
    · rename_i hd0
      obtain ⟨i1, i2, i3⟩ := ih _ _ _ _ hrest hres h
      have hu : IsUnit (mp p prod) := isUnit_mp_of_degU_zero p hprod hd0
      refine ⟨i1, i2.trans ?_, i3.trans ?_⟩
      · rw [pprod_cons]
        exact (associated_unit_mul_right (pprod p rest) _ hu).mul_left (pprod p result)
      · rw [pprod_cons, mul_pow]
        exact (associated_unit_mul_right (pprod p rest ^ e) _ (hu.pow e)).mul_left (fprod p result)
    · obtain ⟨⟨spl, s1⟩, h1, h⟩ := bind_ok h
      obtain ⟨r1, h2, h3⟩ := bind_ok h
      obtain ⟨f1, f2, f3⟩ := finalSplit_product p prod d s spl s1 hprod h1
      have hl : ∀ x ∈ spl, GoodNZ p x ∧ ∀ q : (ZMod p)[X], Irreducible q → q ∣ mp p x → q.natDegree = d :=
        fun x hx => ⟨f2 x hx, fun q hq hqx => hpart q hq ((hqx.trans (mem_dvd_lprod p hx)).trans f1.dvd)⟩
      obtain ⟨n1, n2, n3⟩ := normaliseAll_spec p d e (by omega) he spl result r1 hl hres h2
      obtain ⟨i1, i2, i3⟩ := ih _ _ _ _ hrest n1 h3
      refine ⟨i1, i2.trans ?_, i3.trans ?_⟩
      · rw [pprod_cons, ← mul_assoc]
        exact (n2.trans (f1.mul_left (pprod p result))).mul_right (pprod p rest)
      · rw [pprod_cons, mul_pow, ← mul_assoc]
        exact (n3.trans ((f1.pow_pow (n := e)).mul_left (fprod p result))).mul_right (pprod p rest ^ e)

theorem factorAll_spec : ∀ (sqs result : Factors) (s : NTV.Draw.Stream) (res' : Factors)
    (s' : NTV.Draw.Stream), (∀ x ∈ sqs, Entry p x ∧ SqF p (mp p x.1)) →
    (∀ x ∈ result, Shape p x ∧ Irreducible (mp p x.1)) →
    factorAll (p : Int) sqs result s = .ok (res', s') →
    (∀ x ∈ res', Shape p x ∧ Irreducible (mp p x.1)) ∧
    Associated (pprod p res') (pprod p result * pprod p sqs) ∧
    Associated (fprod p res') (fprod p result * fprod p sqs) := by
  intro sqs
  induction sqs with
  | nil =>
    intro result s res' s' _ hres h
    simp only [factorAll, pure, Except.pure, Except.ok.injEq, Prod.mk.injEq] at h
    obtain ⟨rfl, rfl⟩ := h
    exact ⟨hres, by rw [pprod_nil, mul_one], by rw [fprod_nil, mul_one]⟩
  | cons x rest ih =>
    obtain ⟨sq, e⟩ := x
    intro result s res' s' hsqs hres h
    obtain ⟨⟨hsq, he⟩, hsqf⟩ := hsqs (sq, e) List.mem_cons_self
    simp only [factorAll] at h
    obtain ⟨degrees, h1, h⟩ := bind_ok h
    obtain ⟨⟨r1, s1⟩, h2, h3⟩ := bind_ok h
    obtain ⟨d1, d2⟩ := degree_product p sq degrees hsq h1
    have d3 := degree_sound p sq degrees hsq hsqf h1
    obtain ⟨p1, p2, p3⟩ := splitAll_spec p e he degrees result s r1 s1 (fun x hx => ⟨d2 x hx, d3 x hx⟩) hres h2
    obtain ⟨i1, i2, i3⟩ := ih _ _ _ _ (fun x hx => hsqs x (List.mem_cons_of_mem _ hx)) p1 h3
    refine ⟨i1, i2.trans ?_, i3.trans ?_⟩
    · rw [pprod_cons, ← mul_assoc]
      exact (p2.trans (d1.mul_left (pprod p result))).mul_right (pprod p rest)
    · rw [fprod_cons, ← mul_assoc]
      exact (p3.trans ((d1.pow_pow (n := e)).mul_left (fprod p result))).mul_right (fprod p rest)

/-- the assembled result of `factorize_mod_p` in `(ZMod p)[X]`: lc · ∏ gᵉ is the input, every g is monic of the
returned shape and irreducible, and no g is returned twice (the product of the g is squarefree) -/
theorem factorizeModP_correct (f : Poly) (pusize : Nat) (s : NTV.Draw.Stream) (fs : Factors)
    (hpu : pusize = p ∨ f.length ≤ p) (h : factorizeModP f (p : Int) pusize s = .ok fs) :
    mp p f = C (mp p f).leadingCoeff * fprod p fs ∧ (∀ x ∈ fs, Shape p x ∧ Irreducible (mp p x.1)) ∧
    polyMod f p ≠ [] ∧ (fs.map Prod.fst).Nodup := by
  unfold factorizeModP at h
  obtain ⟨sq, h1, h⟩ := bind_ok h
  obtain ⟨⟨r, s'⟩, h2, h3⟩ := bind_ok h
  simp only [pure, Except.pure, Except.ok.injEq] at h3
  subst h3
  have hgood := good_polyMod p hp.out.pos f
  have hne : polyMod f p ≠ [] := by
    intro e
    rw [e] at h1
    simp [squarefree, throw, throwThe, MonadExceptOf.throw] at h1
  obtain ⟨q1, q2, q3⟩ := squarefree_product p (polyMod f p) pusize sq ⟨hgood, hne⟩
    (hpu.imp_right (length_polyMod_le f p).trans) h1
  obtain ⟨a1, a2, a3⟩ := factorAll_spec p sq [] s r s'
    (fun x hx => ⟨q2 x hx, q3.of_dvd p (mem_dvd_pprod p hx)⟩) (by simp) h2
  rw [pprod_nil, one_mul] at a2
  rw [fprod_nil, one_mul] at a3
  refine ⟨?_, a1, hne, ?_⟩
  · -- a monic associate of f
    have hmonic : (fprod p r).Monic := fprod_monic p r fun x hx => (a1 x hx).1
    obtain ⟨u, hu⟩ : Associated (fprod p r) (mp p f) := by rw [← mp_polyMod]; exact a3.trans q1
    obtain ⟨c, hc⟩ := Polynomial.isUnit_iff.mp u.isUnit
    rw [← hc.2] at hu
    rw [← hu, leadingCoeff_mul, hmonic.leadingCoeff, one_mul, leadingCoeff_C]
    exact mul_comm _ _
  · have hnd : (r.map (fun x : Poly × Nat => mp p x.1)).Nodup := nodup_of_sqF_prod p _
      (by intro y hy; obtain ⟨x, hx, rfl⟩ := List.mem_map.mp hy; exact (a1 x hx).2) (q3.of_dvd p a2.dvd)
    have : r.map (fun x => mp p x.1) = (r.map Prod.fst).map (mp p) := by simp
    rw [this] at hnd
    exact hnd.of_map _

theorem factorizeModP_spec (f : Poly) (pusize : Nat) (s : NTV.Draw.Stream) (fs : Factors)
    (hpu : pusize = p ∨ f.length ≤ p) (h : factorizeModP f (p : Int) pusize s = .ok fs) :
    mp p f = C (mp p f).leadingCoeff * fprod p fs ∧ (∀ x ∈ fs, Shape p x) ∧ polyMod f p ≠ [] := by
  obtain ⟨h1, h2, h3, _⟩ := factorizeModP_correct p f pusize s fs hpu h
  exact ⟨h1, fun x hx => (h2 x hx).1, h3⟩

/-- every returned factor is irreducible over F_p, and no factor is returned twice -/
theorem factorizeModP_irreducible_nodup (f : Poly) (pusize : Nat) (s : NTV.Draw.Stream) (fs : Factors)
    (hpu : pusize = p ∨ f.length ≤ p) (h : factorizeModP f (p : Int) pusize s = .ok fs) :
    (∀ x ∈ fs, Irreducible (mp p x.1)) ∧ (fs.map Prod.fst).Nodup := by
  obtain ⟨_, h2, _, h4⟩ := factorizeModP_correct p f pusize s fs hpu h
  exact ⟨fun x hx => (h2 x hx).2, h4⟩

end prime
end NTV.PolyMod
