import NTV.Proofs.Lemmas.FactorModPSquarefree
/-! # C08: `factorize_mod_p` — irrelevance of `pusize` for small degree, and the way back from `(ZMod p)[X]` to ℤ[X] -/
open Polynomial
namespace NTV.PolyMod
open NTV.PolyG NTV.Hensel

theorem bind_congr_ok {α β : Type} (x : M α) (f g : α → M β) (h : ∀ a, x = .ok a → f a = g a) :
    x >>= f = x >>= g := by
  cases x with
  | error e => rfl
  | ok a => exact h a rfl

theorem length_polyMod_le (f : Poly) (p : Int) : (polyMod f p).length ≤ f.length := by
  unfold polyMod
  exact (length_fromRaw_le_lengthL _).trans (by simp)

section prime
variable (p : ℕ) [hp : Fact p.Prime]

/-- when deg t₀ < p no p-th root is ever taken, so `pusize` is never read -/
theorem sqOuter_pusize_irrelevant (u u' : Nat) (fuel : Nat) (t0 : Poly) (e : Nat) (result : Factors)
    (ht0 : GoodNZ p t0) (he : 1 ≤ e) (hlen : t0.length ≤ p) (hres : ∀ x ∈ result, Entry p x) :
    sqOuter (p : Int) u fuel t0 e result = sqOuter (p : Int) u' fuel t0 e result := by
  cases fuel with
  | zero => rfl
  | succ fuel =>
    simp only [sqOuter]
    split
    · rfl
    · apply bind_congr_ok
      intro t hg
      apply bind_congr_ok
      rintro ⟨exit, r1⟩ hin
      cases exit with
      | done => rfl
      | root t' =>
        exfalso
        obtain ⟨_, _, i3, _⟩ := sqOuter_round p ht0 he hres hg hin
        obtain ⟨_, _, _, _, _, hnle, _⟩ := i3 t' rfl
        exact hnle hlen

theorem squarefree_pusize_irrelevant (poly : Poly) (u u' : Nat) (hpoly : Good p poly) (hlen : poly.length ≤ p) :
    squarefree poly (p : Int) u = squarefree poly (p : Int) u' := by
  unfold squarefree
  split
  · rfl
  · rename_i hne
    have hnz : GoodNZ p poly := ⟨hpoly, by intro e; apply hne; rw [e]; rfl⟩
    rw [polyMod_of_good p poly hpoly]
    exact sqOuter_pusize_irrelevant p u u' _ poly 1 [] hnz (le_refl 1) hlen (by simp)

theorem fprod_monic (fs : Factors) (h : ∀ x ∈ fs, Shape p x) : (fprod p fs).Monic := by
  induction fs with
  | nil => simp
  | cons x fs ih =>
    rw [fprod_cons]
    exact ((Shape.monic p (h x List.mem_cons_self)).pow _).mul (ih fun y hy => h y (List.mem_cons_of_mem _ hy))

/-- ∏ gᵉ in ℤ[X] -/
noncomputable def factorProduct (fs : Factors) : ℤ[X] := (fs.map (fun x => toPoly x.1 ^ x.2)).prod
/-- ∏ g over the first components, in ℤ[X] -/
noncomputable def partProduct (fs : Factors) : ℤ[X] := (fs.map (fun x => toPoly x.1)).prod
/-- ∏ g over a list of polynomials, in ℤ[X] -/
noncomputable def listProduct (l : List Poly) : ℤ[X] := (l.map toPoly).prod

theorem map_factorProduct (fs : Factors) : (factorProduct fs).map (Int.castRingHom (ZMod p)) = fprod p fs := by
  simp [factorProduct, fprod, mp, Polynomial.map_list_prod, Function.comp_def]

theorem map_partProduct (fs : Factors) : (partProduct fs).map (Int.castRingHom (ZMod p)) = pprod p fs := by
  simp [partProduct, pprod, mp, Polynomial.map_list_prod, Function.comp_def]

theorem map_listProduct (l : List Poly) : (listProduct l).map (Int.castRingHom (ZMod p)) = lprod p l := by
  rw [listProduct, lprod, Polynomial.map_list_prod, List.map_map]
  rfl

/-- "equal up to a unit of F_p" read back in ℤ[X]: a congruence after multiplying by an integer
constant c with 0 < c < p -/
theorem pcong_of_associated (F G : ℤ[X])
    (h : Associated (F.map (Int.castRingHom (ZMod p))) (G.map (Int.castRingHom (ZMod p)))) :
    ∃ c : ℤ, 0 < c ∧ c < p ∧ PCong (p : ℤ) (C c * F) G := by
  obtain ⟨u, hu⟩ := h
  obtain ⟨c', hc'⟩ := Polynomial.isUnit_iff.mp u.isUnit
  have hc0 : c' ≠ 0 := hc'.1.ne_zero
  have : NeZero p := ⟨hp.out.ne_zero⟩
  have hcast : (((c'.val : ℕ) : ℤ) : ZMod p) = c' := by rw [Int.cast_natCast, ZMod.natCast_zmod_val]
  refine ⟨(c'.val : ℤ), by exact_mod_cast (ZMod.val_pos.mpr hc0), by exact_mod_cast ZMod.val_lt c', ?_⟩
  rw [pcong_iff_map, ← hu, ← hc'.2, Polynomial.map_mul, map_C, eq_intCast, hcast, mul_comm]

end prime
end NTV.PolyMod
