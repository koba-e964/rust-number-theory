import NTV.Proofs.Lemmas.FactorModPBasics
import Mathlib.FieldTheory.Perfect
import Mathlib.FieldTheory.Finite.Basic
import Mathlib.RingTheory.UniqueFactorizationDomain.Multiplicity
import Mathlib.Algebra.Polynomial.Expand
/-! # C08: the algebra behind the squarefree stage (Cohen 3.4.2) in `(ZMod p)[X]`

Multiplicities of irreducible factors under derivation in characteristic p, the invariant of the inner
loop, and the p-th root. No model functions here. -/
open Polynomial
namespace NTV.PolyMod
section
variable (p : ℕ) [hp : Fact p.Prime]

theorem irreducible_not_dvd_derivative {q : (ZMod p)[X]} (hq : Irreducible q) : ¬ q ∣ derivative q := by
  intro hd
  have hsep : q.Separable := PerfectField.separable_of_irreducible hq
  obtain ⟨a, b, hab⟩ := hsep
  have : q ∣ 1 := by
    rw [← hab]
    exact dvd_add (dvd_mul_left _ _) (dvd_mul_of_dvd_right hd _)
  exact hq.not_isUnit (isUnit_of_dvd_one this)

theorem pow_dvd_derivative_of_char_dvd {q f : (ZMod p)[X]} (m : ℕ) (hm : p ∣ m) (hf : q ^ m ∣ f) :
    q ^ m ∣ derivative f := by
  obtain ⟨h, rfl⟩ := hf
  rw [derivative_mul, derivative_pow]
  have : ((m : ℕ) : ZMod p) = 0 := (ZMod.natCast_eq_zero_iff m p).mpr hm
  rw [this, C_0, zero_mul, zero_mul, zero_mul, zero_add]
  exact dvd_mul_right _ _

theorem not_pow_dvd_derivative {q h : (ZMod p)[X]} (hq : Irreducible q) (m : ℕ) (hm1 : 1 ≤ m)
    (hm : ¬ p ∣ m) (hh : ¬ q ∣ h) : ¬ q ^ m ∣ derivative (q ^ m * h) := by
  intro hd
  obtain ⟨n, rfl⟩ : ∃ n, m = n + 1 := ⟨m - 1, by omega⟩
  -- (qⁿ⁺¹h)' = (n+1)·qⁿ·q'·h + qⁿ⁺¹·h': cancel qⁿ in qⁿ⁺¹ ∣ (n+1)·qⁿ·q'·h
  rw [derivative_mul, derivative_pow_succ] at hd
  have h2 := (dvd_add_left (dvd_mul_right (q ^ (n + 1)) (derivative h))).mp hd
  rw [mul_assoc, mul_assoc, mul_left_comm, pow_succ, mul_dvd_mul_iff_left (pow_ne_zero n hq.ne_zero)] at h2
  have hc : ((n : ZMod p) + 1) ≠ 0 := by
    rw [← Nat.cast_succ, Ne, ZMod.natCast_eq_zero_iff]; exact hm
  rcases hq.prime.dvd_or_dvd h2 with h3 | h3
  · exact hq.not_isUnit (isUnit_of_dvd_unit h3 (Polynomial.isUnit_C.mpr (IsUnit.mk0 _ hc)))
  · rcases hq.prime.dvd_or_dvd h3 with h4 | h4
    · exact irreducible_not_dvd_derivative p hq h4
    · exact hh h4

/-- the invariant of the inner loop of `squarefree`, for every irreducible q: q² ∤ V, and if q ∤ V
then the multiplicity of q in T is a multiple of p -/
def SqInv (T V : (ZMod p)[X]) : Prop :=
  ∀ q : (ZMod p)[X], Irreducible q → ¬ q ^ 2 ∣ V ∧ (¬ q ∣ V → p ∣ multiplicity q T)

theorem fin_mult {q f : (ZMod p)[X]} (hq : Irreducible q) (hf : f ≠ 0) : FiniteMultiplicity q f :=
  FiniteMultiplicity.of_not_isUnit hq.not_isUnit hf

theorem mult_mul {q A B C : (ZMod p)[X]} (hq : Irreducible q) (hC : C ≠ 0) (h : C = A * B) :
    multiplicity q C = multiplicity q A + multiplicity q B := by
  subst h
  exact multiplicity_mul hq.prime (fin_mult p hq hC)

/-- start of the inner loop: T = gcd(T₀, T₀'), V = T₀ / T -/
theorem sqInv_init {T0 T V : (ZMod p)[X]} (h0 : T0 ≠ 0) (hT : IsGcd T T0 (derivative T0))
    (hV : T0 = V * T) : SqInv p T V := by
  intro q hq
  have hT0 : T ≠ 0 := hT.ne_zero (Or.inl h0)
  have hV0 : V ≠ 0 := left_ne_zero_of_mul (hV ▸ h0)
  have fT := fin_mult p hq hT0
  have fV := fin_mult p hq hV0
  have f0 := fin_mult p hq h0
  set m := multiplicity q T0 with hm
  have hadd : m = multiplicity q V + multiplicity q T := mult_mul p hq h0 hV
  obtain ⟨h, hh1, hh2⟩ := f0.exists_eq_pow_mul_and_not_dvd
  rw [← hm] at hh1
  by_cases hpm : p ∣ m
  · have h1 : q ^ m ∣ T := hT.2.2 _ (pow_multiplicity_dvd q T0)
      (pow_dvd_derivative_of_char_dvd p m hpm (pow_multiplicity_dvd q T0))
    have h2 : m ≤ multiplicity q T := fT.le_multiplicity_of_pow_dvd h1
    have hV0' : multiplicity q V = 0 := by omega
    have hTm : multiplicity q T = m := by omega
    refine ⟨fV.not_pow_dvd_of_multiplicity_lt (by omega), fun _ => hTm ▸ hpm⟩
  · have hm1 : 1 ≤ m := by
      by_contra hlt
      have : m = 0 := by omega
      exact hpm (this ▸ dvd_zero p)
    have h1 : ¬ q ^ m ∣ T := by
      intro hd
      have := hd.trans hT.2.1
      rw [hh1] at this
      exact not_pow_dvd_derivative p hq m hm1 hpm hh2 this
    have h2 : multiplicity q T < m := fT.multiplicity_lt_iff_not_dvd.mpr h1
    have h3 : q ^ (m - 1) ∣ T := hT.2.2 _ ((pow_dvd_pow q (by omega)).trans (pow_multiplicity_dvd q T0))
      (pow_sub_one_dvd_derivative_of_pow_dvd (pow_multiplicity_dvd q T0))
    have h4 : m - 1 ≤ multiplicity q T := fT.le_multiplicity_of_pow_dvd h3
    have hV1 : multiplicity q V = 1 := by omega
    refine ⟨fV.not_pow_dvd_of_multiplicity_lt (by omega), fun hnd => ?_⟩
    exfalso
    exact hnd (dvd_of_multiplicity_pos (by omega))

/-- one round of the inner loop: W = gcd(T, V), T ← T / W, V ← W -/
theorem sqInv_step {T V W T1 : (ZMod p)[X]} (hT0 : T ≠ 0) (hinv : SqInv p T V)
    (hW : IsGcd W T V) (hT1 : T = T1 * W) : SqInv p T1 W := by
  intro q hq
  obtain ⟨i1, i2⟩ := hinv q hq
  refine ⟨fun hd => i1 (hd.trans hW.2.1), fun hnd => ?_⟩
  have hadd := mult_mul p hq hT0 hT1
  have hW0' : multiplicity q W = 0 := multiplicity_eq_zero.mpr hnd
  by_cases hqV : q ∣ V
  · have hqT : ¬ q ∣ T := fun hd => hnd (hW.2.2 q hd hqV)
    have : multiplicity q T = 0 := multiplicity_eq_zero.mpr hqT
    have : multiplicity q T1 = 0 := by omega
    rw [this]; exact dvd_zero p
  · have := i2 hqV
    rw [hadd, hW0', add_zero] at this
    exact this

/-- at the exit of the inner loop (V constant) the derivative of T vanishes -/
theorem sqInv_exit {T V : (ZMod p)[X]} (hT0 : T ≠ 0) (hinv : SqInv p T V) (hV : IsUnit V) :
    derivative T = 0 := by
  by_contra hd0
  have hall : ∀ q : (ZMod p)[X], Irreducible q → p ∣ multiplicity q T := by
    intro q hq
    exact (hinv q hq).2 (fun hd => hq.not_isUnit (isUnit_of_dvd_unit hd hV))
  have hdvd : T ∣ derivative T := by
    set G := EuclideanDomain.gcd T (derivative T) with hG
    obtain ⟨S, hS⟩ := EuclideanDomain.gcd_dvd_left T (derivative T)
    rw [← hG] at hS
    have hS0 : S ≠ 0 := by rintro rfl; rw [mul_zero] at hS; exact hT0 hS
    have hSu : IsUnit S := by
      by_contra hSu
      obtain ⟨q, hq, hqS⟩ := WfDvdMonoid.exists_irreducible_factor hSu hS0
      set n := multiplicity q T with hn
      have h1 : q ^ n ∣ G := EuclideanDomain.dvd_gcd (pow_multiplicity_dvd q T)
        (pow_dvd_derivative_of_char_dvd p n (hall q hq) (pow_multiplicity_dvd q T))
      have h2 : q ^ (n + 1) ∣ T := by
        rw [hS, pow_succ]
        exact mul_dvd_mul h1 hqS
      exact (fin_mult p hq hT0).not_pow_dvd_of_multiplicity_lt (by omega) h2
    have : T ∣ G := by
      obtain ⟨u, rfl⟩ := hSu
      exact ⟨↑u⁻¹, by rw [hS]; simp [mul_assoc]⟩
    exact this.trans (EuclideanDomain.gcd_dvd_right T (derivative T))
  have hle := natDegree_le_of_dvd hdvd hd0
  by_cases hnd : T.natDegree = 0
  · rw [eq_C_of_natDegree_eq_zero hnd] at hd0
    simp at hd0
  · have := natDegree_derivative_lt hnd
    omega

theorem eq_contract_pow {T : (ZMod p)[X]} (hd : derivative T = 0) : T = contract p T ^ p := by
  rw [← ZMod.expand_card, expand_contract p hd hp.out.ne_zero]

theorem le_natDegree_of_derivative_eq_zero {T : (ZMod p)[X]} (hd : derivative T = 0) (hn : T.natDegree ≠ 0) :
    p ≤ T.natDegree := by
  have := natDegree_expand p (contract p T)
  rw [expand_contract p hd hp.out.ne_zero] at this
  rw [this] at hn ⊢
  have : (contract p T).natDegree ≠ 0 := by intro e; rw [e] at hn; simp at hn
  exact Nat.le_mul_of_pos_left _ (Nat.pos_of_ne_zero this)

/-- no square of an irreducible polynomial divides X -/
def SqF (X : (ZMod p)[X]) : Prop := ∀ q : (ZMod p)[X], Irreducible q → ¬ q ^ 2 ∣ X

theorem sqF_of_squarefree {A : (ZMod p)[X]} (h : Squarefree A) : SqF p A :=
  fun q hq hd => hq.not_isUnit (h q (by rwa [pow_two] at hd))

theorem SqF.of_dvd {A B : (ZMod p)[X]} (h : SqF p B) (hd : A ∣ B) : SqF p A :=
  fun q hq hqa => h q hq (hqa.trans hd)

theorem SqInv.sqF {T V : (ZMod p)[X]} (h : SqInv p T V) : SqF p V := fun q hq => (h q hq).1

theorem sqF_mul {R V : (ZMod p)[X]} (hR : SqF p R) (hV : SqF p V)
    (hc : ∀ q : (ZMod p)[X], Irreducible q → q ∣ R → ¬ q ∣ V) : SqF p (R * V) := by
  intro q hq hd
  by_cases hqR : q ∣ R
  · have := hq.prime.pow_dvd_of_dvd_mul_right 2 (hc q hq hqR) hd
    exact hR q hq this
  · have := hq.prime.pow_dvd_of_dvd_mul_left 2 hqR hd
    exact hV q hq this

theorem SqF.not_dvd_right {A W : (ZMod p)[X]} (h : SqF p (A * W)) {q : (ZMod p)[X]} (hq : Irreducible q)
    (hqa : q ∣ A) : ¬ q ∣ W := by
  intro hqw
  apply h q hq
  rw [pow_two]
  exact mul_dvd_mul hqa hqw

theorem nodup_of_sqF_prod : ∀ (l : List (ZMod p)[X]), (∀ x ∈ l, Irreducible x) → SqF p l.prod → l.Nodup := by
  intro l
  induction l with
  | nil => intro _ _; exact List.nodup_nil
  | cons a l ih =>
    intro hirr hsq
    rw [List.prod_cons] at hsq
    rw [List.nodup_cons]
    refine ⟨fun hmem => ?_, ih (fun x hx => hirr x (List.mem_cons_of_mem _ hx)) (hsq.of_dvd p (dvd_mul_left _ _))⟩
    exact hsq.not_dvd_right p (hirr a List.mem_cons_self) (dvd_refl a) (List.dvd_prod hmem)

theorem irreducible_of_factor_degrees {G : (ZMod p)[X]} {d : ℕ} (hd : 1 ≤ d) (hG : G.natDegree = d)
    (h : ∀ q : (ZMod p)[X], Irreducible q → q ∣ G → q.natDegree = d) : Irreducible G := by
  have hG0 : G ≠ 0 := by rintro rfl; simp at hG; omega
  have hnu : ¬ IsUnit G := by
    intro hu
    have := natDegree_eq_zero_of_isUnit hu
    omega
  obtain ⟨q, hq, c, hc⟩ := WfDvdMonoid.exists_irreducible_factor hnu hG0
  have hq0 : q ≠ 0 := hq.ne_zero
  have hc0 : c ≠ 0 := by rintro rfl; rw [mul_zero] at hc; exact hG0 hc
  have hdeg := natDegree_mul hq0 hc0
  rw [← hc, hG, h q hq ⟨c, hc⟩] at hdeg
  have hcu : IsUnit c := by
    rw [Polynomial.isUnit_iff_degree_eq_zero, degree_eq_natDegree hc0]
    have : c.natDegree = 0 := by omega
    rw [this]; rfl
  have : Associated q G := by
    obtain ⟨u, rfl⟩ := hcu
    exact ⟨u, hc.symm⟩
  exact this.irreducible hq

/-- the second invariant of the inner loop of `squarefree`: R (the product of the parts collected so
far) times V is squarefree and R has no irreducible factor in common with T -/
def SqJ (R T V : (ZMod p)[X]) : Prop :=
  SqF p (R * V) ∧ ∀ q : (ZMod p)[X], Irreducible q → q ∣ R → ¬ q ∣ T

theorem SqJ.sqF_left {R T V : (ZMod p)[X]} (h : SqJ p R T V) : SqF p R := h.1.of_dvd p (dvd_mul_right _ _)

theorem SqJ.init {R T0 T V : (ZMod p)[X]} (hR : SqF p R)
    (hc : ∀ q : (ZMod p)[X], Irreducible q → q ∣ R → ¬ q ∣ T0) (hV : SqF p V) (hT0 : T0 = V * T) :
    SqJ p R T V :=
  ⟨sqF_mul p hR hV (fun q hq hqR hqV => hc q hq hqR (hqV.trans ⟨T, hT0⟩)),
    fun q hq hqR hqT => hc q hq hqR (hqT.trans (Dvd.intro_left V hT0.symm))⟩

theorem SqJ.step_skip {R T V W A T1 : (ZMod p)[X]} (h : SqJ p R T V) (hV : V = A * W) (hT : T = T1 * W) :
    SqJ p R T1 W :=
  ⟨h.1.of_dvd p (mul_dvd_mul_left R (Dvd.intro_left A hV.symm)),
    fun q hq hqR hqT => h.2 q hq hqR (hqT.trans ⟨W, hT⟩)⟩

theorem SqJ.step_push {R T V W A T1 : (ZMod p)[X]} (h : SqJ p R T V) (hW : IsGcd W T V) (hV : V = A * W)
    (hT : T = T1 * W) : SqJ p (R * A) T1 W := by
  refine ⟨by rw [mul_assoc, ← hV]; exact h.1, fun q hq hqRA hqT1 => ?_⟩
  have hqT : q ∣ T := hqT1.trans ⟨W, hT⟩
  rcases hq.prime.dvd_or_dvd hqRA with hqR | hqA
  · exact h.2 q hq hqR hqT
  · have hsqV : SqF p (A * W) := by rw [← hV]; exact h.1.of_dvd p (dvd_mul_left _ _)
    have hqW : ¬ q ∣ W := hsqV.not_dvd_right p hq hqA
    exact hqW (hW.2.2 q hqT (hqA.trans ⟨W, hV⟩))

end
end NTV.PolyMod
