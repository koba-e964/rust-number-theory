import NTV.Proofs.Lemmas.FactorModPStages
import NTV.Proofs.Lemmas.FactorModPMult
/-! # C08: the squarefree stage (`squarefree` = `sqOuter` / `sqInner`) -/
open Polynomial
namespace NTV.PolyMod
open NTV.PolyG NTV.Hensel

theorem mulUsize_ok {a b r : Nat} (h : mulUsize a b = .ok r) : r = a * b := by
  unfold mulUsize at h
  split at h
  · simp only [pure, Except.pure, Except.ok.injEq] at h; exact h.symm
  · cases h

theorem mulUsize_eq_ok {a b : Nat} (h : a * b < 2 ^ 64) : mulUsize a b = .ok (a * b) := by
  unfold mulUsize; rw [if_pos h]; rfl

/-- one round of the inner loop of `squarefree` (T = T₁·W, V = A·W, push A with exponent e(k+1)) keeps
R·(T·Vᵏ⁺¹)ᵉ -/
theorem push_identity {S : Type*} [CommSemiring S] (R A W T1 : S) (e k : ℕ) :
    R * A ^ (e * (k + 1)) * (T1 * W ^ (k + 1 + 1)) ^ e = R * (T1 * W * (A * W) ^ (k + 1)) ^ e := by
  ring

theorem sqPush_ok {β : Type} {e k : Nat} {a : Poly} {result : Factors} {f : Factors → M β} {r : β}
    (h : (if degU a ≠ 0 then (do let ek ← mulUsize e k; pure (result ++ [(a, ek)])) >>= f else pure result >>= f)
      = .ok r) :
    ∃ res1, (res1 = result ++ [(a, e * k)] ∨ (degU a = 0 ∧ res1 = result)) ∧ f res1 = .ok r := by
  split at h
  · obtain ⟨res1, hr, h⟩ := bind_ok h
    obtain ⟨ek, hek, hr⟩ := bind_ok hr
    obtain rfl := mulUsize_ok hek
    exact ⟨res1, Or.inl (Except.ok.inj hr).symm, h⟩
  · rename_i hd
    exact ⟨result, Or.inr ⟨not_not.mp hd, rfl⟩, h⟩

section prime
variable (p : ℕ) [hp : Fact p.Prime]

/-- entries of an intermediate factor list: good non-zero polynomial, positive exponent -/
def Entry (x : Poly × Nat) : Prop := GoodNZ p x.1 ∧ 1 ≤ x.2

/-- the inner loop of `squarefree`. It neither overflows nor runs out of fuel: the exponent `e·k` it pushes is
bounded by `e·((k+1)·deg v + deg t)`, a quantity that does not increase. On a successful run the pushed pairs keep
R·(T·Vᵏ⁺¹)ᵉ. Two invariants of FactorModPMult are carried along: `SqInv` (for every irreducible q: q² ∤ V, and
p ∣ mult_q T when q ∤ V) makes the derivative of the t handed over for a p-th root vanish; `SqJ` (the product of the
collected parts times V is squarefree and has no irreducible factor in common with T) keeps the collected parts
squarefree and pairwise coprime. -/
theorem sqInner_spec (e : Nat) (he : 1 ≤ e) : ∀ (fuel : Nat) (t v : Poly) (k : Nat) (result : Factors),
    GoodNZ p t → GoodNZ p v → (∀ x ∈ result, Entry p x) →
    (e * ((k + 1) * nd p v + nd p t) < 2 ^ 64 → 1 ≤ fuel → (degU v ≠ 0 → nd p t + 2 ≤ fuel) →
      ∃ r, sqInner (p : Int) e fuel t v k result = .ok r) ∧
    ∀ (exit : SqExit) (result' : Factors), SqInv p (mp p t) (mp p v) →
    sqInner (p : Int) e fuel t v k result = .ok (exit, result') →
    (∀ x ∈ result', Entry p x) ∧
    (exit = .done → Associated (fprod p result') (fprod p result * (mp p t * mp p v ^ (k + 1)) ^ e)) ∧
    (∀ t', exit = .root t' → GoodNZ p t' ∧ degU t' ≠ 0 ∧ derivative (mp p t') = 0 ∧ mp p t' ∣ mp p t ∧
      Associated (fprod p result' * mp p t' ^ e) (fprod p result * (mp p t * mp p v ^ (k + 1)) ^ e)) ∧
    (SqJ p (pprod p result) (mp p t) (mp p v) → SqF p (pprod p result') ∧
      ∀ t', exit = .root t' → ∀ q : (ZMod p)[X], Irreducible q → q ∣ pprod p result' → ¬ q ∣ mp p t') := by
  intro fuel
  induction fuel with
  | zero =>
    intro t v k result _ _ _
    exact ⟨fun _ h _ => by omega, fun exit result' _ h => by simp [sqInner] at h⟩
  | succ fuel ih =>
    intro t v k result ht hv hres
    simp only [sqInner]
    by_cases hv0 : degU v = 0
    · simp only [if_pos hv0]
      have hvu : IsUnit (mp p v) := isUnit_mp_of_degU_zero p hv hv0
      split
      · rename_i ht0
        refine ⟨fun _ _ _ => ⟨_, rfl⟩, fun exit result' hinv h => ?_⟩
        simp only [pure, Except.pure, Except.ok.injEq, Prod.mk.injEq] at h
        obtain ⟨rfl, rfl⟩ := h
        refine ⟨hres, fun _ => ?_, (fun t' ht' => by cases ht'),
          fun hJ => ⟨hJ.sqF_left p, fun t' ht' => by cases ht'⟩⟩
        have hu : IsUnit ((mp p t * mp p v ^ (k + 1)) ^ e) :=
          ((isUnit_mp_of_degU_zero p ht ht0).mul (hvu.pow _)).pow _
        exact associated_mul_unit_right _ _ hu
      · rename_i ht0
        refine ⟨fun _ _ _ => ⟨_, rfl⟩, fun exit result' hinv h => ?_⟩
        simp only [pure, Except.pure, Except.ok.injEq, Prod.mk.injEq] at h
        obtain ⟨rfl, rfl⟩ := h
        refine ⟨hres, (fun hh => by cases hh), fun t' ht' => ?_,
          fun hJ => ⟨hJ.sqF_left p, fun t' ht' => by cases ht'; exact hJ.2⟩⟩
        cases ht'
        refine ⟨ht, ht0, sqInv_exit p (GoodNZ.mp_ne_zero p ht) hinv hvu, dvd_refl _, ?_⟩
        have : Associated (mp p t) (mp p t * mp p v ^ (k + 1)) :=
          associated_mul_unit_right _ _ (hvu.pow _)
        exact (this.pow_pow (n := e)).mul_left _
    · simp only [if_neg hv0]
      obtain ⟨w, hg⟩ := polyGcd_total_good p t v ht.1 hv.1
      rw [hg, ok_bind']
      obtain ⟨g1, g2⟩ := gcd_out p ht.1 hv.1 (Or.inl ht.2) hg
      obtain ⟨ea, ga⟩ := divide_out p hv g2 g1.2.1
      obtain ⟨et, gt⟩ := divide_out p ht g2 g1.1
      set aek := (polyDivrem v w p).1 with haek
      set t1 := (polyDivrem t w p).1 with ht1
      have hres1 : ∀ x ∈ result ++ [(aek, e * (k + 1))], Entry p x :=
        forall_mem_snoc hres ⟨ga, Nat.mul_pos he k.succ_pos⟩
      refine ⟨fun hB hf1 hf2 => ?_, fun exit result' hinv h => ?_⟩
      · have nv := nd_mul p hv ea
        have nt := nd_mul p ht et
        have hv1 : 1 ≤ nd p v := by rw [← degU_nd p hv]; omega
        have hBle : e * ((k + 1 + 1) * nd p w + nd p t1) ≤ e * ((k + 1) * nd p v + nd p t) := by
          apply Nat.mul_le_mul_left
          rw [nv, nt]
          have : (k + 1 + 1) * nd p w = (k + 1) * nd p w + nd p w := by ring
          rw [this, Nat.mul_add]
          omega
        have hf' : degU w ≠ 0 → nd p t1 + 2 ≤ fuel := by
          intro hw0
          have : 1 ≤ nd p w := by rw [← degU_nd p g2]; omega
          have := hf2 hv0
          omega
        have hfuel1 : 1 ≤ fuel := by have := hf2 hv0; omega
        split
        · have hlt : e * (k + 1) < 2 ^ 64 := by
            refine lt_of_le_of_lt ?_ hB
            apply Nat.mul_le_mul_left
            have : (k + 1) * 1 ≤ (k + 1) * nd p v := Nat.mul_le_mul_left _ hv1
            omega
          rw [mulUsize_eq_ok hlt, ok_bind']
          simp only [pure, Except.pure, ok_bind']
          exact (ih _ _ _ _ gt g2 hres1).1 (lt_of_le_of_lt hBle hB) hfuel1 hf'
        · simp only [pure, Except.pure, ok_bind']
          exact (ih _ _ _ _ gt g2 hres).1 (lt_of_le_of_lt hBle hB) hfuel1 hf'
      · have hinv' : SqInv p (mp p t1) (mp p w) := sqInv_step p (GoodNZ.mp_ne_zero p ht) hinv g1 et
        obtain ⟨res1, hr, h⟩ := sqPush_ok h
        have hpush : (∀ x ∈ res1, Entry p x) ∧
            Associated (fprod p res1) (fprod p result * mp p aek ^ (e * (k + 1))) ∧
            (SqJ p (pprod p result) (mp p t) (mp p v) → SqJ p (pprod p res1) (mp p t1) (mp p w)) := by
          rcases hr with rfl | ⟨hd0, rfl⟩
          · refine ⟨hres1, ?_, fun hJ => ?_⟩
            · rw [fprod_append, fprod_cons, fprod_nil, mul_one]
            · rw [pprod_append, pprod_cons, pprod_nil, mul_one]
              exact hJ.step_push p g1 ea et
          · exact ⟨hres, associated_mul_unit_right _ _ ((isUnit_mp_of_degU_zero p ga hd0).pow _),
              fun hJ => hJ.step_skip p ea et⟩
        obtain ⟨i1, i2, i3, i4⟩ := (ih t1 w (k + 1) res1 gt g2 hpush.1).2 exit result' hinv' h
        have hA := hpush.2.1.mul_right ((mp p t1 * mp p w ^ (k + 1 + 1)) ^ e)
        rw [push_identity, ← et, ← ea] at hA
        refine ⟨i1, fun hd => (i2 hd).trans hA, fun t' ht' => ?_, fun hJ => i4 (hpush.2.2 hJ)⟩
        obtain ⟨j1, j2, j3, j4, j5⟩ := i3 t' ht'
        exact ⟨j1, j2, j3, j4.trans ⟨mp p w, et⟩, j5.trans hA⟩

/-- the list `squarefree` continues with after `continue 'outer`: Σ t[n·i] xⁱ (n = `pusize`) -/
def pthRoot (n : Nat) (t : Poly) : Poly :=
  fromRaw ((List.range (degU t / n + 1)).map (fun i => coefAt t (n * i)))

theorem mp_pthRoot (t : Poly) (ht : GoodNZ p t) : mp p (pthRoot p t) = contract p (mp p t) := by
  ext i
  rw [pthRoot, mp_fromRaw, coeff_mp, coeff_contract hp.out.ne_zero, coeff_mp]
  congr 1
  simp only [List.getD_eq_getElem?_getD, List.getElem?_map]
  by_cases hi : i < degU t / p + 1
  · rw [List.getElem?_range hi]
    simp [coefAt, mul_comm]
  · have : (List.range (degU t / p + 1))[i]? = none := by simp; omega
    rw [this, Option.map_none, Option.getD_none, ← List.getD_eq_getElem?_getD, getD_of_length_le]
    -- i > deg t / p, so i·p > deg t
    have hd := degU_of_ne_nil ht.2
    have h2 := (Nat.div_lt_iff_lt_mul hp.out.pos).mp (show degU t / p < i by omega)
    have := List.length_pos_of_ne_nil ht.2
    omega

theorem good_pthRoot (t : Poly) (ht : GoodNZ p t) : Good p (pthRoot p t) := by
  refine ⟨reduced_fromRaw _ _ ?_, canon_fromRaw _⟩
  apply reduced_of_mem _ (by exact_mod_cast hp.out.pos)
  intro c hc
  obtain ⟨i, _, rfl⟩ := List.mem_map.mp hc
  exact ht.1.1 _

theorem pthRoot_spec {t : Poly} (ht : GoodNZ p t) (hd : derivative (mp p t) = 0) :
    GoodNZ p (pthRoot p t) ∧ mp p (pthRoot p t) ^ p = mp p t := by
  have hroot : mp p (pthRoot p t) ^ p = mp p t := by
    rw [mp_pthRoot p t ht]; exact (eq_contract_pow p hd).symm
  refine ⟨goodNZ_of_mp_ne_zero p (good_pthRoot p t ht) fun e0 => ?_, hroot⟩
  rw [e0, zero_pow hp.out.ne_zero] at hroot
  exact GoodNZ.mp_ne_zero p ht hroot.symm

theorem sqOuter_gcd {t0 t : Poly} (ht0 : GoodNZ p t0) (hg : polyGcd t0 (differentialMod t0 p) p = .ok t) :
    GoodNZ p t ∧ GoodNZ p (polyDivrem t0 t p).1 ∧ mp p t ∣ mp p t0 ∧
    mp p t0 = mp p (polyDivrem t0 t p).1 * mp p t ∧ SqInv p (mp p t) (mp p (polyDivrem t0 t p).1) := by
  obtain ⟨g1, g2⟩ := gcd_out p ht0.1 (good_differentialMod p hp.out.pos t0) (Or.inl ht0.2) hg
  rw [mp_differentialMod] at g1
  obtain ⟨ev, gv⟩ := divide_out p ht0 g2 g1.1
  exact ⟨g2, gv, g1.1, ev, sqInv_init p (GoodNZ.mp_ne_zero p ht0) g1 ev⟩

/-- a p-th root is only asked for when deg t₀ ≥ p: the t' handed over has derivative 0 and 0 < deg t' ≤ deg t₀ -/
theorem sqOuter_round {t0 t : Poly} {e fuel : Nat} {result r1 : Factors} {exit : SqExit}
    (ht0 : GoodNZ p t0) (he : 1 ≤ e) (hres : ∀ x ∈ result, Entry p x)
    (hg : polyGcd t0 (differentialMod t0 p) p = .ok t)
    (hin : sqInner (p : Int) e fuel t (polyDivrem t0 t p).1 0 result = .ok (exit, r1)) :
    (∀ x ∈ r1, Entry p x) ∧
    (exit = .done → Associated (fprod p r1) (fprod p result * mp p t0 ^ e)) ∧
    (∀ t', exit = .root t' → GoodNZ p t' ∧ derivative (mp p t') = 0 ∧ (mp p t').natDegree ≠ 0 ∧
      p ≤ (mp p t').natDegree ∧ (mp p t').natDegree ≤ (mp p t0).natDegree ∧ ¬ t0.length ≤ p ∧
      Associated (fprod p r1 * mp p t' ^ e) (fprod p result * mp p t0 ^ e)) ∧
    (SqF p (pprod p result) → (∀ q : (ZMod p)[X], Irreducible q → q ∣ pprod p result → ¬ q ∣ mp p t0) →
      SqF p (pprod p r1) ∧
      ∀ t', exit = .root t' → ∀ q : (ZMod p)[X], Irreducible q → q ∣ pprod p r1 → ¬ q ∣ mp p t') := by
  obtain ⟨g2, gv, gd, ev, hinv⟩ := sqOuter_gcd p ht0 hg
  obtain ⟨i1, i2, i3, i4⟩ := (sqInner_spec p e he _ t _ 0 result g2 gv hres).2 exit r1 hinv hin
  have eT : mp p t * mp p (polyDivrem t0 t p).1 ^ (0 + 1) = mp p t0 := by
    rw [ev, zero_add, pow_one, mul_comm]
  rw [eT] at i2 i3
  refine ⟨i1, i2, fun t' ht' => ?_, fun h1 h2 => i4 (SqJ.init p h1 h2 hinv.sqF ev)⟩
  obtain ⟨j1, j2, j3, j4, j5⟩ := i3 t' ht'
  have hnd : (mp p t').natDegree ≠ 0 := by rw [← degU_eq_natDegree p t' j1.1 j1.2]; exact j2
  have hge := le_natDegree_of_derivative_eq_zero p j3 hnd
  have hle := natDegree_le_of_dvd (j4.trans gd) (GoodNZ.mp_ne_zero p ht0)
  have hlen := (natDegree_mp p t0 ht0.1 ht0.2).1
  have hpos := List.length_pos_of_ne_nil ht0.2
  exact ⟨j1, j3, hnd, hge, hle, by omega, j5⟩

/-- the outer loop of `squarefree`: the collected pairs multiply to t₀ᵉ (up to a unit); the machine-word
copy `pusize` of p is used only when a p-th root is taken, which needs deg t₀ ≥ p -/
theorem sqOuter_spec (pusize : Nat) : ∀ (fuel : Nat) (t0 : Poly) (e : Nat) (result result' : Factors),
    GoodNZ p t0 → 1 ≤ e → (pusize = p ∨ t0.length ≤ p) → (∀ x ∈ result, Entry p x) →
    sqOuter (p : Int) pusize fuel t0 e result = .ok result' →
    Associated (fprod p result') (fprod p result * mp p t0 ^ e) ∧ (∀ x ∈ result', Entry p x) ∧
    (SqF p (pprod p result) → (∀ q : (ZMod p)[X], Irreducible q → q ∣ pprod p result → ¬ q ∣ mp p t0) →
      SqF p (pprod p result')) := by
  intro fuel
  induction fuel with
  | zero => intro t0 e result result' _ _ _ _ h; simp [sqOuter] at h
  | succ fuel ih =>
    intro t0 e result result' ht0 he hpu hres h
    simp only [sqOuter] at h
    split at h
    · rename_i hd0
      simp only [pure, Except.pure, Except.ok.injEq] at h
      subst h
      exact ⟨associated_mul_unit_right _ _ ((isUnit_mp_of_degU_zero p ht0 hd0).pow _), hres, fun h _ => h⟩
    · obtain ⟨t, hg, h⟩ := bind_ok h
      obtain ⟨⟨exit, r1⟩, hin, h⟩ := bind_ok h
      obtain ⟨i1, i2, i3, i4⟩ := sqOuter_round p ht0 he hres hg hin
      cases exit with
      | done =>
        simp only [pure, Except.pure, Except.ok.injEq] at h
        subst h
        exact ⟨i2 rfl, i1, fun h1 h2 => (i4 h1 h2).1⟩
      | root t' =>
        obtain ⟨j1, j3, _, _, _, hnle, j5⟩ := i3 t' rfl
        obtain rfl : pusize = p := hpu.resolve_right hnle
        simp only at h
        rw [if_neg hp.out.ne_zero] at h
        obtain ⟨e', he', h⟩ := bind_ok h
        obtain rfl := mulUsize_ok he'
        obtain ⟨hnz, hroot⟩ := pthRoot_spec _ j1 j3
        obtain ⟨k1, k2, k3⟩ := ih _ _ _ result' hnz (Nat.mul_pos he hp.out.pos) (Or.inl rfl) i1 h
        refine ⟨k1.trans ?_, k2, fun h1 h2 => ?_⟩
        · rw [pow_mul', hroot]
          exact j5
        · obtain ⟨m1, m2⟩ := i4 h1 h2
          refine k3 m1 (fun q hq hqR hqt => m2 t' rfl q hq hqR ?_)
          rw [← hroot]
          exact hqt.trans (dvd_pow_self _ hp.out.ne_zero)

/-- for a non-zero input reduced modulo p, the pairs (A, m) returned by `squarefree` satisfy ∏ Aᵐ = input up to a
unit of F_p (the A are *not* normalised to monic), every A is a non-zero canonical polynomial with coefficients in
[0, p), every m ≥ 1, and the product ∏ A of the parts is squarefree (no square of an irreducible divides it: the
parts are squarefree and pairwise coprime). `pusize` must be p unless deg < p. -/
theorem squarefree_product (poly : Poly) (pusize : Nat) (fs : Factors) (hpoly : GoodNZ p poly)
    (hpu : pusize = p ∨ poly.length ≤ p) (h : squarefree poly (p : Int) pusize = .ok fs) :
    Associated (fprod p fs) (mp p poly) ∧ (∀ x ∈ fs, Entry p x) ∧ SqF p (pprod p fs) := by
  unfold squarefree at h
  split at h
  · cases h
  rw [polyMod_of_good p poly hpoly.1] at h
  obtain ⟨h1, h2, h3⟩ := sqOuter_spec p pusize _ poly 1 [] fs hpoly (le_refl 1) hpu (by simp) h
  refine ⟨by simpa using h1, h2, h3 ?_ ?_⟩
  · intro q hq hd
    rw [pprod_nil] at hd
    exact hq.not_isUnit (isUnit_of_dvd_one (dvd_trans (dvd_pow_self q two_ne_zero) hd))
  · intro q hq hd
    rw [pprod_nil] at hd
    exact absurd (isUnit_of_dvd_one hd) hq.not_isUnit

end prime
end NTV.PolyMod
