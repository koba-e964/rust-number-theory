import NTV.Proofs.Lemmas.FactorModPBasics
import NTV.Proofs.Lemmas.NoPanicLinear
/-! # C08: gcd and exact division in the shape the stages use them, the product identity of `final_split`,
the shape of a normalised factor -/
open Polynomial
namespace NTV.PolyMod
open NTV.PolyG NTV.Hensel

/-- ∏ gᵉ over a factor list, in `(ZMod p)[X]` -/
noncomputable def fprod (p : ℕ) (fs : Factors) : (ZMod p)[X] := (fs.map (fun x => mp p x.1 ^ x.2)).prod
/-- ∏ g over the first components -/
noncomputable def pprod (p : ℕ) (fs : Factors) : (ZMod p)[X] := (fs.map (fun x => mp p x.1)).prod
/-- ∏ g over a list of polynomials -/
noncomputable def lprod (p : ℕ) (l : List Poly) : (ZMod p)[X] := (l.map (mp p)).prod

@[simp] theorem fprod_nil (p : ℕ) : fprod p [] = 1 := by simp [fprod]
@[simp] theorem pprod_nil (p : ℕ) : pprod p [] = 1 := by simp [pprod]
@[simp] theorem lprod_nil (p : ℕ) : lprod p [] = 1 := by simp [lprod]
theorem fprod_append (p : ℕ) (a b : Factors) : fprod p (a ++ b) = fprod p a * fprod p b := by simp [fprod]
theorem pprod_append (p : ℕ) (a b : Factors) : pprod p (a ++ b) = pprod p a * pprod p b := by simp [pprod]
theorem lprod_append (p : ℕ) (a b : List Poly) : lprod p (a ++ b) = lprod p a * lprod p b := by simp [lprod]
theorem fprod_cons (p : ℕ) (x : Poly × Nat) (b : Factors) : fprod p (x :: b) = mp p x.1 ^ x.2 * fprod p b := by simp [fprod]
theorem pprod_cons (p : ℕ) (x : Poly × Nat) (b : Factors) : pprod p (x :: b) = mp p x.1 * pprod p b := by simp [pprod]
theorem lprod_cons (p : ℕ) (x : Poly) (b : List Poly) : lprod p (x :: b) = mp p x * lprod p b := by simp [lprod]

section prime
variable (p : ℕ) [hp : Fact p.Prime]

/-- good, non-zero -/
def GoodNZ (l : List Int) : Prop := Good p l ∧ l ≠ []

theorem GoodNZ.mp_ne_zero {l : List Int} (h : GoodNZ p l) : mp p l ≠ 0 := (natDegree_mp p l h.1 h.2).2.2

omit hp in
theorem goodNZ_of_mp_ne_zero {l : List Int} (h : Good p l) (h0 : mp p l ≠ 0) : GoodNZ p l :=
  ⟨h, fun e => h0 (by rw [e]; simp)⟩

theorem isUnit_mp_of_degU_zero {l : List Int} (h : GoodNZ p l) (hd : degU l = 0) : IsUnit (mp p l) := by
  rw [Polynomial.isUnit_iff_degree_eq_zero, degree_eq_natDegree h.mp_ne_zero,
    ← degU_eq_natDegree p l h.1 h.2, hd]; rfl

theorem degU_nil_pos : degU ([] : List Int) ≠ 0 := by simp [degU]

theorem divide_out {a b : List Int} (ha : GoodNZ p a) (hb : GoodNZ p b) (hdvd : mp p b ∣ mp p a) :
    mp p a = mp p (polyDivrem a b p).1 * mp p b ∧ GoodNZ p (polyDivrem a b p).1 := by
  obtain ⟨h1, h2, h3, _⟩ := polyDivrem_mp p a b ha.1 hb.1 hb.2
  -- the remainder is divisible by b and of smaller degree
  have hr : mp p b ∣ mp p (polyDivrem a b p).2 := by
    rw [eq_sub_of_add_eq' h1.symm]
    exact dvd_sub hdvd (dvd_mul_left _ _)
  rw [eq_zero_of_dvd_of_degree_lt hr h2, add_zero] at h1
  refine ⟨h1, goodNZ_of_mp_ne_zero p h3 fun e => ?_⟩
  rw [e, zero_mul] at h1
  exact GoodNZ.mp_ne_zero p ha h1

theorem gcd_out {a b g : List Int} (ha : Good p a) (hb : Good p b) (hne : a ≠ [] ∨ b ≠ [])
    (h : polyGcd a b (p : Int) = .ok g) : IsGcd (mp p g) (mp p a) (mp p b) ∧ GoodNZ p g := by
  obtain ⟨h1, h2⟩ := polyGcd_isGcd p a b g ha hb h
  refine ⟨h1, goodNZ_of_mp_ne_zero p h2 (h1.ne_zero ?_)⟩
  rcases hne with h | h
  · exact Or.inl (GoodNZ.mp_ne_zero p ⟨ha, h⟩)
  · exact Or.inr (GoodNZ.mp_ne_zero p ⟨hb, h⟩)

/-- `poly_gcd` on good lists never runs out of fuel (the second argument may be zero) -/
theorem polyGcd_total_good (a b : Poly) (ha : Good p a) (hb : Good p b) : ∃ g, polyGcd a b (p : Int) = .ok g := by
  by_cases hbn : b = []
  · subst hbn
    exact ⟨a, polyGcd_nil p a⟩
  · exact polyGcd_total p hp.out a b ha.1 hb.1 ha.2 hb.2 hbn

noncomputable abbrev nd (l : Poly) : Nat := (mp p l).natDegree

theorem nd_length {l : Poly} (h : GoodNZ p l) : l.length = nd p l + 1 := by
  have := (natDegree_mp p l h.1 h.2).1
  have hl := List.length_pos_of_ne_nil h.2
  unfold nd; omega

theorem degU_nd {l : Poly} (h : GoodNZ p l) : degU l = nd p l := degU_eq_natDegree p l h.1 h.2

theorem nd_mul {a b c : Poly} (ha : GoodNZ p a) (h : mp p a = mp p b * mp p c) : nd p a = nd p b + nd p c := by
  have h0 := GoodNZ.mp_ne_zero p ha
  have hb : mp p b ≠ 0 := by intro e; rw [e, zero_mul] at h; exact h0 h
  have hc : mp p c ≠ 0 := by intro e; rw [e, mul_zero] at h; exact h0 h
  unfold nd; rw [h, natDegree_mul hb hc]

theorem assoc_split {A R B D P L : (ZMod p)[X]} (h1 : Associated R (L * B)) (h2 : Associated A (R * D))
    (hP : P = D * B) : Associated A (L * P) := by
  rw [hP, mul_comm D, ← mul_assoc]
  exact h2.trans (h1.mul_right D)

theorem finalSplitOdd_product (d : Nat) : ∀ (fuel : Nat) (poly : Poly) (result : List Poly) (s : NTV.Draw.Stream)
    (res' : List Poly) (s' : NTV.Draw.Stream), GoodNZ p poly → (∀ x ∈ result, GoodNZ p x) →
    finalSplitOdd (p : Int) d fuel poly result s = .ok (res', s') →
    Associated (lprod p res') (lprod p result * mp p poly) ∧ (∀ x ∈ res', GoodNZ p x) ∧ d ≠ 0 := by
  intro fuel
  induction fuel with
  | zero => intro poly result s res' s' _ _ h; simp [finalSplitOdd] at h
  | succ fuel ih =>
    intro poly result s res' s' hpoly hres h
    simp only [finalSplitOdd] at h
    by_cases hd0 : d = 0
    · rw [if_pos hd0] at h
      cases h
    rw [if_neg hd0] at h
    by_cases hk0 : degU poly / d = 0
    · rw [if_pos hk0] at h
      cases h
    rw [if_neg hk0] at h
    by_cases hk1 : degU poly / d = 1
    · rw [if_pos hk1] at h
      simp only [pure, Except.pure, Except.ok.injEq, Prod.mk.injEq] at h
      obtain ⟨rfl, rfl⟩ := h
      rw [lprod_append, lprod_cons, lprod_nil, mul_one]
      exact ⟨Associated.refl _, forall_mem_snoc hres hpoly, hd0⟩
    rw [if_neg hk1] at h
    split at h
    · cases h
    rename_i raw s1 hdraw
    obtain ⟨b, hg, h⟩ := bind_ok h
    split at h
    · exact ih _ _ _ _ _ hpoly hres h
    · rename_i hcond
      obtain ⟨g1, g2⟩ := gcd_out p (good_polyModSub p hp.out.pos _ _) hpoly.1 (Or.inr hpoly.2) hg
      obtain ⟨⟨r1, s2⟩, h1, h2⟩ := bind_ok h
      obtain ⟨i1, i2, _⟩ := ih _ _ _ _ _ g2 hres h1
      obtain ⟨e1, e2⟩ := divide_out p hpoly g2 g1.2.1
      obtain ⟨j1, j2, _⟩ := ih _ _ _ _ _ e2 i2 h2
      exact ⟨assoc_split p i1 j1 e1, j2, hd0⟩

theorem good_x : Good p [0, 1] := by
  have h2 : (2 : ℤ) ≤ p := by exact_mod_cast hp.out.two_le
  refine ⟨reduced_of_mem _ (by omega) _ fun c hc => ?_, fun _ => by simp⟩
  rcases List.mem_pair.mp hc with rfl | rfl
  · omega
  · omega

omit hp in
theorem toPoly_x2 : toPoly ([0, 0, 1] : List Int) = X ^ 2 := by simp [toPoly]; ring

theorem good_mul_x2 (t : Poly) (ht : Good p t) : Good p (mul t [0, 0, 1]) := by
  refine ⟨?_, canon_mul _ _⟩
  intro j
  rw [← coeff_toPoly, toPoly_mul, toPoly_x2, coeff_mul_X_pow']
  split
  · rw [coeff_toPoly]; exact ht.1 _
  · have : (0 : ℤ) < p := by exact_mod_cast hp.out.pos
    exact ⟨le_refl _, this⟩

end prime

section two
instance fact_prime_two' : Fact (Nat.Prime 2) := ⟨Nat.prime_two⟩

theorem traceIter_good (poly t : Poly) (hpoly : GoodNZ 2 poly) : ∀ (n : Nat) (c : Poly), Good 2 c →
    Good 2 (traceIter poly t n c) := by
  intro n
  induction n with
  | zero => intro c hc; exact hc
  | succ n ih =>
    intro c hc
    simp only [traceIter]
    apply ih
    exact (polyDivrem_mp 2 _ poly (good_polyMod 2 (by norm_num) _) hpoly.1 hpoly.2).2.2.2

theorem finalSplit2_product (d : Nat) : ∀ (fuel : Nat) (poly t : Poly) (result : List Poly)
    (res' : List Poly), GoodNZ 2 poly → Good 2 t → (∀ x ∈ result, GoodNZ 2 x) →
    finalSplit2 d fuel poly t result = .ok res' →
    Associated (lprod 2 res') (lprod 2 result * mp 2 poly) ∧ (∀ x ∈ res', GoodNZ 2 x) ∧ d ≠ 0 := by
  intro fuel
  induction fuel with
  | zero => intro poly t result res' _ _ _ h; simp [finalSplit2] at h
  | succ fuel ih =>
    intro poly t result res' hpoly ht hres h
    simp only [finalSplit2] at h
    by_cases hd0 : d = 0
    · rw [if_pos hd0] at h
      cases h
    rw [if_neg hd0] at h
    by_cases hk0 : degU poly / d = 0
    · rw [if_pos hk0] at h
      cases h
    rw [if_neg hk0] at h
    by_cases hk1 : degU poly / d = 1
    · rw [if_pos hk1] at h
      simp only [pure, Except.pure, Except.ok.injEq] at h
      subst h
      rw [lprod_append, lprod_cons, lprod_nil, mul_one]
      exact ⟨Associated.refl _, forall_mem_snoc hres hpoly, hd0⟩
    rw [if_neg hk1] at h
    obtain ⟨b, hg, h⟩ := bind_ok h
    split at h
    · exact ih _ _ _ _ hpoly (good_mul_x2 2 t ht) hres h
    · have hc : Good 2 (traceIter poly t (d - 1) t) := traceIter_good poly t hpoly _ t ht
      obtain ⟨g1, g2⟩ := gcd_out 2 hpoly.1 hc (Or.inl hpoly.2) hg
      obtain ⟨r1, h1, h2⟩ := bind_ok h
      obtain ⟨i1, i2, _⟩ := ih _ _ _ _ g2 (good_x 2) hres h1
      obtain ⟨e1, e2⟩ := divide_out 2 hpoly g2 g1.1
      obtain ⟨j1, j2, _⟩ := ih _ _ _ _ e2 (good_x 2) i2 h2
      exact ⟨assoc_split 2 i1 j1 e1, j2, hd0⟩
end two

section prime
variable (p : ℕ) [hp : Fact p.Prime]

/-- the pieces returned by `final_split` multiply to the input piece (up to a
unit), for every draw stream; a successful run has d ≠ 0 -/
theorem finalSplit_product (poly : Poly) (d : Nat) (s : NTV.Draw.Stream) (res : List Poly) (s' : NTV.Draw.Stream)
    (hpoly : GoodNZ p poly) (h : finalSplit poly (p : Int) d s = .ok (res, s')) :
    Associated (lprod p res) (mp p poly) ∧ (∀ x ∈ res, GoodNZ p x) ∧ d ≠ 0 := by
  unfold finalSplit at h
  split at h
  · have := finalSplitOdd_product p d _ poly [] s res s' hpoly (by simp) h
    rwa [lprod_nil, one_mul] at this
  · rename_i hodd
    have hp2 : p = 2 := by
      rcases hp.out.eq_two_or_odd with h2 | h2
      · exact h2
      · exfalso; apply hodd; omega
    subst hp2
    obtain ⟨r, h1, h2⟩ := bind_ok h
    simp only [pure, Except.pure, Except.ok.injEq, Prod.mk.injEq] at h2
    obtain ⟨rfl, rfl⟩ := h2
    have := finalSplit2_product d _ poly [0, 1] [] r hpoly (good_x 2) (by simp) h1
    rwa [lprod_nil, one_mul] at this

/-- the shape of a returned pair: canonical, coefficients in [0, p), monic, degree ≥ 1, exponent ≥ 1 -/
def Shape (x : Poly × Nat) : Prop := Good p x.1 ∧ lc x.1 = 1 ∧ 2 ≤ x.1.length ∧ 1 ≤ x.2

theorem Shape.monic {x : Poly × Nat} (h : Shape p x) : (mp p x.1).Monic := by
  have hne : x.1 ≠ [] := by intro e; have := h.2.2.1; rw [e] at this; simp at this
  have := (natDegree_mp p x.1 h.1 hne).2.1
  rw [Monic, this, h.2.1]; simp

theorem normalise_one (factor : Poly) (d : Nat) (hf : GoodNZ p factor) (hd : degU factor = d) (hd1 : 1 ≤ d) (e : Nat)
    (he : 1 ≤ e) :
    Shape p (polyMod (mul factor (fromRaw [modinv (coefAt factor d) p])) p, e) ∧
    Associated (mp p (polyMod (mul factor (fromRaw [modinv (coefAt factor d) p])) p)) (mp p factor) := by
  set g := polyMod (mul factor (fromRaw [modinv (coefAt factor d) p])) p with hg
  obtain ⟨n1, n2, n3⟩ := natDegree_mp p factor hf.1 hf.2
  have hdeg : d = factor.length - 1 := by rw [← hd, degU_of_ne_nil hf.2]
  have hlead : coefAt factor d = lc factor := by
    unfold coefAt; rw [hdeg]; exact lc_eq_getD factor hf.2
  have hinv : ((lc factor : ℤ) : ZMod p) * ((modinv (lc factor) p : ℤ) : ZMod p) = 1 := by
    have := modinv_spec p hp.out (lc factor) (lc_coprime p hp.out factor hf.2 hf.1.2 hf.1.1)
    have := (ZMod.intCast_eq_intCast_iff _ _ p).mpr this
    rwa [Int.cast_mul, Int.cast_one] at this
  have hmp : mp p g = mp p factor * C ((mp p factor).leadingCoeff)⁻¹ := by
    rw [hg, mp_polyMod, mp_mul, mp_fromRaw, hlead, n2]
    congr 1
    have : mp p [modinv (lc factor) p] = C ((modinv (lc factor) p : ℤ) : ZMod p) := by
      simp [mp, toPoly]
    rw [this]
    congr 1
    exact (eq_inv_of_mul_eq_one_right hinv)
  have hmonic : (mp p g).Monic := by rw [hmp]; exact monic_mul_leadingCoeff_inv n3
  have hgood : Good p g := good_polyMod p hp.out.pos _
  have hgnz : GoodNZ p g := goodNZ_of_mp_ne_zero p hgood hmonic.ne_zero
  obtain ⟨m1, m2, m3⟩ := natDegree_mp p g hgood hgnz.2
  have hnd : (mp p g).natDegree = (mp p factor).natDegree := by
    rw [hmp]; exact natDegree_mul_leadingCoeff_inv _ n3
  obtain ⟨l0, l1⟩ := lc_pos_of_good p g hgood hgnz.2
  have hlc1 : lc g = 1 := by
    have h2 : (2 : ℤ) ≤ p := by exact_mod_cast hp.out.two_le
    apply cast_inj_of_range p _ _ l0.le l1 (by omega) (by omega)
    rw [← m2, Int.cast_one]
    exact hmonic
  refine ⟨⟨hgood, hlc1, ?_, he⟩, ?_⟩
  · show 2 ≤ g.length
    rw [m1, n1] at hnd
    omega
  · rw [hmp]
    have hu : IsUnit (C ((mp p factor).leadingCoeff)⁻¹) := by
      rw [Polynomial.isUnit_C]
      exact IsUnit.mk0 _ (inv_ne_zero (leadingCoeff_ne_zero.mpr n3))
    exact (associated_mul_unit_right _ _ hu).symm

end prime
end NTV.PolyMod
