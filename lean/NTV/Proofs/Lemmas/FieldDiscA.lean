import Mathlib.NumberTheory.NumberField.Discriminant.Defs
/-! # The discriminant of a ℤ-basis of the ring of integers is the field discriminant (Mathlib only).

If `b` is a ℚ-basis of a number field `K` whose ℤ-span is exactly the set of elements integral over ℤ, then
`Algebra.discr ℚ b = NumberField.discr K`. -/
namespace NTV.FieldDisc
open Module

variable {K : Type*} [Field K] {ι : Type*} [Fintype ι] [DecidableEq ι]

theorem repr_int_of_mem_span [Algebra ℚ K] (b : Basis ι ℚ K) (x : K)
    (hx : x ∈ Submodule.span ℤ (Set.range b)) (i : ι) : ∃ z : ℤ, b.repr x i = (z : ℚ) := by
  obtain ⟨c, rfl⟩ := (Submodule.mem_span_range_iff_exists_fun ℤ).mp hx
  refine ⟨c i, ?_⟩
  have hj : ∀ j, b.repr (c j • b j) i = if j = i then (c j : ℚ) else 0 := fun j => by
    rw [← Int.cast_smul_eq_zsmul ℚ, b.repr.map_smul, Finsupp.smul_apply, Basis.repr_self, Finsupp.single_apply,
      smul_eq_mul, mul_ite, mul_one, mul_zero]
  rw [map_sum, Finsupp.finsetSum_apply, Finset.sum_congr rfl (fun j _ => hj j), Finset.sum_ite_eq' _ i,
    if_pos (Finset.mem_univ i)]

theorem isIntegral_repr_of_mem_span [Algebra ℚ K] (b : Basis ι ℚ K) (x : K)
    (hx : x ∈ Submodule.span ℤ (Set.range b)) (i : ι) : IsIntegral ℤ (b.repr x i) := by
  obtain ⟨z, hz⟩ := repr_int_of_mem_span b x hx i
  rw [hz]; exact isIntegral_algebraMap (R := ℤ) (A := ℚ) (x := z)

theorem discr_eq_numberField_discr [NumberField K] (b : Basis ι ℚ K)
    (hb : ∀ x : K, IsIntegral ℤ x ↔ x ∈ Submodule.span ℤ (Set.range b)) :
    Algebra.discr ℚ b = (NumberField.discr K : ℚ) := by
  classical
  rw [NumberField.coe_discr]
  apply Algebra.discr_eq_discr_of_toMatrix_coeff_isIntegral
  · intro i j
    rw [Basis.toMatrix_apply]
    apply isIntegral_repr_of_mem_span
    rw [← hb, NumberField.integralBasis_apply]
    exact (NumberField.RingOfIntegers.isIntegral_coe _)
  · intro i j
    rw [Basis.toMatrix_apply]
    apply isIntegral_repr_of_mem_span
    rw [NumberField.mem_span_integralBasis]
    have hint : IsIntegral ℤ (b j) := (hb _).mpr (Submodule.subset_span ⟨j, rfl⟩)
    exact ⟨⟨b j, hint⟩, rfl⟩

end NTV.FieldDisc
