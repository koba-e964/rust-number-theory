import NTV.Proofs.Lemmas.FieldDiscA
import NTV.Proofs.Lemmas.MaxOrderClosedC
import NTV.Proofs.Lemmas.InvDiffD
/-! # The order returned by `find_integral_basis` is the ring of integers of ℚ[x]/(f); its discriminant is
the discriminant of the number field (`GoodOrder.integral_iff`, `GoodOrder.discr_eq`; on the way: the value of
`Order::discriminant` is the discriminant of the family ω, `Setup.discriminantOrd_eq_discr`). Last: an affine relation
between integer polynomials carried to ℚ (`modulus_affine`, for C06). -/
open Matrix Finset Polynomial
namespace NTV.FieldDisc
open NTV.Ord NTV.PolyG NTV.Round2 NTV.IdealP NTV.R2Abs NTV.MaxOrd
open NTV.TableAbs (Ctx psi castV)
open NTV.RowOps (toM Rect ent)
open NTV.Alg (modulus cls cls_eq_iff)

theorem numberField_adjoinRoot (F : ℚ[X]) [hF : Fact (Irreducible F)] : NumberField (AdjoinRoot F) where
  to_charZero := charZero_of_injective_algebraMap (algebraMap ℚ (AdjoinRoot F)).injective
  to_finiteDimensional := (AdjoinRoot.powerBasis hF.out.ne_zero).finite

variable {f : List Int} {n : Nat} {O : QMat}

theorem qK_eq_algebraMap (f : List Int) (x : ℚ) :
    (qK f x : AdjoinRoot (modulus f)) = algebraMap ℚ (AdjoinRoot (modulus f)) x := rfl

/-- the value returned by `Order::discriminant` is the discriminant (determinant of the trace form of ℚ[X]/(f)) of
the family ω -/
theorem _root_.NTV.Ord.Setup.discriminantOrd_eq_discr (S : Setup f O n) (t : NTV.Ord.Table) (ht : IsTable f O n t)
    (d : ℤ) (h : discriminantOrd O f = .ok d) : (d : ℚ) = Algebra.discr ℚ (omegaA f O n) := by
  rw [Algebra.discr_def, S.traceMatrix_eq t ht, det_map_intCast]
  obtain ⟨d0, fl, hd0, _, _, hval⟩ := (discriminantOrd_ok_iff O n S.rect f d).mp h
  rw [NTV.C05.discriminant_is_discr f S.canon S.two_le] at hd0
  have hd0' : (toPoly f).discr = d0 := (Prod.mk.inj (Except.ok.inj hd0)).1
  subst hd0'
  rw [← hval]
  unfold discValue
  rw [S.coefAt_degU, S.degU_eq, Int.cast_pow, div_eq_iff (pow_ne_zero _ S.lc_ne_zero), S.det_traceMatrix t ht]
  ring

theorem _root_.NTV.Round2.GoodOrder.integral_iff (g : GoodOrder f n O) (hirr : Irreducible (modulus f))
    (hmax : ∀ p : ℕ, p.Prime → PMaximal f n O p) (x : AdjoinRoot (modulus f)) :
    IsIntegral ℤ x ↔ x ∈ Submodule.span ℤ (Set.range (omegaA f O n)) := by
  obtain ⟨ht, hC⟩ := g.setup.ctx_of_closed g.closed
  have h0 := g.first_row
  have T : TableRing (tableOf f O n) n := tableRing_of_isTable g.setup ht h0
  have one := g.one.el_one g.setup
  have hΩ := g.omegaK_zero T.pos
  have : NeZero n := ⟨Nat.pos_iff_ne_zero.mp T.pos⟩
  have hspan := hC.psi_surj g.setup.finrank
  let _ := fieldK hirr
  exact (isIntegral_iff_mem_Olat hC T hΩ one hspan
    (fun p hp => (hmax p hp).pmaxK hp.ne_zero g hC one) x).trans (mem_span_iff_el (qK f) (omegaK f O n) x).symm

theorem _root_.NTV.Round2.GoodOrder.discr_eq (g : GoodOrder f n O) [hF : Fact (Irreducible (modulus f))]
    (hmax : ∀ p : ℕ, p.Prime → PMaximal f n O p) (d : ℤ) (h : discriminantOrd O f = .ok d) :
    haveI := numberField_adjoinRoot (modulus f)
    d = NumberField.discr (AdjoinRoot (modulus f)) := by
  have := numberField_adjoinRoot (modulus f)
  have : NeZero n := ⟨Nat.pos_iff_ne_zero.mp g.setup.pos⟩
  obtain ⟨ht, hC⟩ := g.setup.ctx_of_closed g.closed
  have hb : ⇑(hC.basis g.setup.finrank) = omegaA f O n := funext (hC.basis_apply _)
  have h1 := g.setup.discriminantOrd_eq_discr _ ht d h
  rw [← hb] at h1
  have h2 := discr_eq_numberField_discr (K := AdjoinRoot (modulus f)) (hC.basis g.setup.finrank) (fun x => by
    have := g.integral_iff hF.out hmax x
    rw [← hb] at this
    exact this)
  exact_mod_cast h1.trans h2

theorem modulus_affine (f g : List Int) (c k u : ℤ)
    (h : (toPoly g).comp (C c * X + C k) = C u * toPoly f) :
    (modulus g).comp (C (c : ℚ) * X + C (k : ℚ)) = C (u : ℚ) * modulus f := by
  have := congrArg (Polynomial.map (Int.castRingHom ℚ)) h
  rw [Polynomial.map_comp, Polynomial.map_mul, Polynomial.map_add, Polynomial.map_mul, Polynomial.map_C,
    Polynomial.map_C, Polynomial.map_C, Polynomial.map_X, ← modulus_eq_map, ← modulus_eq_map] at this
  exact this

end NTV.FieldDisc
