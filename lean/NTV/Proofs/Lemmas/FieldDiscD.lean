import Mathlib.RingTheory.AdjoinRoot
import Mathlib.Algebra.Polynomial.AlgebraMap
import Mathlib.Algebra.Polynomial.Reverse
/-! # Isomorphisms `k[X]/(F) ≃ k[X]/(G)` for an affine change of generator `θ' = c·θ + t`
(`G(c·X + t) = u·F(X)`; irreducibility of `G` from that of `F`) and for the reciprocal generator `θ' = 1/θ`
(`G = u·F.reverse`). -/
open Polynomial
namespace NTV.FieldDisc

variable {k : Type*} [Field k]

noncomputable def homOfRoot (F : k[X]) {A : Type*} [CommRing A] [Algebra k A] (a : A) (ha : aeval a F = 0) :
    AdjoinRoot F →ₐ[k] A :=
  AdjoinRoot.liftAlgHom F (Algebra.ofId k A) a (by rw [← ha]; rfl)

@[simp] theorem homOfRoot_root (F : k[X]) {A : Type*} [CommRing A] [Algebra k A] (a : A) (ha : aeval a F = 0) :
    homOfRoot F a ha (AdjoinRoot.root F) = a := by
  simp [homOfRoot]

theorem aeval_root_self (F : k[X]) : aeval (AdjoinRoot.root F) F = 0 := by
  rw [AdjoinRoot.aeval_eq, AdjoinRoot.mk_self]

section affine
variable {F G : k[X]} {c t u : k}

theorem subst_eq [Invertible c] (h : G.comp (C c * X + C t) = C u * F) : algEquivCMulXAddC c t G = C u * F := by
  rw [algEquivCMulXAddC_apply]; exact h

/-- **`θ' = c·θ + t`**: if `G(c·X + t) = u·F(X)` with `c, u ≠ 0` then `k[X]/(F) ≃ k[X]/(G)`, `θ ↦ (θ' − t)/c`: the
substitution carries the ideal `(G)` to `(u·F) = (F)` and so induces an isomorphism of the quotients -/
noncomputable def affineEquiv (hc : c ≠ 0) (hu : u ≠ 0) (h : G.comp (C c * X + C t) = C u * F) :
    AdjoinRoot F ≃ₐ[k] AdjoinRoot G :=
  letI : Invertible c := invertibleOfNonzero hc
  (Ideal.quotientEquivAlg (Ideal.span {G}) (Ideal.span {F}) (algEquivCMulXAddC c t) (by
    rw [Ideal.map_span, Set.image_singleton]
    show Ideal.span {F} = Ideal.span {algEquivCMulXAddC c t G}
    rw [subst_eq h, Ideal.span_singleton_mul_left_unit (isUnit_C.mpr hu.isUnit)])).symm

theorem irreducible_of_affine (hc : c ≠ 0) (hu : u ≠ 0) (h : G.comp (C c * X + C t) = C u * F)
    (hF : Irreducible F) : Irreducible G := by
  let _ : Invertible c := invertibleOfNonzero hc
  rw [← MulEquiv.irreducible_iff (algEquivCMulXAddC c t).toMulEquiv]
  show Irreducible (algEquivCMulXAddC c t G)
  rw [subst_eq h]
  exact (irreducible_isUnit_mul (isUnit_C.mpr hu.isUnit)).mpr hF

end affine

theorem reverse_map_of_injective {R S : Type*} [Semiring R] [Semiring S] (φ : R →+* S)
    (hφ : Function.Injective φ) (P : R[X]) : (P.map φ).reverse = P.reverse.map φ := by
  ext n
  rw [coeff_reverse, coeff_map, coeff_map, coeff_reverse, natDegree_map_eq_of_injective hφ]

section reciprocal
variable {F G : k[X]} {u : k}

theorem root_ne_zero (F : k[X]) [Fact (Irreducible F)] (h0 : F.coeff 0 ≠ 0) : AdjoinRoot.root F ≠ 0 := by
  intro h
  have h1 := aeval_root_self F
  rw [h, ← coeff_zero_eq_aeval_zero'] at h1
  exact h0 ((algebraMap k (AdjoinRoot F)).injective (h1.trans (algebraMap k (AdjoinRoot F)).map_zero.symm))

theorem aeval_inv_reverse {A : Type*} [Field A] [Algebra k A] (hu : u ≠ 0) (h : G = C u * F.reverse) (x : A)
    (hx : x ≠ 0) : aeval x⁻¹ G = 0 ↔ aeval x F = 0 := by
  let _ : Invertible x := invertibleOfNonzero hx
  have := eval₂_reverse_eq_zero_iff (algebraMap k A) x F
  rw [invOf_eq_inv] at this
  rw [h, map_mul, aeval_C, mul_eq_zero]
  have hu' : algebraMap k A u ≠ 0 :=
    fun e => hu ((algebraMap k A).injective (e.trans (algebraMap k A).map_zero.symm))
  exact (or_iff_right hu').trans this

/-- **`θ' = 1/θ`**: if `G = u·X^n·F(1/X)` (the reversed polynomial, `u ≠ 0`, `F(0) ≠ 0`), then `k[X]/(F) ≃ k[X]/(G)` -/
noncomputable def reciprocalEquiv [Fact (Irreducible F)] [Fact (Irreducible G)] (hu : u ≠ 0) (h0 : F.coeff 0 ≠ 0)
    (h : G = C u * F.reverse) : AdjoinRoot F ≃ₐ[k] AdjoinRoot G := by
  have hF0 : F ≠ 0 := fun e => h0 (by rw [e]; simp)
  have hG0 : G.coeff 0 ≠ 0 := by
    rw [h, coeff_C_mul, coeff_zero_reverse]
    exact mul_ne_zero hu (leadingCoeff_ne_zero.mpr hF0)
  have hθ := root_ne_zero F h0
  have hθ' := root_ne_zero G hG0
  have ha : aeval (AdjoinRoot.root G)⁻¹ F = 0 :=
    (aeval_inv_reverse hu h _ (inv_ne_zero hθ')).mp (by rw [inv_inv]; exact aeval_root_self G)
  have hb : aeval (AdjoinRoot.root F)⁻¹ G = 0 := (aeval_inv_reverse hu h _ hθ).mpr (aeval_root_self F)
  exact AlgEquiv.ofAlgHom (homOfRoot F _ ha) (homOfRoot G _ hb)
    (AdjoinRoot.algHom_ext (by
      rw [AlgHom.comp_apply, homOfRoot_root, map_inv₀, homOfRoot_root, inv_inv, AlgHom.id_apply]))
    (AdjoinRoot.algHom_ext (by
      rw [AlgHom.comp_apply, homOfRoot_root, map_inv₀, homOfRoot_root, inv_inv, AlgHom.id_apply]))

end reciprocal

end NTV.FieldDisc
