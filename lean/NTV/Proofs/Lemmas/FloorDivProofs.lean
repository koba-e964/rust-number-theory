import NTV.Model.Hnf
import Mathlib.Tactic
namespace NTV.Hnf

theorem floorDivPos (a b : Int) (hb : 0 < b) :
    (if a < Int.tdiv a b * b then Int.tdiv a b - 1 else Int.tdiv a b) = a / b := by
  have h1 := Int.tdiv_mul_add_tmod a b
  have h2 := Int.tmod_lt_of_pos a hb
  have h3 := Int.lt_tmod_of_pos a hb
  generalize a.tdiv b = q at *
  generalize a.tmod b = r at *
  subst h1
  -- `a = q * b + r` with `-b < r < b`: the quotient is `q`, or `q - 1` when the remainder is negative
  split
  · rw [show q * b + r = r + b + b * (q - 1) by ring, Int.add_mul_ediv_left _ _ (ne_of_gt hb),
      Int.ediv_eq_zero_of_lt (by omega) (by omega), zero_add]
  · rw [show q * b + r = r + b * q by ring, Int.add_mul_ediv_left _ _ (ne_of_gt hb),
      Int.ediv_eq_zero_of_lt (by omega) (by omega), zero_add]

/-- `floor_div` of hnf.rs is mathematical floor division (for either sign of the divisor). -/
theorem floorDiv_eq_fdiv (a b : Int) (hb : b ≠ 0) : floorDiv a b = Int.fdiv a b := by
  unfold floorDiv
  rcases lt_or_gt_of_ne hb with hneg | hpos
  · simp only [hneg, ↓reduceIte]
    rw [floorDivPos (-a) (-b) (Int.neg_pos_of_neg hneg), ← Int.neg_fdiv_neg a b,
      Int.fdiv_eq_ediv_of_nonneg _ (le_of_lt (Int.neg_pos_of_neg hneg))]
  · simp only [not_lt.mpr (le_of_lt hpos), ↓reduceIte]
    rw [floorDivPos a b hpos, Int.fdiv_eq_ediv_of_nonneg _ (le_of_lt hpos)]

theorem floorDiv_zero (b : Int) (hb : b ≠ 0) : floorDiv 0 b = 0 := by
  rw [floorDiv_eq_fdiv 0 b hb, Int.zero_fdiv]

theorem floorDiv_rem_pos (a b : Int) (hb : 0 < b) : 0 ≤ a - b * floorDiv a b ∧ a - b * floorDiv a b < b := by
  rw [floorDiv_eq_fdiv a b (ne_of_gt hb), ← Int.fmod_def]
  exact ⟨Int.fmod_nonneg_of_pos a hb, Int.fmod_lt_of_pos a hb⟩

theorem floorDiv_rem_abs (a b : Int) (hb : b ≠ 0) : (a - b * floorDiv a b).natAbs < b.natAbs := by
  rw [floorDiv_eq_fdiv a b hb, ← Int.fmod_def]
  rcases lt_or_gt_of_ne hb with hneg | hpos
  · have h1 := Int.fmod_nonneg_of_pos (-a) (Int.neg_pos_of_neg hneg)
    have h2 := Int.fmod_lt_of_pos (-a) (Int.neg_pos_of_neg hneg)
    rw [Int.neg_fmod_neg] at h1 h2
    rw [← Int.natAbs_neg (a.fmod b), ← Int.natAbs_neg b]
    exact Int.natAbs_lt_natAbs_of_nonneg_of_lt h1 h2
  · exact Int.natAbs_lt_natAbs_of_nonneg_of_lt (Int.fmod_nonneg_of_pos a hpos) (Int.fmod_lt_of_pos a hpos)

end NTV.Hnf
