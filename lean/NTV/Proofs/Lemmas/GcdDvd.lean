import NTV.Proofs.Lemmas.GcdShape
import Mathlib.RingTheory.Polynomial.GaussLemma
/-! When all its divisions are exact, `resultant_smart_gcd` returns a greatest common divisor in ℤ[X]: it
divides both arguments and every common divisor divides it.

`DivC g f` — "g divides a non-zero integer multiple of f" — is carried along the pseudo-remainder
sequence by `gcdLoop_run`; Gauss's lemma (Mathlib) removes the integer multiple at the end. -/
open Polynomial
namespace NTV.Res
open NTV.PolyG

def DivC (g f : ℤ[X]) : Prop := ∃ c : ℤ, c ≠ 0 ∧ g ∣ C c * f

theorem divC_refl (g : ℤ[X]) : DivC g g := ⟨1, one_ne_zero, by rw [C_1, one_mul]⟩
theorem divC_zero (g : ℤ[X]) : DivC g 0 := ⟨1, one_ne_zero, by rw [mul_zero]; exact dvd_zero g⟩
theorem divC_one (f : ℤ[X]) : DivC 1 f := ⟨1, one_ne_zero, one_dvd _⟩

theorem divC_of_dvd {g h f : ℤ[X]} (hgh : g ∣ h) (hf : DivC h f) : DivC g f := by
  obtain ⟨c, hc, hd⟩ := hf
  exact ⟨c, hc, dvd_trans hgh hd⟩

theorem divC_of_step {g F G P Q : ℤ[X]} (m : ℤ) (hm : m ≠ 0) (hrel : C m * F = Q * G + P)
    (hG : DivC g G) (hP : DivC g P) : DivC g F := by
  obtain ⟨c1, hc1, d1⟩ := hG
  obtain ⟨c2, hc2, d2⟩ := hP
  refine ⟨c1 * c2 * m, mul_ne_zero (mul_ne_zero hc1 hc2) hm, ?_⟩
  have e : C (c1 * c2 * m) * F = (C c2 * Q) * (C c1 * G) + C c1 * (C c2 * P) := by
    rw [C_mul, C_mul, mul_assoc, hrel]; ring
  rw [e]
  exact dvd_add (Dvd.dvd.mul_left d1 _) (Dvd.dvd.mul_left d2 _)

theorem divC_scale {g G' P : ℤ[X]} (m : ℤ) (hrel : C m * G' = P) (hG : DivC g G') : DivC g P := by
  obtain ⟨c, hc, d⟩ := hG
  refine ⟨c, hc, ?_⟩
  rw [← hrel]
  rw [mul_left_comm]; exact Dvd.dvd.mul_left d _

theorem toPoly_one : toPoly [(1 : Int)] = 1 := by simp [toPoly]

/-- pull-back along the run: every common divisor (up to integers) of the current pair is one of the first pair -/
theorem gcdLoop_divC (fuel : Nat) (f g : List Int) (a b : Int) (ok : Bool) (r : List Int)
    (hcf : Canon f) (hcg : Canon g) (hf : f ≠ []) (h : gcdLoop fuel f g a b ok = some (.ok (r, true))) :
    DivC (toPoly r) (toPoly f) ∧ DivC (toPoly r) (toPoly g) := by
  obtain ⟨f', g', -, -, -, hP, hr⟩ := gcdLoop_run
    (P := fun f' g' => ∀ R, DivC R (toPoly f') → DivC R (toPoly g') → DivC R (toPoly f) ∧ DivC R (toPoly g))
    (fun _ _ hP R h1 h2 => hP R h2 h1)
    (fun _ _ _ _ m k hm _ hrel hP R h1 h2 => hP R (divC_of_step m hm hrel h1 (divC_scale k rfl h2)) h1)
    fuel f g a b ok r hcf hcg hf (fun _ h1 h2 => ⟨h1, h2⟩) h
  rcases hr with ⟨rfl, rfl⟩ | ⟨-, rfl⟩
  · exact hP _ (divC_refl _) (divC_zero _)
  · rw [toPoly_one]; exact hP _ (divC_one _) (divC_one _)

theorem isPrimitive_of_list (p : List Int) (h : ∀ e : Int, (∀ c ∈ p, e ∣ c) → e ∣ 1) :
    (toPoly p).IsPrimitive := by
  intro r hr
  rw [C_dvd_iff_dvd_coeff] at hr
  have : r ∣ 1 := by
    apply h
    intro c hc
    obtain ⟨i, hi, rfl⟩ := List.getElem_of_mem hc
    have := hr i
    rw [coeff_toPoly] at this
    simpa [List.getD_eq_getElem?_getD, List.getElem?_eq_getElem hi] using this
  exact isUnit_of_dvd_one this

theorem dvd_of_divC {p q : ℤ[X]} (hp : p.IsPrimitive) (h : DivC p q) : p ∣ q := by
  obtain ⟨c, hc, d⟩ := h
  rw [IsPrimitive.Int.dvd_iff_map_cast_dvd_map_cast _ _ hp] at d ⊢
  rw [Polynomial.map_mul, map_C] at d
  have hu : IsUnit (C ((Int.castRingHom ℚ) c) : ℚ[X]) := by
    apply isUnit_C.mpr
    exact isUnit_iff_ne_zero.mpr (by simpa using hc)
  exact (hu.dvd_mul_left).mp d

/-- C10 (the result divides both arguments): for non-zero canonical f, g, when all divisions are
exact, the returned polynomial divides f and g in ℤ[X] -/
theorem gcd_dvd (f g r : List Int) (hf : f ≠ []) (hg : g ≠ []) (hcf : Canon f) (hcg : Canon g)
    (h : resultantSmartGcdE f g = some (.ok (r, true))) :
    toPoly r ∣ toPoly f ∧ toPoly r ∣ toPoly g := by
  obtain ⟨f2, hl, hc2, hne2, rfl⟩ := resultantSmartGcdE_exact f g r hf hg hcf hcg h
  have hsp1 := contPP_spec f hf hcf
  have hsp2 := contPP_spec g hg hcg
  obtain ⟨hd1, hd2⟩ := gcdLoop_divC _ _ _ _ _ _ f2 hsp1.2.2.2 hsp2.2.2.2 (pp_ne_nil f hf hcf) hl
  obtain ⟨s1, s2, -, -⟩ := contPP_spec f2 hne2 hc2
  have hprim := isPrimitive_of_list _ s2
  have hpd : toPoly (contPP f2).2 ∣ toPoly f2 := ⟨C (contPP f2).1, by rw [← s1]; ring⟩
  rw [toPoly_resPolyMul, ← hsp1.1, ← hsp2.1]
  exact ⟨mul_dvd_mul (_root_.map_dvd C (Int.gcd_dvd_left _ _)) (dvd_of_divC hprim (divC_of_dvd hpd hd1)),
    mul_dvd_mul (_root_.map_dvd C (Int.gcd_dvd_right _ _)) (dvd_of_divC hprim (divC_of_dvd hpd hd2))⟩

theorem divC_fwd {e F G P Q : ℤ[X]} (m : ℤ) (hrel : C m * F = Q * G + P)
    (hF : DivC e F) (hG : DivC e G) : DivC e P := by
  obtain ⟨c1, hc1, d1⟩ := hF
  obtain ⟨c2, hc2, d2⟩ := hG
  refine ⟨c1 * c2, mul_ne_zero hc1 hc2, ?_⟩
  have e1 : C (c1 * c2) * P = (C c2 * C m) * (C c1 * F) - (C c1 * Q) * (C c2 * G) := by
    have : P = C m * F - Q * G := (sub_eq_of_eq_add' hrel).symm
    rw [this, C_mul]; ring
  rw [e1]
  exact dvd_sub (Dvd.dvd.mul_left d1 _) (Dvd.dvd.mul_left d2 _)

theorem divC_unscale {e G' P : ℤ[X]} (k : ℤ) (hk : k ≠ 0) (hrel : C k * G' = P) (hP : DivC e P) : DivC e G' := by
  obtain ⟨c, hc, d⟩ := hP
  refine ⟨c * k, mul_ne_zero hc hk, ?_⟩
  rw [C_mul, mul_assoc, hrel]; exact d

theorem gcdLoop_fwd (e : ℤ[X]) (fuel : Nat) (f g : List Int) (a b : Int) (ok : Bool) (r : List Int)
    (hcf : Canon f) (hcg : Canon g) (hf : f ≠ []) (h : gcdLoop fuel f g a b ok = some (.ok (r, true)))
    (hF : DivC e (toPoly f)) (hG : DivC e (toPoly g)) : DivC e (toPoly r) := by
  obtain ⟨f', g', -, -, hcg', hP, hr⟩ := gcdLoop_run
    (P := fun f' g' => DivC e (toPoly f') ∧ DivC e (toPoly g')) (fun _ _ => And.symm)
    (fun _ _ g' _ m k _ hk hrel hP => ⟨hP.2, by
      by_cases hg' : g' = []
      · subst hg'; exact divC_zero e
      · exact divC_unscale k (hk hg') rfl (divC_fwd m hrel hP.1 hP.2)⟩)
    fuel f g a b ok r hcf hcg hf ⟨hF, hG⟩ h
  rcases hr with ⟨-, rfl⟩ | ⟨hg', rfl⟩
  · exact hP.1
  · -- `g'` is a non-zero constant
    obtain ⟨g0, rfl⟩ := List.length_eq_one_iff.mp hg'
    rw [toPoly_one]
    exact divC_unscale g0 (hcg' (List.cons_ne_nil _ _)) (by simp [toPoly]) hP.2

theorem C_dvd_content (a : List Int) (ha : a ≠ []) (hca : Canon a) (k : ℤ) (h : C k ∣ toPoly a) :
    k ∣ (contPP a).1 := by
  obtain ⟨s1, s2, _, _⟩ := contPP_spec a ha hca
  rw [← dvd_content_iff_C_dvd, ← s1, content_C_mul, (isPrimitive_of_list _ s2).content_eq_one, mul_one] at h
  exact dvd_normalize_iff.mp h

/-- C10 (greatest): when all divisions are exact, every common divisor of f and g in ℤ[X] divides
the returned polynomial -/
theorem gcd_greatest (f g r : List Int) (hf : f ≠ []) (hg : g ≠ []) (hcf : Canon f) (hcg : Canon g)
    (h : resultantSmartGcdE f g = some (.ok (r, true))) (e : ℤ[X])
    (hef : e ∣ toPoly f) (heg : e ∣ toPoly g) : e ∣ toPoly r := by
  obtain ⟨f2, hl, hc2, hne2, rfl⟩ := resultantSmartGcdE_exact f g r hf hg hcf hcg h
  have hsp1 := contPP_spec f hf hcf
  have hsp2 := contPP_spec g hg hcg
  obtain ⟨s1, -, -, -⟩ := contPP_spec f2 hne2 hc2
  -- the primitive part of e goes through the loop, its content into the gcd of the contents
  have hee := e.eq_C_content_mul_primPart
  have hpp : e.primPart ∣ e := ⟨C e.content, by rw [mul_comm]; exact hee⟩
  have hcc : C e.content ∣ e := ⟨e.primPart, hee⟩
  have dF : DivC e.primPart (toPoly (contPP f).2) :=
    ⟨(contPP f).1, contPP_fst_ne_zero f hf hcf, by rw [hsp1.1]; exact dvd_trans hpp hef⟩
  have dG : DivC e.primPart (toPoly (contPP g).2) :=
    ⟨(contPP g).1, contPP_fst_ne_zero g hg hcg, by rw [hsp2.1]; exact dvd_trans hpp heg⟩
  have d2 := gcdLoop_fwd e.primPart _ _ _ _ _ _ f2 hsp1.2.2.2 hsp2.2.2.2 (pp_ne_nil f hf hcf) hl dF dG
  have k1 : e.primPart ∣ toPoly (contPP f2).2 := dvd_of_divC (isPrimitive_primPart e)
    (divC_unscale _ (contPP_fst_ne_zero f2 hne2 hc2) s1 d2)
  have kf := C_dvd_content f hf hcf _ (dvd_trans hcc hef)
  have kg := C_dvd_content g hg hcg _ (dvd_trans hcc heg)
  rw [toPoly_resPolyMul, hee]
  exact mul_dvd_mul (_root_.map_dvd C (Int.dvd_coe_gcd kf kg)) k1

end NTV.Res
