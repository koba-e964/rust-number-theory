import NTV.Proofs.Lemmas.SubresLoop
import NTV.Proofs.Lemmas.ContPP
/-! Runs of `resultant_smart_gcd` whose flag is set: induction along the loop (`gcdLoop_run`), canonicity of
its result, and the wrapper unfolded (`resultantSmartGcdE_eq`, `resultantSmartGcdE_exact`): the loop runs on
the primitive parts and its result is made primitive and multiplied by the gcd of the contents. -/
open Polynomial
namespace NTV.Res
open NTV.PolyG

theorem gcdLoop_flag (fuel : Nat) : ∀ (f g : List Int) (a b : Int) (ok : Bool) (r : List Int),
    gcdLoop fuel f g a b ok = some (.ok (r, true)) → ok = true := by
  induction fuel with
  | zero => intro f g a b ok r h; cases h
  | succ fuel ih =>
    intro f g a b ok r h
    rcases loop_cases f g with rfl | hg | ⟨hg, hfg⟩ | ⟨hg, hfg⟩
    · cases h; rfl
    · rw [gcdLoop_const hg] at h; cases h; rfl
    · rw [gcdLoop_swap hg hfg] at h
      exact ih _ _ _ _ _ _ h
    · rw [gcdLoop_step hg hfg] at h
      split at h
      · cases h
      · exact (Bool.and_eq_true_iff.mp (ih _ _ _ _ _ _ h)).1

/-- Induction along an exact run of the gcd loop: a property of the loop arguments kept by a swap and by a
round (`m·f = Q·g + k·g'`) holds of the final pair, where `g' = 0` (result `f'`) or `g'` is constant (result `1`). -/
theorem gcdLoop_run {P : List Int → List Int → Prop} (swap : ∀ f g, P f g → P g f)
    (round : ∀ (f g g' : List Int) (Q : ℤ[X]) (m k : ℤ), m ≠ 0 → (g' ≠ [] → k ≠ 0) →
      C m * toPoly f = Q * toPoly g + C k * toPoly g' → P f g → P g g')
    (fuel : Nat) : ∀ (f g : List Int) (a b : Int) (ok : Bool) (r : List Int),
    Canon f → Canon g → f ≠ [] → P f g → gcdLoop fuel f g a b ok = some (.ok (r, true)) →
    ∃ f' g', Canon f' ∧ f' ≠ [] ∧ Canon g' ∧ P f' g' ∧ (g' = [] ∧ r = f' ∨ g'.length = 1 ∧ r = [1]) := by
  induction fuel with
  | zero => intro f g a b ok r _ _ _ _ h; cases h
  | succ fuel ih =>
    intro f g a b ok r hcf hcg hf hP h
    rcases loop_cases f g with rfl | hg | ⟨hg, hfg⟩ | ⟨hg, hfg⟩
    · cases h; exact ⟨f, [], hcf, hf, hcg, hP, .inl ⟨rfl, rfl⟩⟩
    · rw [gcdLoop_const hg] at h; cases h
      exact ⟨f, g, hcf, hf, hcg, hP, .inr ⟨hg, rfl⟩⟩
    · rw [gcdLoop_swap hg hfg] at h
      exact ih g f a b ok r hcg hcf (List.ne_nil_of_length_pos (Nat.zero_lt_of_lt hg)) (swap f g hP) h
    · rw [gcdLoop_step hg hfg] at h
      split at h
      · cases h
      · rename_i f' g' a' b' ok' hs
        obtain rfl : ok' = true := (Bool.and_eq_true_iff.mp (gcdLoop_flag _ _ _ _ _ _ _ h)).2
        have hgne : g ≠ [] := List.ne_nil_of_length_pos (Nat.zero_lt_of_lt hg)
        obtain ⟨hf', -, -, hcg', Q, R, hrel, -, hR, -, hk⟩ :=
          step_spec f g a b f' g' a' b' hf hgne hcg hfg hs
        subst f' R
        exact ih g g' a' b' _ r hcg hcg' hgne
          (round f g g' Q _ _ (pow_ne_zero _ (lc_ne_zero g hgne hcg)) hk hrel hP) h

theorem gcdLoop_canon (fuel : Nat) : ∀ (f g : List Int) (a b : Int) (ok : Bool) (r : List Int),
    Canon f → Canon g → f ≠ [] →
    gcdLoop fuel f g a b ok = some (.ok (r, true)) → Canon r ∧ r ≠ [] := by
  intro f g a b ok r hcf hcg hf h
  obtain ⟨f', g', hcf', hf', -, -, ⟨-, rfl⟩ | ⟨-, rfl⟩⟩ := gcdLoop_run (P := fun _ _ => True)
    (fun _ _ _ => trivial) (fun _ _ _ _ _ _ _ _ _ _ => trivial) fuel f g a b ok r hcf hcg hf trivial h
  · exact ⟨hcf', hf'⟩
  · exact ⟨fun _ => by simp, by simp⟩

theorem not_all_zero (f : List Int) (hf : f ≠ []) (hc : Canon f) : f.all (· == 0) = false := by
  have hl := lc_ne_zero f hf hc
  have hmem : lc f ∈ f := lc_mem f hf
  by_contra h
  have h' : f.all (· == 0) = true := by simpa using h
  have := List.all_eq_true.mp h' _ hmem
  exact hl (by simpa using this)

theorem contPP_fst_ne_zero (f : List Int) (hf : f ≠ []) (hc : Canon f) : (contPP f).1 ≠ 0 := by
  intro e
  have := (contPP_spec f hf hc).1
  rw [e] at this
  simp only [map_zero, zero_mul] at this
  exact (natDegree_toPoly f hf hc).2.2 this.symm

theorem content_ok (f : List Int) (hf : f ≠ []) (hc : Canon f) : content f = .ok (contPP f).1 := by
  have he : f.isEmpty = false := List.isEmpty_eq_false_iff.mpr hf
  simp [content, he, not_all_zero f hf hc]

theorem polyDiv_content (f : List Int) (hf : f ≠ []) (hc : Canon f) :
    polyDiv f (contPP f).1 = .ok (contPP f).2 := by
  have he : f.isEmpty = false := List.isEmpty_eq_false_iff.mpr hf
  have h0 := contPP_fst_ne_zero f hf hc
  simp only [polyDiv, he, Bool.false_eq_true, ↓reduceIte, h0]
  simp [contPP, he]

theorem pp_ne_nil (f : List Int) (hf : f ≠ []) (hc : Canon f) : (contPP f).2 ≠ [] := by
  intro e
  have := (contPP_spec f hf hc).2.2.1
  rw [e] at this; simp [lc] at this

theorem toPoly_resPolyMul (f : List Int) (m : Int) : toPoly (polyMul f m) = C m * toPoly f := by
  unfold polyMul
  split
  · rename_i h
    rw [List.isEmpty_iff.mp h]; simp [toPoly]
  · rw [toPoly_fromRaw, toPoly_map_mul_right]

theorem resultantSmartGcdE_eq (f g : List Int) (hf : f ≠ []) (hg : g ≠ []) (hcf : Canon f) (hcg : Canon g) :
    resultantSmartGcdE f g =
      match gcdLoop ((contPP f).2.length + (contPP g).2.length + 3) (contPP f).2 (contPP g).2 1 1 true with
      | none => none
      | some (.error e) => some (.error e)
      | some (.ok (f2, ok)) => some (do
          let contf ← content f2
          let pp ← polyDiv f2 contf
          return (polyMul pp (Int.gcd (contPP f).1 (contPP g).1), ok)) := by
  unfold resultantSmartGcdE
  simp only [List.isEmpty_eq_false_iff.mpr hf, Bool.false_eq_true, ↓reduceIte, bind, Except.bind,
    content_ok f hf hcf, content_ok g hg hcg, polyDiv_content f hf hcf, polyDiv_content g hg hcg, pure,
    Except.pure]
  rfl

theorem resultantSmartGcdE_exact (f g r : List Int) (hf : f ≠ []) (hg : g ≠ []) (hcf : Canon f) (hcg : Canon g)
    (h : resultantSmartGcdE f g = some (.ok (r, true))) :
    ∃ f2, gcdLoop ((contPP f).2.length + (contPP g).2.length + 3) (contPP f).2 (contPP g).2 1 1 true
        = some (.ok (f2, true)) ∧ Canon f2 ∧ f2 ≠ [] ∧
      r = polyMul (contPP f2).2 (Int.gcd (contPP f).1 (contPP g).1) := by
  rw [resultantSmartGcdE_eq f g hf hg hcf hcg] at h
  cases hl : gcdLoop ((contPP f).2.length + (contPP g).2.length + 3) (contPP f).2 (contPP g).2 1 1 true with
  | none => rw [hl] at h; cases h
  | some res =>
    rw [hl] at h
    obtain e | ⟨f2, ok⟩ := res
    · cases h
    · simp only [bind, Except.bind, pure, Except.pure] at h
      cases ok with
      | false =>
        -- a flag that is already `false` cannot come out `true`
        exfalso
        revert h
        cases content f2 with
        | error e => simp
        | ok c =>
          simp only
          cases polyDiv f2 c <;> simp
      | true =>
        obtain ⟨hc2, hne2⟩ := gcdLoop_canon _ _ _ _ _ _ f2 (contPP_spec f hf hcf).2.2.2
          (contPP_spec g hg hcg).2.2.2 (pp_ne_nil f hf hcf) hl
        simp only [content_ok f2 hne2 hc2, polyDiv_content f2 hne2 hc2, Option.some.injEq, Except.ok.injEq,
          Prod.mk.injEq, and_true] at h
        exact ⟨f2, rfl, hc2, hne2, h.symm⟩

end NTV.Res
