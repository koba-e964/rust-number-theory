import Mathlib.Algebra.Polynomial.Basic
import Mathlib.Tactic
open Polynomial
namespace NTV.Hensel

/-- congruence of integer polynomials modulo an integer -/
def PCong (q : ℤ) (f g : ℤ[X]) : Prop := ∃ h : ℤ[X], f - g = C q * h

/-- Algebraic core of Cohen 3.5.5 as implemented by `hensel_lift`: whatever quotient `t` is used,
c ≡ a·b (mod q), a·u + b·v ≡ 1 (mod r), r ∣ q give c ≡ a₁·b₁ (mod q·r). -/
theorem hensel_step (q r : ℤ) (hrq : r ∣ q) (a b c u v f t F : ℤ[X])
    (hc : c - a * b = C q * F) (hf : PCong r f F) (huv : PCong r (a * u + b * v) 1) :
    PCong (q * r) c ((a + C q * (v * f - a * t)) * (b + C q * (u * f + b * t))) ∧
    PCong q (a + C q * (v * f - a * t)) a ∧ PCong q (b + C q * (u * f + b * t)) b := by
  obtain ⟨s, rfl⟩ := hrq
  obtain ⟨g, hg⟩ := hf
  obtain ⟨w, hw⟩ := huv
  refine ⟨?_, ⟨v * f - a * t, by ring⟩, ⟨u * f + b * t, by ring⟩⟩
  refine ⟨-(g * (1 + C r * w) + F * w + C s * ((v * f - a * t) * (u * f + b * t))), ?_⟩
  simp only [C_mul] at hc ⊢
  linear_combination hc - (C r * C s * f) * hw - (C r * C s * (1 + C r * w)) * hg

end NTV.Hensel
