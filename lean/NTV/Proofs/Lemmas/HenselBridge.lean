import NTV.Proofs.Lemmas.PolyGcdMod
import Mathlib.Data.ZMod.Basic
import Mathlib.Algebra.Polynomial.RingDivision
import Mathlib.Algebra.Polynomial.FieldDivision
/-! Bridges used by the C08, C11 and C12 proofs: `egcdX` gives a modular inverse; congruence of integer polynomials
modulo a natural number p is equality of the images in (ZMod p)[X]; a product of elements coprime to x is coprime to x; monic lists. -/
open Polynomial
namespace NTV.PolyMod
open NTV.PolyG NTV.Hensel

theorem egcdLoop_spec (x m : Int) : ∀ r0 r1 s0 s1 : Int, r0 ≡ s0 * x [ZMOD m] → r1 ≡ s1 * x [ZMOD m] →
    (egcdLoop r0 r1 s0 s1).1 ≡ (egcdLoop r0 r1 s0 s1).2 * x [ZMOD m] ∧
    (egcdLoop r0 r1 s0 s1).1.natAbs = Int.gcd r0 r1 := by
  intro r0 r1 s0 s1
  fun_induction egcdLoop r0 r1 s0 s1 with
  | case1 r1 s0 s1 =>
    intro _ h1
    exact ⟨h1, by simp⟩
  | case2 r0 r1 s0 s1 h ih =>
    intro h0 h1
    have hr : Int.tmod r1 r0 = r1 - r0 * Int.tdiv r1 r0 := by rw [Int.tmod_def]
    obtain ⟨i1, i2⟩ := ih (by
      rw [hr]
      have := h1.sub (h0.mul_right (Int.tdiv r1 r0))
      refine this.trans ?_
      have e : s1 * x - s0 * x * r1.tdiv r0 = (s1 - r1.tdiv r0 * s0) * x := by ring
      rw [e]) h0
    refine ⟨i1, ?_⟩
    rw [i2, hr]
    have : r1 - r0 * r1.tdiv r0 = r1 + r0 * (-(r1.tdiv r0)) := by ring
    rw [this, Int.gcd_comm r0 r1, Int.gcd_add_mul_left_left]

/-- `x.extended_gcd(m).x.mod_floor(m)` is an inverse of x modulo m when gcd(x, m) = 1 -/
theorem egcdX_inv (x m : Int) (h : Int.gcd x m = 1) : x * Int.fmod (egcdX x m) m ≡ 1 [ZMOD m] := by
  obtain ⟨h1, h2⟩ := egcdLoop_spec x m m x 0 1 (by simp)
    (by simp)
  rw [Int.gcd_comm, h] at h2
  have hx : x * egcdX x m ≡ 1 [ZMOD m] := by
    unfold egcdX
    generalize egcdLoop m x 0 1 = t at h1 h2
    obtain ⟨g, s⟩ := t
    simp only at h1 h2 ⊢
    split
    · have : g = 1 := by omega
      subst this
      rw [mul_comm]; exact h1.symm
    · have : g = -1 := by omega
      subst this
      have := h1.neg
      simp only [neg_neg] at this
      have e : x * (0 - s) = -(s * x) := by ring
      rw [e]; exact this.symm
  exact ((Int.ModEq.refl x).mul (fmod_modEq _ _)).trans hx

theorem pcong_iff_map (p : ℕ) (F G : ℤ[X]) :
    PCong (p : ℤ) F G ↔ F.map (Int.castRingHom (ZMod p)) = G.map (Int.castRingHom (ZMod p)) := by
  rw [pcong_iff]
  constructor
  · intro h
    ext j
    have := h j
    rw [coeff_sub] at this
    simp only [coeff_map, eq_intCast]
    rw [ZMod.intCast_eq_intCast_iff_dvd_sub]
    have e : G.coeff j - F.coeff j = -(F.coeff j - G.coeff j) := by ring
    rw [e]; exact (Int.dvd_neg).mpr this
  · intro h j
    have := congrArg (fun P => P.coeff j) h
    simp only [coeff_map, eq_intCast] at this
    rw [ZMod.intCast_eq_intCast_iff_dvd_sub] at this
    rw [coeff_sub]
    have e : F.coeff j - G.coeff j = -(G.coeff j - F.coeff j) := by ring
    rw [e]; exact (Int.dvd_neg).mpr this

theorem map_surj (p : ℕ) (P : (ZMod p)[X]) : ∃ F : ℤ[X], F.map (Int.castRingHom (ZMod p)) = P :=
  Polynomial.map_surjective _ (ZMod.intCast_surjective) P

theorem coprime_iff_map (p : ℕ) (F G : ℤ[X]) :
    (∃ U V : ℤ[X], PCong (p : ℤ) (F * U + G * V) 1) ↔
      IsCoprime (F.map (Int.castRingHom (ZMod p))) (G.map (Int.castRingHom (ZMod p))) := by
  constructor
  · rintro ⟨U, V, h⟩
    rw [pcong_iff_map, Polynomial.map_add, Polynomial.map_mul, Polynomial.map_mul, Polynomial.map_one] at h
    refine ⟨U.map (Int.castRingHom (ZMod p)), V.map (Int.castRingHom (ZMod p)), ?_⟩
    rw [mul_comm (U.map _), mul_comm (V.map _)]
    exact h
  · rintro ⟨u, v, h⟩
    obtain ⟨U, rfl⟩ := map_surj p u
    obtain ⟨V, rfl⟩ := map_surj p v
    refine ⟨U, V, ?_⟩
    rw [pcong_iff_map, Polynomial.map_add, Polynomial.map_mul, Polynomial.map_mul, Polynomial.map_one,
      mul_comm (F.map _), mul_comm (G.map _)]
    exact h

theorem isCoprime_list_prod_left {R : Type*} [CommRing R] (x : R) :
    ∀ (L : List R), (∀ y ∈ L, IsCoprime y x) → IsCoprime L.prod x := by
  intro L
  induction L with
  | nil => intro _; simpa using isCoprime_one_left
  | cons y ys ih =>
    intro h
    rw [List.prod_cons]
    exact IsCoprime.mul_left (h y List.mem_cons_self) (ih (fun z hz => h z (List.mem_cons_of_mem _ hz)))

theorem PCong.of_dvd {q m : ℤ} (hd : m ∣ q) {F G : ℤ[X]} (h : PCong q F G) : PCong m F G := by
  obtain ⟨s, rfl⟩ := hd
  exact PCong.of_mul_right h

theorem PCong.sub {q : ℤ} {f g f' g' : ℤ[X]} (h1 : PCong q f f') (h2 : PCong q g g') : PCong q (f - g) (f' - g') := by
  obtain ⟨w1, hw1⟩ := h1; obtain ⟨w2, hw2⟩ := h2
  exact ⟨w1 - w2, by linear_combination hw1 - hw2⟩

/-! Monic coefficient lists are given as `lc l = 1`, which implies non-empty and canonical. -/
theorem ne_nil_of_lc_ne_zero (l : List Int) (h : lc l ≠ 0) : l ≠ [] := by
  rintro rfl; simp [lc] at h

theorem canon_of_lc_ne_zero (l : List Int) (h : lc l ≠ 0) : Canon l := by
  intro hne; rw [← lc_of_ne_nil l hne]; exact h

theorem monic_toPoly (l : List Int) (h : lc l = 1) :
    (toPoly l).Monic ∧ (toPoly l).natDegree = l.length - 1 ∧ l ≠ [] ∧ Canon l := by
  have h0 : lc l ≠ 0 := by rw [h]; exact one_ne_zero
  have hne := ne_nil_of_lc_ne_zero l h0
  have hc := canon_of_lc_ne_zero l h0
  obtain ⟨d1, d2, _⟩ := natDegree_toPoly l hne hc
  exact ⟨by rw [Monic, d2, h], d1, hne, hc⟩

/-- a reduced canonical list congruent modulo m > 1 to a polynomial that is "monic of degree n
modulo m" is monic of length n + 1 -/
theorem monic_of_cong (m : Int) (hm : 1 < m) (g : List Int) (hr : Reduced m g) (hc : Canon g) (H : ℤ[X]) (n : Nat)
    (hcong : PCong m (toPoly g) H) (hdeg : ∀ j, n < j → m ∣ H.coeff j) (hn : m ∣ H.coeff n - 1) :
    g.length = n + 1 ∧ lc g = 1 := by
  have key : ∀ j, m ∣ g.getD j 0 - H.coeff j := by
    intro j
    have := (pcong_iff m _ _).mp hcong j
    rwa [coeff_sub, coeff_toPoly] at this
  have hz : ∀ j, n < j → g.getD j 0 = 0 := by
    intro j hj
    exact Int.eq_zero_of_dvd_of_nonneg_of_lt (hr j).1 (hr j).2
      ((Int.dvd_iff_dvd_of_dvd_sub (key j)).mpr (hdeg j hj))
  have hone : g.getD n 0 = 1 := by
    have h1 : m ∣ g.getD n 0 - 1 := by
      have := Int.dvd_add (key n) hn
      have e : g.getD n 0 - H.coeff n + (H.coeff n - 1) = g.getD n 0 - 1 := by ring
      rwa [e] at this
    have := Int.eq_zero_of_abs_lt_dvd h1 (by
      rw [abs_lt]; have := hr n; constructor <;> omega)
    omega
  have hne : g ≠ [] := by rintro rfl; simp at hone
  have hlast := getLast_eq_getD g hne
  have hnz := hc hne
  rw [hlast] at hnz
  have hlen1 : g.length - 1 ≤ n := by
    by_contra hh
    exact hnz (hz _ (by omega))
  have hlen2 : n < g.length := by
    by_contra hh
    have := getD_of_length_le g n (by omega)
    omega
  have hlen : g.length = n + 1 := by omega
  refine ⟨hlen, ?_⟩
  rw [← lc_eq_getD g hne, hlen, Nat.add_sub_cancel]
  exact hone

/-- if C ≡ A·B modulo m > 1 with A, C monic and B reduced and canonical, then B is monic and
deg B + deg A = deg C -/
theorem monic_cofactor (m : Int) (hm : 1 < m) (A Cc : ℤ[X]) (hA : A.Monic) (hC : Cc.Monic) (b : List Int)
    (hr : Reduced m b) (hc : Canon b) (hcong : PCong m Cc (A * toPoly b)) :
    lc b = 1 ∧ b.length - 1 + A.natDegree = Cc.natDegree ∧ b ≠ [] := by
  have key : ∀ j, m ∣ Cc.coeff j - (A * toPoly b).coeff j := by
    intro j
    have := (pcong_iff m _ _).mp hcong j
    rwa [coeff_sub] at this
  have hC1 : Cc.coeff Cc.natDegree = 1 := hC
  have hne : b ≠ [] := by
    rintro rfl
    have := key Cc.natDegree
    simp only [toPoly, mul_zero, coeff_zero, sub_zero, hC1] at this
    have := Int.eq_one_of_dvd_one (by omega) this
    omega
  obtain ⟨d1, d2, d3⟩ := natDegree_toPoly b hne hc
  have hlc0 := lc_ne_zero b hne hc
  have hlcr := hr (b.length - 1)
  rw [lc_eq_getD b hne] at hlcr
  have hdeg : (A * toPoly b).natDegree = A.natDegree + (b.length - 1) := by
    rw [hA.natDegree_mul' d3, d1]
  have hlead : (A * toPoly b).coeff (A.natDegree + (b.length - 1)) = lc b := by
    rw [← hdeg, coeff_natDegree, leadingCoeff_monic_mul hA, d2]
  have hnd : ¬ m ∣ lc b := fun hd =>
    hlc0 (Int.eq_zero_of_dvd_of_nonneg_of_lt hlcr.1 hlcr.2 hd)
  have heq : A.natDegree + (b.length - 1) = Cc.natDegree := by
    rcases lt_trichotomy (A.natDegree + (b.length - 1)) Cc.natDegree with hlt | he | hgt
    · exfalso
      have := key Cc.natDegree
      rw [hC1, coeff_eq_zero_of_natDegree_lt (by rw [hdeg]; exact hlt), sub_zero] at this
      have := Int.eq_one_of_dvd_one (by omega) this
      omega
    · exact he
    · exfalso
      have := key (A.natDegree + (b.length - 1))
      rw [hlead, coeff_eq_zero_of_natDegree_lt hgt, zero_sub] at this
      exact hnd ((Int.dvd_neg).mp this)
  refine ⟨?_, by omega, hne⟩
  have := key Cc.natDegree
  rw [hC1, ← heq, hlead] at this
  have := Int.eq_zero_of_abs_lt_dvd this (by rw [abs_lt]; constructor <;> omega)
  omega

end NTV.PolyMod
