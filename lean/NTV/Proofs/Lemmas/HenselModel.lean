import NTV.Proofs.Lemmas.HenselAlg
import NTV.Proofs.Lemmas.ContPP
import NTV.Model.PolyModHensel
open Polynomial
namespace NTV.Hensel
open NTV.PolyG NTV.PolyMod

theorem PCong.refl (q : ℤ) (f : ℤ[X]) : PCong q f f := ⟨0, by simp⟩

theorem PCong.symm {q : ℤ} {f g : ℤ[X]} (h : PCong q f g) : PCong q g f := by
  obtain ⟨w, hw⟩ := h; exact ⟨-w, by linear_combination -hw⟩

theorem PCong.trans {q : ℤ} {f g k : ℤ[X]} (h1 : PCong q f g) (h2 : PCong q g k) : PCong q f k := by
  obtain ⟨w1, hw1⟩ := h1; obtain ⟨w2, hw2⟩ := h2
  exact ⟨w1 + w2, by linear_combination hw1 + hw2⟩

theorem PCong.mul {q : ℤ} {f g f' g' : ℤ[X]} (h1 : PCong q f f') (h2 : PCong q g g') : PCong q (f * g) (f' * g') := by
  obtain ⟨w1, hw1⟩ := h1; obtain ⟨w2, hw2⟩ := h2
  exact ⟨w1 * g + f' * w2, by linear_combination g * hw1 + f' * hw2⟩

theorem PCong.of_mul_right {q r : ℤ} {f g : ℤ[X]} (h : PCong (q * r) f g) : PCong q f g := by
  obtain ⟨w, hw⟩ := h; exact ⟨C r * w, by rw [hw, C_mul]; ring⟩

theorem toPoly_map_fmod (g : List Int) (m : Int) :
    toPoly g - toPoly (g.map (fun c => Int.fmod c m)) = C m * toPoly (g.map (fun c => Int.fdiv c m)) := by
  induction g with
  | nil => simp [toPoly]
  | cons x xs ih =>
    simp only [List.map_cons, toPoly]
    have hx : x - Int.fmod x m = m * Int.fdiv x m := by rw [Int.fmod_def]; ring
    have : C x - C (Int.fmod x m) = C m * C (Int.fdiv x m) := by rw [← C_sub, hx, C_mul]
    linear_combination this + X * ih

theorem polyMod_cong (g : List Int) (m : Int) : PCong m (toPoly (polyMod g m)) (toPoly g) := by
  unfold polyMod
  rw [toPoly_fromRaw]
  exact PCong.symm ⟨_, toPoly_map_fmod g m⟩

theorem toPoly_polyMul (g : List Int) (q : Int) : toPoly (polyMul g q) = C q * toPoly g := by
  unfold polyMul
  rw [toPoly_fromRaw, toPoly_map_mul_right]

/-- `poly_div(g, q)` is exact when q divides every coefficient -/
theorem toPoly_polyDiv (g : List Int) (q : Int) (h : ∀ c ∈ g, q ∣ c) : C q * toPoly (polyDiv g q) = toPoly g := by
  unfold polyDiv
  rw [toPoly_fromRaw]
  exact toPoly_map_fdiv g q h

/-- on concrete lists the hypothesis is decided by evaluation -/
theorem pcong_of_sub_eq {q : Int} {x y : List Int} (w : List Int) (h : sub x y = polyMul w q) :
    PCong q (toPoly x) (toPoly y) :=
  ⟨toPoly w, by rw [← toPoly_sub, h, toPoly_polyMul]⟩

theorem toPoly_one : toPoly ([1] : List Int) = 1 := by simp [toPoly]

theorem coeffs_dvd_of_eq (g : List Int) (q : Int) (F : ℤ[X]) (h : toPoly g = C q * F) : ∀ c ∈ g, q ∣ c := by
  intro c hc
  obtain ⟨i, hi, rfl⟩ := List.mem_iff_getElem.mp hc
  have := congrArg (fun p => p.coeff i) h
  simp only [coeff_toPoly, coeff_C_mul] at this
  simp only [List.getD_eq_getElem?_getD, List.getElem?_eq_getElem hi, Option.getD_some] at this
  exact ⟨_, this⟩

/-- the routine takes for `t` the quotient of v·f by a, but the congruences hold for every `t` -/
theorem henselLift_of_quotient (q r : Int) (hrq : r ∣ q) (c a b u v f t : List Int) (F : ℤ[X])
    (hcF : toPoly c - toPoly a * toPoly b = C q * F) (hfF : PCong r (toPoly f) F)
    (huv : PCong r (toPoly a * toPoly u + toPoly b * toPoly v) 1) :
    PCong (q * r) (toPoly c)
      (toPoly (polyMod (add a (polyMul (sub (mul v f) (mul a t)) q)) (q * r)) *
        toPoly (polyMod (add b (polyMul (add (mul u f) (mul b t)) q)) (q * r))) ∧
    PCong q (toPoly (polyMod (add a (polyMul (sub (mul v f) (mul a t)) q)) (q * r))) (toPoly a) ∧
    PCong q (toPoly (polyMod (add b (polyMul (add (mul u f) (mul b t)) q)) (q * r))) (toPoly b) := by
  obtain ⟨s1, s2, s3⟩ := hensel_step q r hrq (toPoly a) (toPoly b) (toPoly c) (toPoly u) (toPoly v)
    (toPoly f) (toPoly t) F hcF hfF huv
  have hA := polyMod_cong (add a (polyMul (sub (mul v f) (mul a t)) q)) (q * r)
  have hB := polyMod_cong (add b (polyMul (add (mul u f) (mul b t)) q)) (q * r)
  rw [toPoly_add, toPoly_polyMul, toPoly_sub, toPoly_mul, toPoly_mul] at hA
  rw [toPoly_add, toPoly_polyMul, toPoly_add, toPoly_mul, toPoly_mul] at hB
  exact ⟨s1.trans (hA.mul hB).symm, hA.of_mul_right.trans s2, hB.of_mul_right.trans s3⟩

/-- C11: the model of `hensel_lift` satisfies Cohen 3.5.5 — for all integers p, q and all polynomials:
if c ≡ a·b (mod q) and a·u + b·v ≡ 1 (mod r), r = gcd(p, q), then the returned (a₁, b₁, q·r) has
c ≡ a₁·b₁ (mod q·r), a₁ ≡ a (mod q), b₁ ≡ b (mod q). No degree or primality hypotheses are needed. -/
theorem henselLift_spec (p q : Int) (c a b u v : List Int)
    (hc : PCong q (toPoly c) (toPoly a * toPoly b))
    (huv : PCong (Int.gcd p q : Int) (toPoly a * toPoly u + toPoly b * toPoly v) 1) :
    (henselLift p q c a b u v).2.2 = q * (Int.gcd p q : Int) ∧
    PCong (q * (Int.gcd p q : Int)) (toPoly c)
      (toPoly (henselLift p q c a b u v).1 * toPoly (henselLift p q c a b u v).2.1) ∧
    PCong q (toPoly (henselLift p q c a b u v).1) (toPoly a) ∧
    PCong q (toPoly (henselLift p q c a b u v).2.1) (toPoly b) := by
  obtain ⟨F0, hF0⟩ := hc
  -- (c − a·b)/q is computed exactly by `poly_div`
  have hdiv := toPoly_polyDiv (sub c (mul a b)) q
    (coeffs_dvd_of_eq _ q F0 (by rw [toPoly_sub, toPoly_mul]; exact hF0))
  rw [toPoly_sub, toPoly_mul] at hdiv
  exact ⟨rfl, henselLift_of_quotient q _ (Int.gcd_dvd_right p q) c a b u v _ _ _ hdiv.symm
    (polyMod_cong _ _) huv⟩

end NTV.Hensel
