import NTV.Proofs.Lemmas.HenselWitness
import NTV.Proofs.Lemmas.HenselTwo
/-! C11, part 3: `hensel_lift_multiple` and `lift_factorization`. -/
open Polynomial
namespace NTV.PolyMod
open NTV.PolyG NTV.Hensel

/-- `accumulated`, reversed, as a function of the reversed factor list -/
def raccOf (q : Int) (cur : Poly) : List Poly → List Poly
  | [] => []
  | f :: rest => polyMod (mul ((raccOf q cur rest).headD cur) f) q :: raccOf q cur rest

theorem accumulate_snoc (q : Int) : ∀ (fs : List Poly) (cur f : Poly),
    accumulate q cur (fs ++ [f]) =
      accumulate q cur fs ++ [polyMod (mul ((accumulate q cur fs).getLastD cur) f) q] := by
  intro fs
  induction fs with
  | nil => intro cur f; simp [accumulate]
  | cons x xs ih => intro cur f; simp only [List.cons_append, accumulate, ih, List.getLastD_cons]

theorem accumulate_reverse (q : Int) (cur : Poly) (fs : List Poly) :
    (accumulate q cur fs).reverse = raccOf q cur fs.reverse := by
  induction fs using List.reverseRecOn with
  | nil => simp [accumulate, raccOf]
  | append_singleton fs f ih =>
    rw [accumulate_snoc]
    simp only [List.reverse_append, List.reverse_cons, List.reverse_nil, List.nil_append,
      List.singleton_append, raccOf]
    rw [← ih]
    congr 3
    rw [List.headD_eq_head?_getD, List.head?_reverse, List.getLastD_eq_getLast?]

theorem forall₂_comp {α β γ : Type} {R1 : α → β → Prop} {R2 : β → γ → Prop} {R3 : α → γ → Prop}
    (h : ∀ a b c, R1 a b → R2 b c → R3 a c) :
    ∀ {l1 : List α} {l2 : List β} {l3 : List γ}, List.Forall₂ R1 l1 l2 → List.Forall₂ R2 l2 l3 →
      List.Forall₂ R3 l1 l3 := by
  intro l1 l2 l3 h1
  induction h1 generalizing l3 with
  | nil => intro h2; cases h2; exact List.Forall₂.nil
  | cons hab _ ih =>
    intro h2
    cases h2 with
    | cons hbc htl => exact List.Forall₂.cons (h _ _ _ hab hbc) (ih htl)

theorem map_eq_of_forall₂ {α β γ : Type} (φ : α → γ) (ψ : β → γ) :
    ∀ {l1 : List α} {l2 : List β}, List.Forall₂ (fun a b => φ a = ψ b) l1 l2 → l1.map φ = l2.map ψ := by
  intro l1 l2 h
  induction h with
  | nil => rfl
  | cons hab _ ih => simp [hab, ih]

def degSum (L : List Poly) : Nat := (L.map (fun g => g.length - 1)).sum

theorem prod_monic (L : List Poly) (h : ∀ f ∈ L, lc f = 1) :
    (L.map toPoly).prod.Monic ∧ (L.map toPoly).prod.natDegree = degSum L := by
  induction L with
  | nil => simp [degSum]
  | cons f rest ih =>
    obtain ⟨i1, i2⟩ := ih (fun g hg => h g (List.mem_cons_of_mem _ hg))
    obtain ⟨m1, m2, _, _⟩ := monic_toPoly f (h f List.mem_cons_self)
    simp only [List.map_cons, List.prod_cons, degSum, List.sum_cons]
    refine ⟨m1.mul i1, ?_⟩
    rw [m1.natDegree_mul i1, m2, i2]; rfl

theorem top_spec (q : Int) (hq : 1 < q) (L : List Poly) (h : ∀ f ∈ L, lc f = 1) :
    lc ((raccOf q [1] L).headD [1]) = 1 ∧ ((raccOf q [1] L).headD [1]).length = degSum L + 1 ∧
    PCong q (toPoly ((raccOf q [1] L).headD [1])) (L.map toPoly).prod := by
  induction L with
  | nil => simp [raccOf, lc, degSum, toPoly]; exact PCong.refl _ _
  | cons f rest ih =>
    obtain ⟨i1, i2, i3⟩ := ih (fun g hg => h g (List.mem_cons_of_mem _ hg))
    set T := (raccOf q [1] rest).headD [1]
    obtain ⟨m1, m2, _, _⟩ := monic_toPoly f (h f List.mem_cons_self)
    obtain ⟨t1, t2, _, _⟩ := monic_toPoly T i1
    have e : (raccOf q [1] (f :: rest)).headD [1] = polyMod (mul T f) q := rfl
    rw [e]
    obtain ⟨r1, c1, g1⟩ := polyMod_reduced (mul T f) q (by omega)
    rw [toPoly_mul] at g1
    have hM : (toPoly T * toPoly f).Monic := t1.mul m1
    have hD : (toPoly T * toPoly f).natDegree = degSum (f :: rest) := by
      rw [t1.natDegree_mul m1, t2, m2, i2]
      simp only [degSum, List.map_cons, List.sum_cons]; omega
    obtain ⟨k1, k2⟩ := monic_of_cong q hq _ r1 c1 _ (degSum (f :: rest)) g1
      (by intro j hj; rw [coeff_eq_zero_of_natDegree_lt (by rw [hD]; exact hj)]; exact dvd_zero q)
      (by rw [← hD]; rw [hM.coeff_natDegree]; simp)
    refine ⟨k2, k1, PCong.trans g1 ?_⟩
    simp only [List.map_cons, List.prod_cons]
    rw [mul_comm]
    exact PCong.mul (PCong.refl _ _) i3

/-- relation between a lifted factor g and the factor f it lifts: monic, canonical, coefficients in
[0, m), same degree, g ≡ f (mod q) -/
def LiftRel (q m : Int) (g f : List Int) : Prop :=
  lc g = 1 ∧ Canon g ∧ Reduced m g ∧ g.length = f.length ∧ PCong q (toPoly g) (toPoly f)

/-- the main loop of `hensel_lift_multiple`, on the reversed factor list `f :: rest` -/
theorem liftLoop_spec (p : Nat) (hp : p.Prime) (q : Int) (hq : 1 < q) (hpq : (p : Int) ∣ q)
    (hgcd : ((Int.gcd (p : Int) q : Nat) : Int) = p) :
    ∀ (rest : List Poly) (f product : Poly) (res : List Poly),
      (∀ g ∈ f :: rest, lc g = 1) →
      ((f :: rest).map (red p)).Pairwise IsCoprime →
      lc product = 1 → product.length = degSum (f :: rest) + 1 → Reduced (q * p) product →
      PCong q (toPoly product) ((f :: rest).map toPoly).prod →
      ∃ gs, liftLoop p q (raccOf q [1] rest) (f :: rest) product res = .ok (gs ++ res) ∧
        List.Forall₂ (LiftRel q (q * p)) gs (f :: rest).reverse ∧
        PCong (q * p) (toPoly product) (gs.map toPoly).prod := by
  have hp1 : (1 : Int) < p := by exact_mod_cast hp.one_lt
  intro rest
  induction rest with
  | nil =>
    intro f product res hmon _ hpm hplen hpred hpc
    obtain ⟨_, _, hfne, _⟩ := monic_toPoly f (hmon f List.mem_cons_self)
    have hfpos := List.length_pos_of_ne_nil hfne
    refine ⟨[product], ?_, ?_, ?_⟩
    · simp [raccOf, liftLoop, pure, Except.pure]
    · simp only [List.reverse_cons, List.reverse_nil, List.nil_append]
      refine List.Forall₂.cons ⟨hpm, (monic_toPoly product hpm).2.2.2, hpred, ?_, ?_⟩ List.Forall₂.nil
      · simp only [degSum, List.map_cons, List.map_nil, List.sum_cons, List.sum_nil] at hplen; omega
      · simpa using hpc
    · simpa using PCong.refl _ _
  | cons f' rest' ih =>
    intro f product res hmon hcop hpm hplen hpred hpc
    have hmon' : ∀ g ∈ f' :: rest', lc g = 1 := fun g hg => hmon g (List.mem_cons_of_mem _ hg)
    obtain ⟨A1, A2, A3⟩ := top_spec q hq (f' :: rest') hmon'
    set A := (raccOf q [1] (f' :: rest')).headD [1] with hA
    have hAe : raccOf q [1] (f' :: rest') = A :: raccOf q [1] rest' := rfl
    have hfm := hmon f List.mem_cons_self
    obtain ⟨_, _, hfne, _⟩ := monic_toPoly f hfm
    have hfpos := List.length_pos_of_ne_nil hfne
    rw [List.map_cons, List.pairwise_cons] at hcop
    -- coprimality of the accumulated product and the factor
    have hcoA : IsCoprime (red p A) (red p f) := by
      have e : red p A = ((f' :: rest').map (red p)).prod := by
        have := (pcong_iff_map p _ _).mp (PCong.of_dvd hpq A3)
        rw [red, this, Polynomial.map_list_prod, List.map_map]; rfl
      rw [e]
      exact isCoprime_list_prod_left _ _ (fun y hy => (hcop.1 y hy).symm)
    obtain ⟨u, v, hw, hbez, _⟩ := polyCoprimeWitness_spec p hp A f (lcOK_of_monic p hp1 A A1)
      (lcOK_of_monic p hp1 f hfm) hcoA
    have hc : PCong q (toPoly product) (toPoly A * toPoly f) := by
      refine PCong.trans hpc ?_
      rw [List.map_cons, List.prod_cons, mul_comm (toPoly A)]
      exact PCong.mul (PCong.refl _ _) A3.symm
    have huv : PCong (Int.gcd (p : Int) q : Int) (toPoly A * toPoly u + toPoly f * toPoly v) 1 := by
      rw [hgcd]; exact hbez
    obtain ⟨_, t2, t3, t4⟩ := henselLift_spec p q product A f u v hc huv
    obtain ⟨s1, s2, s3, s4, s5⟩ := henselLift_shape p q hq product A f u v A1
    obtain ⟨b1m, b1l⟩ := henselLift_shape_b p q hq product A f u v A1 hpm
      (by rw [hplen, A2]; simp only [degSum, List.map_cons, List.sum_cons]; omega) hc huv
    rw [hgcd] at t2 s3 s4
    obtain ⟨gs', hok, hfa, hprod⟩ := ih f' _ ((henselLift p q product A f u v).2.1 :: res) hmon'
      (by rw [List.map_cons]; exact hcop.2) s1 (by rw [s2, A2]) s3 (PCong.trans t3 A3)
    refine ⟨gs' ++ [(henselLift p q product A f u v).2.1], ?_, ?_, ?_⟩
    · rw [hAe, liftLoop, hw]
      simp only [bind, Except.bind]
      rw [hok, List.append_assoc]
      rfl
    · have e : (f :: f' :: rest').reverse = (f' :: rest').reverse ++ [f] := by simp
      rw [e]
      exact List.rel_append hfa (List.Forall₂.cons ⟨b1m, s5, s4, b1l, t4⟩ List.Forall₂.nil)
    · refine PCong.trans t2 ?_
      simp only [List.map_append, List.prod_append, List.map_cons, List.map_nil, List.prod_cons, List.prod_nil,
        mul_one]
      exact PCong.mul hprod (PCong.refl _ _)

/-- C11: `hensel_lift_multiple(p, q, c, factors)` for q > 1 a multiple of the prime p with gcd(p, q) = p,
monic factors pairwise coprime over F_p, and c monic, reduced modulo q·p, c ≡ ∏ factors (mod q) -/
theorem henselLiftMultiple_spec (p : Nat) (hp : p.Prime) (q : Int) (hq : 1 < q) (hpq : (p : Int) ∣ q)
    (hgcd : ((Int.gcd (p : Int) q : Nat) : Int) = p) (c : Poly) (factors : List Poly) (hne : factors ≠ [])
    (hmon : ∀ g ∈ factors, lc g = 1) (hcop : (factors.map (red p)).Pairwise IsCoprime)
    (hcm : lc c = 1) (hclen : c.length = degSum factors + 1) (hcred : Reduced (q * p) c)
    (hc : PCong q (toPoly c) (factors.map toPoly).prod) :
    ∃ gs, henselLiftMultiple p q c factors = .ok (gs, q * p) ∧
      List.Forall₂ (LiftRel q (q * p)) gs factors ∧
      PCong (q * p) (toPoly c) (gs.map toPoly).prod := by
  have hre : factors.reverse ≠ [] := by simpa using hne
  obtain ⟨f, rest, hfr⟩ := List.exists_cons_of_ne_nil hre
  have hmon' : ∀ g ∈ f :: rest, lc g = 1 := by
    intro g hg; rw [← hfr] at hg; exact hmon g (List.mem_reverse.mp hg)
  have hcop' : ((f :: rest).map (red p)).Pairwise IsCoprime := by
    rw [← hfr, List.map_reverse, List.pairwise_reverse]
    exact hcop.imp (fun h => h.symm)
  have hds : degSum (f :: rest) = degSum factors := by
    rw [← hfr]; simp only [degSum, List.map_reverse, List.sum_reverse]
  have hpr : ((f :: rest).map toPoly).prod = (factors.map toPoly).prod := by
    rw [← hfr, List.map_reverse, List.prod_reverse]
  obtain ⟨gs, hok, hfa, hprod⟩ := liftLoop_spec p hp q hq hpq hgcd rest f c [] hmon' hcop' hcm
    (by rw [hds]; exact hclen) hcred (by rw [hpr]; exact hc)
  refine ⟨gs, ?_, ?_, hprod⟩
  · unfold henselLiftMultiple
    simp only [List.isEmpty_eq_false_iff.mpr hne, Bool.false_eq_true, ↓reduceIte, hgcd]
    rw [accumulate_reverse, hfr]
    have e : (raccOf q [1] (f :: rest)).tail = raccOf q [1] rest := rfl
    rw [e, hok]
    simp [bind, Except.bind, pure, Except.pure]
  · rw [← hfr, List.reverse_reverse] at hfa
    exact hfa

theorem forall₂_mem_left {α β : Type} {R : α → β → Prop} :
    ∀ {l1 : List α} {l2 : List β}, List.Forall₂ R l1 l2 → ∀ a ∈ l1, ∃ b ∈ l2, R a b := by
  intro l1 l2 h
  induction h with
  | nil => intro a ha; simp at ha
  | cons hab _ ih =>
    intro a ha
    rcases List.mem_cons.mp ha with rfl | ha
    · exact ⟨_, List.mem_cons_self, hab⟩
    · obtain ⟨b, hb, hr⟩ := ih a ha
      exact ⟨b, List.mem_cons_of_mem _ hb, hr⟩

/-- deg c = Σ deg fᵢ when c ≡ lc(c)·∏ fᵢ (mod p), p ∤ lc(c), fᵢ monic -/
theorem length_of_prod_cong (p : Int) (c : Poly) (hlc : ¬ p ∣ lc c) (factors : List Poly)
    (hmon : ∀ g ∈ factors, lc g = 1)
    (h : PCong p (toPoly c) (C (lc c) * (factors.map toPoly).prod)) : c.length = degSum factors + 1 := by
  have hlc0 : lc c ≠ 0 := fun e => hlc (by rw [e]; exact dvd_zero p)
  have hne := ne_nil_of_lc_ne_zero c hlc0
  have hpos := List.length_pos_of_ne_nil hne
  obtain ⟨m1, m2⟩ := prod_monic factors hmon
  have key : ∀ j, p ∣ c.getD j 0 - lc c * ((factors.map toPoly).prod).coeff j := by
    intro j
    have := (pcong_iff p _ _).mp h j
    rwa [coeff_sub, coeff_toPoly, coeff_C_mul] at this
  rcases lt_trichotomy (c.length - 1) (degSum factors) with hlt | he | hgt
  · exfalso
    have := key (degSum factors)
    rw [getD_of_length_le c _ (by omega), ← m2, m1.coeff_natDegree, mul_one, zero_sub] at this
    exact hlc ((Int.dvd_neg).mp this)
  · omega
  · exfalso
    have := key (c.length - 1)
    rw [coeff_eq_zero_of_natDegree_lt (by rw [m2]; exact hgt), mul_zero, sub_zero, lc_eq_getD c hne] at this
    exact hlc this

/-- invariant of the outer loop of `lift_factorization` at modulus m = p^j -/
def StageInv (p : Nat) (c : Poly) (factors : List Poly) (m : Int) (res : List Poly) : Prop :=
  List.Forall₂ (LiftRel p m) res factors ∧ PCong m (C (lc c) * (res.map toPoly).prod) (toPoly c)

/-- one round of the outer loop of `lift_factorization`: from modulus q = p^j to q·p -/
theorem liftSteps_step (p : Nat) (hp : p.Prime) (c : Poly) (hlc : ¬ (p : Int) ∣ lc c) (factors : List Poly)
    (hne : factors ≠ []) (hcop : (factors.map (red p)).Pairwise IsCoprime)
    (hclen : c.length = degSum factors + 1) (j : Nat) (hj : 1 ≤ j) (res : List Poly)
    (hinv : StageInv p c factors ((p : Int) ^ j) res) :
    ∃ gs, henselLiftMultiple p ((p : Int) ^ j) (polyMod (polyMul c (Int.fmod (egcdX (lc c) ((p : Int) ^ j * p))
        ((p : Int) ^ j * p))) ((p : Int) ^ j * p)) res = .ok (gs, (p : Int) ^ j * p) ∧
      StageInv p c factors ((p : Int) ^ j * p) gs := by
  obtain ⟨hfa, hprod⟩ := hinv
  have hp1 : (1 : Int) < p := by exact_mod_cast hp.one_lt
  have hcne := ne_nil_of_lc_ne_zero c (fun e => hlc (by rw [e]; exact dvd_zero _))
  have hq : 1 < (p : Int) ^ j := one_lt_pow₀ hp1 (by omega)
  have hpq : (p : Int) ∣ (p : Int) ^ j := dvd_pow_self _ (by omega)
  have hqp1 : 1 < (p : Int) ^ j * p := by rw [← pow_succ]; exact one_lt_pow₀ hp1 (by omega)
  -- the inverse of the leading coefficient and the monic `divided`
  have hco : Int.gcd (lc c) ((p : Int) ^ j * p) = 1 := by
    rw [← pow_succ, ← Int.isCoprime_iff_gcd_eq_one]
    exact (((Prime.coprime_iff_not_dvd (Nat.prime_iff_prime_int.mp hp)).mpr hlc).symm).pow_right
  have hinv := egcdX_inv (lc c) _ hco
  obtain ⟨d1, d2, d3⟩ := polyMod_reduced (polyMul c (Int.fmod (egcdX (lc c) ((p : Int) ^ j * p))
    ((p : Int) ^ j * p))) ((p : Int) ^ j * p) (by omega)
  rw [toPoly_polyMul] at d3
  obtain ⟨dl, dm⟩ := monic_of_cong _ hqp1 _ d1 d2 _ (c.length - 1) d3
    (by intro i hi; rw [coeff_C_mul, coeff_toPoly, getD_of_length_le c i (by omega), mul_zero]; exact dvd_zero _)
    (by rw [coeff_C_mul, coeff_toPoly, lc_eq_getD c hcne, mul_comm (Int.fmod _ _) (lc c)]; exact Int.modEq_iff_dvd.mp hinv.symm)
  have hpos := List.length_pos_of_ne_nil hcne
  -- the current factors are monic lifts of the given ones
  have hmon : ∀ g ∈ res, lc g = 1 := fun g hg => (forall₂_mem_left hfa g hg).choose_spec.2.1
  have hresne : res ≠ [] := by
    intro e; rw [e] at hfa; cases hfa; exact hne rfl
  have hmapeq : res.map (red p) = factors.map (red p) :=
    map_eq_of_forall₂ _ _ (hfa.imp (fun _ _ h => (pcong_iff_map p _ _).mp h.2.2.2.2))
  have hdseq : degSum res = degSum factors :=
    congrArg List.sum (map_eq_of_forall₂ (fun g : Poly => g.length - 1) (fun g : Poly => g.length - 1)
      (hfa.imp (fun _ _ h => by rw [h.2.2.2.1])))
  have hdc : PCong ((p : Int) ^ j) (toPoly (polyMod (polyMul c (Int.fmod (egcdX (lc c) ((p : Int) ^ j * p))
      ((p : Int) ^ j * p))) ((p : Int) ^ j * p))) (res.map toPoly).prod :=
    ((PCong.of_dvd (Dvd.intro _ rfl) d3).trans (PCong.mul (PCong.refl _ _) hprod.symm)).trans
      (pcong_C_mul_cancel (Int.ModEq.of_mul_right (p : Int) hinv) _)
  obtain ⟨gs, hok, hfa2, hprod2⟩ := henselLiftMultiple_spec p hp _ hq hpq (Int.gcd_eq_left (by omega) hpq) _ res
    hresne hmon (by rw [hmapeq]; exact hcop) dm (by rw [dl, hdseq, hclen]; omega) d1 hdc
  refine ⟨gs, hok, forall₂_comp (fun g r f h1 h2 => ?_) hfa2 hfa, ?_⟩
  · exact ⟨h1.1, h1.2.1, h1.2.2.1, h1.2.2.2.1.trans h2.2.2.2.1,
      (PCong.of_dvd hpq h1.2.2.2.2).trans h2.2.2.2.2⟩
  · exact ((PCong.mul (PCong.refl _ _) hprod2.symm).trans (PCong.mul (PCong.refl _ _) d3)).trans
      (pcong_C_mul_cancel (mul_comm (lc c) _ ▸ hinv) _)

theorem liftSteps_spec (p : Nat) (hp : p.Prime) (c : Poly) (hlc : ¬ (p : Int) ∣ lc c) (factors : List Poly)
    (hne : factors ≠ []) (hcop : (factors.map (red p)).Pairwise IsCoprime)
    (hclen : c.length = degSum factors + 1) :
    ∀ (k j : Nat) (res : List Poly), 1 ≤ j → StageInv p c factors ((p : Int) ^ j) res →
      ∃ gs, liftSteps p c (lc c) k ((p : Int) ^ j) res = .ok gs ∧ StageInv p c factors ((p : Int) ^ (j + k)) gs := by
  intro k
  induction k with
  | zero => intro j res _ h; exact ⟨res, rfl, h⟩
  | succ k ih =>
    intro j res hj hinv
    obtain ⟨gs, hok, hstep⟩ := liftSteps_step p hp c hlc factors hne hcop hclen j hj res hinv
    rw [← pow_succ] at hstep
    obtain ⟨gs2, h1, h2⟩ := ih (j + 1) gs (by omega) hstep
    rw [pow_succ] at h1
    refine ⟨gs2, ?_, by rwa [Nat.add_right_comm] at h2⟩
    rw [liftSteps, hok]
    exact h1

end NTV.PolyMod
