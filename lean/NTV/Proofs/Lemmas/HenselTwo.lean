import NTV.Proofs.Lemmas.HenselBridge
/-! C11, part 2: shape of the two polynomials returned by one `hensel_lift` call (monic, degree, range). -/
open Polynomial
namespace NTV.PolyMod
open NTV.PolyG NTV.Hensel

theorem modinv_one (r : Int) : (1 : Int) * modinv 1 r ≡ 1 [ZMOD r] := by
  have := modpow_modEq 1 (r - 2) r
  simpa [modinv] using this

theorem one_lt_mul_gcd (p q : Int) (hq : 1 < q) :
    0 < (Int.gcd p q : Int) ∧ 1 < q * (Int.gcd p q : Int) := by
  have h : (1 : Int) ≤ Int.gcd p q := by exact_mod_cast Int.gcd_pos_of_ne_zero_right p (by omega : q ≠ 0)
  exact ⟨by omega, lt_of_lt_of_le hq (le_mul_of_one_le_right (by omega) h)⟩

/-- the correction `v·f − a·t` of `hensel_lift` has degree < deg a modulo r, for monic a -/
theorem henselLift_corr (r : Int) (hr : 0 < r) (a W : List Int) (ha : lc a = 1) :
    ∀ j, a.length - 1 ≤ j → r ∣ (toPoly (sub W (mul a (polyDivrem W a r).1))).coeff j := by
  obtain ⟨_, _, hane, _⟩ := monic_toPoly a ha
  obtain ⟨⟨w, hw⟩, hlen, -⟩ := polyDivrem_total W a r hr (fun _ => by rw [ha]; exact modinv_one r)
  have hcong : PCong r (toPoly (sub W (mul a (polyDivrem W a r).1))) (toPoly (polyDivrem W a r).2) := by
    rw [toPoly_sub, toPoly_mul]
    exact ⟨w, by linear_combination hw⟩
  intro j hj
  have := (pcong_iff r _ _).mp hcong j
  rw [coeff_sub, coeff_toPoly (polyDivrem W a r).2, getD_of_length_le _ j (by have := hlen hane; omega), sub_zero] at this
  exact this

theorem henselLift_fst_monic (q r : Int) (hr : 0 < r) (hqr : 1 < q * r) (a W : List Int) (ha : lc a = 1) :
    lc (polyMod (add a (polyMul (sub W (mul a (polyDivrem W a r).1)) q)) (q * r)) = 1 ∧
    (polyMod (add a (polyMul (sub W (mul a (polyDivrem W a r).1)) q)) (q * r)).length = a.length ∧
    Reduced (q * r) (polyMod (add a (polyMul (sub W (mul a (polyDivrem W a r).1)) q)) (q * r)) := by
  obtain ⟨r1, c1, g1⟩ := polyMod_reduced (add a (polyMul (sub W (mul a (polyDivrem W a r).1)) q)) (q * r) (by omega)
  obtain ⟨_, _, hane, _⟩ := monic_toPoly a ha
  have hapos := List.length_pos_of_ne_nil hane
  have hcorr := henselLift_corr r hr a W ha
  rw [toPoly_add, toPoly_polyMul] at g1
  have hm := monic_of_cong (q * r) hqr _ r1 c1 _ (a.length - 1) g1
    (by
      intro j hj
      rw [coeff_add, coeff_C_mul, coeff_toPoly, getD_of_length_le a j (by omega), zero_add]
      exact mul_dvd_mul_left q (hcorr j (by omega)))
    (by
      rw [coeff_add, coeff_C_mul, coeff_toPoly, lc_eq_getD a hane, ha, add_sub_cancel_left]
      exact mul_dvd_mul_left q (hcorr _ (le_refl _)))
  exact ⟨hm.2, by omega, r1⟩

/-- C11: shape of the result of one `hensel_lift(p, q, c, a, b, u, v)` call with q > 1 and a monic:
a₁ is monic of the degree of a, and a₁, b₁ are canonical with coefficients in [0, q·gcd(p, q)) -/
theorem henselLift_shape (p q : Int) (hq : 1 < q) (c a b u v : List Int) (ha : lc a = 1) :
    lc (henselLift p q c a b u v).1 = 1 ∧ (henselLift p q c a b u v).1.length = a.length ∧
    Reduced (q * (Int.gcd p q : Int)) (henselLift p q c a b u v).1 ∧
    Reduced (q * (Int.gcd p q : Int)) (henselLift p q c a b u v).2.1 ∧
    Canon (henselLift p q c a b u v).2.1 := by
  obtain ⟨hrpos, hqr⟩ := one_lt_mul_gcd p q hq
  obtain ⟨h1, h2, h3⟩ := henselLift_fst_monic q _ hrpos hqr a
    (mul v (polyMod (polyDiv (sub c (mul a b)) q) (Int.gcd p q))) ha
  -- b₁ is a value of `poly_mod`
  have hpos : 0 < q * (Int.gcd p q : Int) := by omega
  exact ⟨h1, h2, h3, (polyMod_reduced _ _ hpos).1, (polyMod_reduced _ _ hpos).2.1⟩

/-- C11: if moreover c is monic with deg c = deg a + deg b and the hypotheses of the lifting step hold
(c ≡ a·b mod q, a·u + b·v ≡ 1 mod gcd(p, q)), then b₁ is monic of the degree of b -/
theorem henselLift_shape_b (p q : Int) (hq : 1 < q) (c a b u v : List Int) (ha : lc a = 1) (hcm : lc c = 1)
    (hlen : c.length + 1 = a.length + b.length)
    (hc : PCong q (toPoly c) (toPoly a * toPoly b))
    (huv : PCong (Int.gcd p q : Int) (toPoly a * toPoly u + toPoly b * toPoly v) 1) :
    lc (henselLift p q c a b u v).2.1 = 1 ∧ (henselLift p q c a b u v).2.1.length = b.length := by
  obtain ⟨s1, s2, s3, s4, s5⟩ := henselLift_shape p q hq c a b u v ha
  obtain ⟨_, t2, _, _⟩ := henselLift_spec p q c a b u v hc huv
  have hqr := (one_lt_mul_gcd p q hq).2
  obtain ⟨m1, m2, m3, _⟩ := monic_toPoly _ s1
  obtain ⟨n1, n2, n3, _⟩ := monic_toPoly c hcm
  obtain ⟨k1, k2, k3⟩ := monic_cofactor _ hqr _ _ m1 n1 _ s4 s5 t2
  refine ⟨k1, ?_⟩
  rw [m2, n2, s2] at k2
  have := List.length_pos_of_ne_nil k3
  have := List.length_pos_of_ne_nil m3
  have := List.length_pos_of_ne_nil n3
  omega

end NTV.PolyMod
