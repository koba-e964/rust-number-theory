import NTV.Proofs.Lemmas.PolyModZMod
import Mathlib.RingTheory.PrincipalIdealDomain
import Mathlib.Algebra.Polynomial.Degree.Units
/-! C11, part 1: `poly_ext_gcd` / `poly_coprime_witness` on inputs whose leading coefficient is a unit
modulo the prime p: no error, Bezout identity modulo p. -/
open Polynomial
namespace NTV.PolyMod
open NTV.PolyG NTV.Hensel

/-- leading coefficient not divisible by p (for a non-empty list); implies canonical -/
def LcOK (p : ℤ) (l : List Int) : Prop := l ≠ [] → ¬ p ∣ lc l

theorem LcOK.canon {p : ℤ} {l : List Int} (h : LcOK p l) : Canon l := by
  intro hne
  rw [← lc_of_ne_nil l hne]
  intro h0
  exact h hne (by rw [h0]; exact dvd_zero p)

theorem lcOK_nil (p : ℤ) : LcOK p [] := fun h => absurd rfl h

theorem lcOK_of_reduced (p : ℤ) (l : List Int) (hc : Canon l) (hr : Reduced p l) : LcOK p l := by
  intro hne hd
  have h0 := lc_ne_zero l hne hc
  have := hr (l.length - 1)
  rw [lc_eq_getD l hne] at this
  exact h0 (Int.eq_zero_of_dvd_of_nonneg_of_lt this.1 this.2 hd)

theorem lcOK_of_monic (p : ℤ) (hp : 1 < p) (l : List Int) (h : lc l = 1) : LcOK p l := by
  intro _ hd
  rw [h] at hd
  have := Int.eq_one_of_dvd_one (by omega) hd
  omega

theorem LcOK.coprime {p : ℕ} (hp : p.Prime) {l : List Int} (h : LcOK p l) (hne : l ≠ []) :
    IsCoprime (lc l) (p : ℤ) := by
  have hpi : Prime (p : ℤ) := Nat.prime_iff_prime_int.mp hp
  exact (IsCoprime.symm ((Prime.coprime_iff_not_dvd hpi).mpr (h hne)))

theorem polyDivrem_rel_lc (a b : List Int) (p : Nat) (hp : p.Prime) (ha : LcOK p a) (hb : LcOK p b) :
    PCong p (toPoly a) (toPoly (polyDivrem a b p).1 * toPoly b + toPoly (polyDivrem a b p).2) ∧
    LcOK p (polyDivrem a b p).2 ∧ (b ≠ [] → (polyDivrem a b p).2.length < b.length) := by
  obtain ⟨c1, c2, -, -, -, c6⟩ := polyDivrem_total a b p (by exact_mod_cast hp.pos)
    (fun hbne => modinv_spec p hp (lc b) (hb.coprime hp hbne))
  exact ⟨c1, c6.elim (fun e => e.symm ▸ ha) (fun h => lcOK_of_reduced _ _ h.1 h.2), c2⟩

theorem red_rel {p : ℕ} {a q b r : List Int}
    (h : PCong p (toPoly a) (toPoly q * toPoly b + toPoly r)) : red p a = red p q * red p b + red p r := by
  have := (pcong_iff_map p _ _).mp h
  simpa only [red, Polynomial.map_add, Polynomial.map_mul] using this

/-- `poly_ext_gcd`: enough fuel, Bezout identity, the result divides both arguments over F_p -/
theorem polyExtGcdAux_spec (p : Nat) (hp : p.Prime) : ∀ (fuel : Nat) (a b : List Int),
    LcOK p a → LcOK p b → (b.length + 1 < fuel ∨ (a = [] ∧ 1 ≤ fuel)) →
    ∃ g u v, polyExtGcdAux p fuel a b = .ok (g, u, v) ∧ LcOK p g ∧
      PCong p (toPoly g) (toPoly a * toPoly u + toPoly b * toPoly v) ∧
      red p g ∣ red p a ∧ red p g ∣ red p b := by
  intro fuel
  induction fuel with
  | zero => intro a b _ _ h; omega
  | succ f ih =>
    intro a b ha hb hfuel
    obtain ⟨hrel, hrlc, hrlen⟩ := polyDivrem_rel_lc a b p hp ha hb
    rcases hq : polyDivrem a b (p : Int) with ⟨quo, rem⟩
    rw [hq] at hrel hrlc hrlen
    simp only at hrel hrlc hrlen
    simp only [polyExtGcdAux, hq]
    by_cases hre : rem.isEmpty
    · have hr0 : rem = [] := List.isEmpty_iff.mp hre
      subst hr0
      simp only [List.isEmpty_nil, ↓reduceIte]
      refine ⟨b, [], [1], rfl, hb, ?_, ?_, dvd_refl _⟩
      · simp only [toPoly, mul_zero, zero_add, mul_zero, add_zero, map_one, mul_one]; exact PCong.refl _ _
      · have := red_rel hrel
        rw [this]
        simp only [red, toPoly, Polynomial.map_zero, add_zero]
        exact dvd_mul_left _ _
    · simp only [hre, Bool.false_eq_true, ↓reduceIte]
      have hfuel' : rem.length + 1 < f ∨ (b = [] ∧ 1 ≤ f) := by
        -- a ≠ 0, since the remainder of 0 is 0
        have ha : a ≠ [] := by
          rintro rfl
          rw [polyDivrem_short [] b p (.inl rfl)] at hq
          exact hre (by rw [← (Prod.mk.inj hq).2]; rfl)
        have hf : b.length + 1 < f + 1 := hfuel.resolve_right (fun h => ha h.1)
        by_cases hbne : b = []
        · exact .inr ⟨hbne, by rw [hbne, List.length_nil] at hf; omega⟩
        · exact .inl (by have := hrlen hbne; omega)
      obtain ⟨g, u0, v0, hok, hg, hbez, hd1, hd2⟩ := ih b rem hb hrlc hfuel'
      rw [hok]
      refine ⟨g, v0, polyModSub u0 (polyMod (mul quo v0) p) p, rfl, hg, ?_, ?_, hd1⟩
      · -- g ≡ b·u0 + rem·v0, a ≡ quo·b + rem, and the new v is u0 − quo·v0 reduced twice
        have hv : PCong p (toPoly (polyModSub u0 (polyMod (mul quo v0) p) p))
            (toPoly u0 - toPoly quo * toPoly v0) := by
          refine PCong.trans (polyMod_cong _ _) ?_
          rw [toPoly_sub, ← toPoly_mul]
          exact PCong.sub (PCong.refl _ _) (polyMod_cong _ _)
        obtain ⟨wv, hv⟩ := hv
        obtain ⟨wb, hb⟩ := hbez
        obtain ⟨wr, hr⟩ := hrel
        exact ⟨wb - wr * toPoly v0 - toPoly b * wv, by linear_combination hb - toPoly v0 * hr - toPoly b * hv⟩
      · rw [red_rel hrel]
        exact dvd_add (dvd_mul_of_dvd_right hd1 _) hd2

theorem pcong_C_mul_cancel {m x y : ℤ} (h : x * y ≡ 1 [ZMOD m]) (P : ℤ[X]) : PCong m (C y * (C x * P)) P := by
  obtain ⟨k, hk⟩ := Int.modEq_iff_dvd.mp h.symm
  have e : C x * C y - 1 = C m * C k := by rw [← C_mul, ← C_mul, ← hk, C_sub, C_1]
  exact ⟨C k * P, by linear_combination P * e⟩

/-- C11: `poly_coprime_witness(a, b, p)` for a prime p and a, b with leading coefficients prime to p,
coprime over F_p: no error, and a·u + b·v ≡ 1 (mod p), with u, v reduced and canonical -/
theorem polyCoprimeWitness_spec (p : Nat) (hp : p.Prime) (a b : List Int) (ha : LcOK p a) (hb : LcOK p b)
    (hco : IsCoprime (red p a) (red p b)) :
    ∃ u v, polyCoprimeWitness a b p = .ok (u, v) ∧
      PCong p (toPoly a * toPoly u + toPoly b * toPoly v) 1 ∧
      Reduced p u ∧ Reduced p v ∧ Canon u ∧ Canon v := by
  have := Fact.mk hp
  have hp0 : (0 : Int) < p := by exact_mod_cast hp.pos
  obtain ⟨g, u, v, hok, hg, hbez, hd1, hd2⟩ :=
    polyExtGcdAux_spec p hp (a.length + b.length + 3) a b ha hb (Or.inl (by omega))
  have hunit : IsUnit (red p g) := hco.isUnit_of_dvd' hd1 hd2
  have hgne : g ≠ [] := by
    rintro rfl
    simp only [red, toPoly, Polynomial.map_zero] at hunit
    exact not_isUnit_zero hunit
  have hdeg0 := natDegree_eq_zero_of_isUnit hunit
  obtain ⟨d1, d2, _⟩ := natDegree_toPoly g hgne hg.canon
  have hlcz : (Int.castRingHom (ZMod p)) (toPoly g).leadingCoeff ≠ 0 := by
    rw [d2, eq_intCast, Ne, ZMod.intCast_zmod_eq_zero_iff_dvd]
    exact hg hgne
  have hlen : g.length = 1 := by
    have := natDegree_map_of_leadingCoeff_ne_zero _ hlcz
    rw [red] at hdeg0
    rw [hdeg0, d1] at this
    have := List.length_pos_of_ne_nil hgne
    omega
  obtain ⟨g0, rfl⟩ := List.length_eq_one_iff.mp hlen
  have hgcd : Int.gcd g0 p = 1 := Int.isCoprime_iff_gcd_eq_one.mp (hg.coprime hp hgne)
  have hinv := egcdX_inv g0 p hgcd
  refine ⟨polyMod (polyMul u (Int.fmod (egcdX g0 p) p)) p, polyMod (polyMul v (Int.fmod (egcdX g0 p) p)) p, ?_, ?_,
    (polyMod_reduced _ _ hp0).1, (polyMod_reduced _ _ hp0).1, (polyMod_reduced _ _ hp0).2.1,
    (polyMod_reduced _ _ hp0).2.1⟩
  · unfold polyCoprimeWitness polyExtGcd
    rw [hok]
    simp [bind, Except.bind, degU, coefAt, pure, Except.pure]
  · -- substitute u' ≡ inv·u, v' ≡ inv·v, g0 ≡ a·u + b·v and g0·inv ≡ 1 (mod p)
    obtain ⟨wu, hu⟩ := polyMod_cong (polyMul u (Int.fmod (egcdX g0 p) p)) p
    obtain ⟨wv, hv⟩ := polyMod_cong (polyMul v (Int.fmod (egcdX g0 p) p)) p
    obtain ⟨wb, hb⟩ := hbez
    obtain ⟨k, hk⟩ := Int.modEq_iff_dvd.mp hinv.symm
    rw [toPoly_polyMul] at hu hv
    rw [toPoly, toPoly, mul_zero, add_zero] at hb
    refine ⟨toPoly a * wu + toPoly b * wv - C (Int.fmod (egcdX g0 p) p) * wb + C k, ?_⟩
    have hk' : C g0 * C (Int.fmod (egcdX g0 p) p) - 1 = C (p : ℤ) * C k := by
      rw [← C_mul, ← C_mul, ← hk, C_sub, C_1]
    linear_combination toPoly a * hu + toPoly b * hv - C (Int.fmod (egcdX g0 p) p) * hb + hk'

end NTV.PolyMod
