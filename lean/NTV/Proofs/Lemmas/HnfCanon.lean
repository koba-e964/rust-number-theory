import NTV.Proofs.Lemmas.HnfGlue
import NTV.Proofs.Lemmas.HnfUnique
namespace NTV.Hnf
open Matrix Finset

/-- row lattice of a list matrix, as a predicate on vectors -/
def InLattice (n m : Nat) (A : Mat) (v : Fin m → ℤ) : Prop := ∃ c : Fin n → ℤ, c ᵥ* toM n m A = v

theorem IsHNF.toF {H : Mat} {m : Nat} {pv : List Nat} (h : IsHNF H m pv) : NTV.HnfU.HnfF (ent H) m pv where
  incr := h.incr
  lt := h.lt
  pos := h.pos
  last := h.last
  below := by
    intro s hs s' hss' hs'
    exact h.below s hs s' hss' (by rw [← h.len]; exact hs')

theorem mat_ext {r m : Nat} (H1 H2 : Mat) (h1 : Rect r m H1) (h2 : Rect r m H2)
    (he : ∀ i < r, ∀ j < m, ent H1 i j = ent H2 i j) : H1 = H2 := by
  apply List.ext_getElem (h1.1.trans h2.1.symm)
  intro i hi1 hi2
  have hl1 : (H1[i]).length = m := h1.2 _ (List.getElem_mem hi1)
  have hl2 : (H2[i]).length = m := h2.2 _ (List.getElem_mem hi2)
  apply List.ext_getElem (hl1.trans hl2.symm)
  intro j hj1 hj2
  rw [← RowOps.ent_getElem H1 i j hi1 hj1, ← RowOps.ent_getElem H2 i j hi2 hj2]
  exact he i (h1.1 ▸ hi1) j (hl1 ▸ hj1)

theorem sum_fin_tail (n k : ℕ) (hk : k ≤ n) (f : ℕ → ℤ) (h0 : ∀ i < k, f i = 0) :
    ∑ i : Fin n, f i.val = ∑ s ∈ range (n - k), f (k + s) := by
  rw [Fin.sum_univ_eq_sum_range f n]
  have hn : n = k + (n - k) := (Nat.add_sub_cancel' hk).symm
  conv_lhs => rw [hn]
  rw [Finset.sum_range_add]
  have : ∑ x ∈ range k, f x = 0 := Finset.sum_eq_zero (fun i hi => h0 i (Finset.mem_range.mp hi))
  rw [this, zero_add]

namespace Result
variable {A : Mat} {n m : Nat} {H U : Mat} {k : Nat} {W : Mat} {pv : List Nat}

theorem rectH (R : Result A n m H U k W pv) : Rect (n - k) m H := by
  refine ⟨R.lenH, ?_⟩
  intro r hr
  rw [R.hH] at hr
  exact R.rW.2 r (List.mem_of_mem_drop hr)

theorem lattice_as_sum (R : Result A n m H U k W pv) (v : Fin m → ℤ) (hv : InLattice n m A v) :
    ∃ c : ℕ → ℤ, ∀ col (hc : col < m), v ⟨col, hc⟩ = ∑ s ∈ range pv.length, c s * ent H s col := by
  obtain ⟨d, hd0, hd⟩ := (R.span_eq v).mp hv
  -- the coefficients on all of ℕ; those of the rows `< k` vanish, the others are re-indexed from `k`
  let d' : ℕ → ℤ := fun i => if h : i < n then d ⟨i, h⟩ else 0
  refine ⟨fun s => d' (k + s), fun col hc => ?_⟩
  have e1 : v ⟨col, hc⟩ = ∑ x : Fin n, d' x.val * ent W x.val col := by
    rw [← hd]
    show ∑ x : Fin n, d x * ent W x.val col = _
    exact Finset.sum_congr rfl fun x _ => by rw [show d' x.val = d x from dif_pos x.isLt]
  rw [e1, sum_fin_tail n k R.hk (fun i => d' i * ent W i col) (fun i hi => by
    simp only [d']
    split
    · rw [hd0 _ hi, Int.zero_mul]
    · exact Int.zero_mul _), R.lenPv, R.hH]
  simp only [ent_drop]

theorem row_in_lattice (R : Result A n m H U k W pv) (t : Nat) (ht : t < pv.length) :
    InLattice n m A (fun col => ent H t col.val) := by
  have htn : k + t < n := Nat.lt_sub_iff_add_lt'.mp (R.lenPv ▸ ht)
  apply (R.span_eq _).mpr
  refine ⟨Pi.single ⟨k + t, htn⟩ 1, ?_, ?_⟩
  · intro r hr
    refine Pi.single_eq_of_ne (fun e => ?_) 1
    rw [e] at hr
    exact absurd hr (Nat.not_lt.mpr (Nat.le_add_right k t))
  · rw [Matrix.single_one_vecMul]
    funext col
    rw [R.hH, ent_drop]
    rfl

end Result

/-- C02 canonicity: two rectangular matrices with the same row lattice have the same normal form -/
theorem hnf_canonical (A A' : Mat) (n n' m : Nat) (hr : Rect n m A) (hr' : Rect n' m A')
    (hn : 0 < n) (hn' : 0 < n') (hm : 0 < m)
    (hsame : ∀ v : Fin m → ℤ, InLattice n m A v ↔ InLattice n' m A' v) :
    hnfNew A = hnfNew A' := by
  obtain ⟨H, U, k, W, pv, _, hH, R⟩ := Result.exists A n m hr hn hm
  obtain ⟨H', U', k', W', pv', _, hH', R'⟩ := Result.exists A' n' m hr' hn' hm
  rw [hH, hH', Option.some.injEq]
  obtain ⟨hpv, hent⟩ := NTV.HnfU.hnf_unique_F R.shape.toF R'.shape.toF
    (fun r hrlt => R.lattice_as_sum _ ((hsame _).mpr (R'.row_in_lattice r hrlt)))
    (fun r hrlt => R'.lattice_as_sum _ ((hsame _).mp (R.row_in_lattice r hrlt)))
  have hlen : n - k = n' - k' := by rw [← R.lenPv, ← R'.lenPv, hpv]
  have rH := R.rectH
  have rH' := R'.rectH
  rw [← hlen] at rH'
  exact mat_ext H H' rH rH' (fun i hi j hj => hent i (by rw [R.lenPv]; exact hi) j hj)

end NTV.Hnf
