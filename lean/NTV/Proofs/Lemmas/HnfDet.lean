import NTV.Proofs.Lemmas.HnfCanon
import Mathlib.LinearAlgebra.Matrix.Block
/-! The square full-rank case: the normal form is lower triangular with the pivots on the diagonal, so the product the
model's `determinant` reports is `|det A|`. -/
namespace NTV.Hnf
open Matrix Finset

theorem pairwise_lt_eq_id (pv : List Nat) (n : Nat) (hlen : pv.length = n) (hinc : pv.Pairwise (· < ·))
    (hlt : ∀ p ∈ pv, p < n) : ∀ t (ht : t < pv.length), pv[t] = t := by
  -- `pv` has `n` distinct elements below `n`, so it is a permutation of `range n`, and both are sorted
  have hperm : pv.Perm (List.range n) :=
    (List.subperm_of_subset (hinc.imp ne_of_lt) fun p hp => List.mem_range.mpr (hlt p hp)).perm_of_length_le
      (by rw [List.length_range, hlen])
  obtain rfl : pv = List.range n :=
    List.Perm.eq_of_pairwise (fun a b _ _ h1 h2 => absurd h1 (lt_asymm h2)) hinc List.pairwise_lt_range hperm
  exact fun t ht => List.getElem_range ht

theorem foldl_mul_eq_prod (f : Nat → Int) (n : Nat) :
    (List.range n).foldl (fun p i => p * f i) 1 = ∏ i ∈ range n, f i := by
  induction n with
  | zero => simp
  | succ n ih => rw [List.range_succ, List.foldl_append, ih, Finset.prod_range_succ]; simp

/-- C02: for a square matrix of full rank the determinant reported for its normal form is the lattice
index |det A| -/
theorem determinant_eq_index (A : Mat) (n : Nat) (hr : Rect n n A) (hn : 0 < n)
    (H U : Mat) (hres : hnfWithU A = some (H, U, 0)) :
    determinant H = |(toM n n A).det| := by
  obtain ⟨W, pv, R⟩ := Result.of_spec A n n hr hn hn H U 0 hres
  obtain rfl : H = W := R.hH
  have hpvlen : pv.length = n := R.lenPv
  -- the pivot of row `t` is column `t`, so `H` is lower triangular with positive diagonal
  have hpiv : ∀ t < n, 0 < ent H t t ∧ ∀ col, t < col → col < n → ent H t col = 0 := fun t ht => by
    have ht' : t < pv.length := hpvlen ▸ ht
    have hp := R.shape.pos t ht'
    have hl := R.shape.last t ht'
    rw [pairwise_lt_eq_id pv n hpvlen R.shape.incr R.shape.lt t ht'] at hp hl
    exact ⟨hp, hl⟩
  have hdetH : (toM n n H).det = ∏ i : Fin n, ent H i i :=
    det_of_lowerTriangular _ fun i j hij => (hpiv i i.isLt).2 j hij j.isLt
  have hpos : 0 < (toM n n H).det := hdetH ▸ Finset.prod_pos fun i _ => (hpiv i i.isLt).1
  have hdim : dim H = deg H := by
    obtain ⟨r, rs, rfl⟩ := List.exists_cons_of_length_pos (R.rW.1 ▸ hn)
    exact R.rW.1.trans (R.rW.2 r List.mem_cons_self).symm
  -- `det U * det A = det H` with `det U = ±1`
  rw [determinant, if_neg (not_not.mpr hdim), foldl_mul_eq_prod (fun i => ent H i i), R.rW.1,
    ← Fin.prod_univ_eq_prod_range (fun i => ent H i i) n, ← hdetH, ← abs_of_pos hpos, ← R.ua, Matrix.det_mul,
    abs_mul, Int.isUnit_iff_abs_eq.mp R.det, one_mul]

end NTV.Hnf
