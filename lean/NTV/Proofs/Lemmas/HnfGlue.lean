import NTV.Proofs.Lemmas.HnfKernel
namespace NTV.Hnf
open Matrix

/-- everything the abstract kernel/independence lemmas need, extracted from `hnfWithU_spec` -/
structure Result (A : Mat) (n m : Nat) (H U : Mat) (k : Nat) (W : Mat) (pv : List Nat) : Prop where
  rW : Rect n m W
  rU : Rect n n U
  hH : H = W.drop k
  hk : k ≤ n
  ua : toM n n U * toM n m A = toM n m W
  det : IsUnit (toM n n U).det
  zero : ∀ r < k, ∀ c < m, ent W r c = 0
  shape : IsHNF H m pv

theorem Result.of_spec (A : Mat) (n m : Nat) (hr : Rect n m A) (hn : 0 < n) (hm : 0 < m)
    (H U : Mat) (k : Nat) (hres : hnfWithU A = some (H, U, k)) : ∃ W pv, Result A n m H U k W pv := by
  obtain ⟨W, pv, h1, h2, h3, h4, h5, h6, h7, h8⟩ := hnfWithU_spec A n m hr hn hm H U k hres
  exact ⟨W, pv, h1, h2, h3, h4, h5, h6, h7, h8⟩

theorem Result.exists (A : Mat) (n m : Nat) (hr : Rect n m A) (hn : 0 < n) (hm : 0 < m) :
    ∃ H U k W pv, hnfWithU A = some (H, U, k) ∧ hnfNew A = some H ∧ Result A n m H U k W pv := by
  obtain ⟨⟨H, U, k⟩, h1⟩ := Option.isSome_iff_exists.mp (hnfWithU_total A n m hr)
  obtain ⟨W, pv, R⟩ := Result.of_spec A n m hr hn hm H U k h1
  exact ⟨H, U, k, W, pv, h1, by rw [hnfNew, h1, Option.map_some], R⟩

namespace Result
variable {A : Mat} {n m : Nat} {H U : Mat} {k : Nat} {W : Mat} {pv : List Nat}

theorem lenH (R : Result A n m H U k W pv) : H.length = n - k := by
  rw [R.hH, List.length_drop, R.rW.1]

theorem lenPv (R : Result A n m H U k W pv) : pv.length = n - k := by rw [R.shape.len, R.lenH]

theorem hpos (R : Result A n m H U k W pv) :
    ∀ t (ht : t < pv.length), ∀ (hr : k + t < n),
      toM n m W ⟨k + t, hr⟩ ⟨pv[t], R.shape.lt _ (List.getElem_mem ht)⟩ ≠ 0 := by
  intro t ht hr
  have := R.shape.pos t ht
  rw [R.hH, ent_drop] at this
  exact ne_of_gt this

theorem hlast (R : Result A n m H U k W pv) :
    ∀ t (ht : t < pv.length), ∀ (hr : k + t < n), ∀ col : Fin m, pv[t] < col.val →
      toM n m W ⟨k + t, hr⟩ col = 0 := by
  intro t ht hr col hc
  have := R.shape.last t ht col.val hc col.isLt
  rw [R.hH, ent_drop] at this
  exact this

theorem hzero (R : Result A n m H U k W pv) : ∀ r : Fin n, r.val < k → ∀ col, toM n m W r col = 0 :=
  fun r hr col => R.zero r.val hr col.val col.isLt

theorem indep (R : Result A n m H U k W pv) (c : Fin n → ℤ) (hc : c ᵥ* toM n m W = 0) :
    ∀ r : Fin n, k ≤ r.val → c r = 0 :=
  echelon_indep (toM n m W) k pv R.lenPv R.hk R.shape.incr R.shape.lt R.hpos R.hlast R.hzero c hc

theorem annihilates (R : Result A n m H U k W pv) (r : Fin n) (hr : r.val < k) :
    toM n n U r ᵥ* toM n m A = 0 := by
  rw [← Matrix.mul_apply_eq_vecMul, R.ua]
  exact funext (R.hzero r hr)

theorem saturated (R : Result A n m H U k W pv) (u : Fin n → ℤ) (hu : u ᵥ* toM n m A = 0) :
    ∃ c : Fin n → ℤ, (∀ r : Fin n, k ≤ r.val → c r = 0) ∧ c ᵥ* toM n n U = u :=
  kernel_saturated_abs (toM n n U) (toM n m A) (toM n m W) R.det R.ua k pv R.lenPv R.hk
    R.shape.incr R.shape.lt R.hpos R.hlast R.hzero u hu

theorem U_indep (R : Result A n m H U k W pv) (c : Fin n → ℤ) (hc : c ᵥ* toM n n U = 0) : c = 0 := by
  have h := congrArg (fun v => v ᵥ* (toM n n U)⁻¹) hc
  simp only [Matrix.vecMul_vecMul, Matrix.mul_nonsing_inv _ R.det, Matrix.vecMul_one, Matrix.zero_vecMul] at h
  exact h

theorem span_eq (R : Result A n m H U k W pv) (v : Fin m → ℤ) :
    (∃ c : Fin n → ℤ, c ᵥ* toM n m A = v) ↔
    (∃ d : Fin n → ℤ, (∀ r : Fin n, r.val < k → d r = 0) ∧ d ᵥ* toM n m W = v) := by
  constructor
  · rintro ⟨c, rfl⟩
    -- d' = c * U⁻¹, then zero out the first k coordinates (the rows vanish)
    let d' := c ᵥ* (toM n n U)⁻¹
    have hd' : d' ᵥ* toM n m W = c ᵥ* toM n m A := by
      rw [← R.ua, Matrix.vecMul_vecMul, ← Matrix.mul_assoc, Matrix.nonsing_inv_mul _ R.det, Matrix.one_mul]
    refine ⟨fun r => if r.val < k then 0 else d' r, fun r hr => if_pos hr, ?_⟩
    rw [← hd']
    ext col
    simp only [Matrix.vecMul, dotProduct]
    apply Finset.sum_congr rfl
    intro r _
    by_cases hr : r.val < k
    · rw [if_pos hr, R.hzero r hr col, Int.mul_zero, Int.mul_zero]
    · rw [if_neg hr]
  · rintro ⟨d, _, rfl⟩
    exact ⟨d ᵥ* toM n n U, by rw [Matrix.vecMul_vecMul, R.ua]⟩

end Result
end NTV.Hnf
