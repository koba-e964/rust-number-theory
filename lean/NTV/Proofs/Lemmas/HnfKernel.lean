import NTV.Proofs.Lemmas.HnfTotal
import Mathlib.LinearAlgebra.Matrix.NonsingularInverse
namespace NTV.Hnf
open Matrix

/-- Rows of a matrix in HNF shape are ℤ-linearly independent.
Stated for an n×m matrix `W` whose rows `k..n-1` carry the pivots. -/
theorem echelon_indep {n m : Nat} (W : Matrix (Fin n) (Fin m) ℤ) (k : Nat) (pv : List Nat)
    (hlen : pv.length = n - k) (hk : k ≤ n)
    (hincr : pv.Pairwise (· < ·)) (hlt : ∀ p ∈ pv, p < m)
    (hpos : ∀ t (ht : t < pv.length), ∀ (hr : k + t < n), W ⟨k + t, hr⟩ ⟨pv[t], hlt _ (List.getElem_mem ht)⟩ ≠ 0)
    (hlast : ∀ t (ht : t < pv.length), ∀ (hr : k + t < n), ∀ col : Fin m, pv[t] < col.val → W ⟨k + t, hr⟩ col = 0)
    (hzero : ∀ r : Fin n, r.val < k → ∀ col, W r col = 0)
    (c : Fin n → ℤ) (hc : c ᵥ* W = 0) : ∀ r : Fin n, k ≤ r.val → c r = 0 := by
  -- by induction on the distance to the bottom row: once the coefficients below row `k + t` vanish, column `pv[t]`
  -- of `c ᵥ* W` is `c (k + t)` times the pivot, because the rows above vanish there
  rintro ⟨rv, hrv⟩ hrk
  obtain ⟨t, rfl⟩ := Nat.exists_eq_add_of_le hrk
  induction hd : n - (k + t) using Nat.strong_induction_on generalizing t with
  | _ d ih =>
    subst hd
    have htlt : t < pv.length := hlen ▸ Nat.lt_sub_iff_add_lt'.mpr hrv
    have hcol : ∑ r', c r' * W r' ⟨pv[t], hlt _ (List.getElem_mem htlt)⟩ = 0 := congrFun hc _
    rw [Finset.sum_eq_single ⟨k + t, hrv⟩] at hcol
    · exact (Int.mul_eq_zero.mp hcol).resolve_right (hpos t htlt hrv)
    · rintro ⟨rv', hrv'⟩ _ hne'
      rcases Nat.lt_or_ge rv' k with hlo | hge
      · rw [hzero ⟨rv', hrv'⟩ hlo, Int.mul_zero]
      · obtain ⟨t', rfl⟩ := Nat.exists_eq_add_of_le hge
        rcases Nat.lt_trichotomy t' t with h | rfl | h
        · rw [hlast t' (lt_trans h htlt) hrv' _ (List.pairwise_iff_getElem.mp hincr t' t _ htlt h), Int.mul_zero]
        · exact absurd rfl hne'
        · rw [ih _ (Nat.sub_lt_sub_left hrv (Nat.add_lt_add_left h k)) t' hrv' hge rfl, Int.zero_mul]
    · exact fun h => absurd (Finset.mem_univ _) h

/-- Saturation of the kernel (abstract form): if `U` is unimodular, `U * A = W`, the first `k` rows of `W`
vanish and the remaining rows are in echelon shape, then every integer vector `u` with `u * A = 0` is an
integer combination of the first `k` rows of `U`. -/
theorem kernel_saturated_abs {n m : Nat} (U : Matrix (Fin n) (Fin n) ℤ) (A W : Matrix (Fin n) (Fin m) ℤ)
    (hU : IsUnit U.det) (hUA : U * A = W) (k : Nat) (pv : List Nat)
    (hlen : pv.length = n - k) (hk : k ≤ n)
    (hincr : pv.Pairwise (· < ·)) (hlt : ∀ p ∈ pv, p < m)
    (hpos : ∀ t (ht : t < pv.length), ∀ (hr : k + t < n), W ⟨k + t, hr⟩ ⟨pv[t], hlt _ (List.getElem_mem ht)⟩ ≠ 0)
    (hlast : ∀ t (ht : t < pv.length), ∀ (hr : k + t < n), ∀ col : Fin m, pv[t] < col.val → W ⟨k + t, hr⟩ col = 0)
    (hzero : ∀ r : Fin n, r.val < k → ∀ col, W r col = 0)
    (u : Fin n → ℤ) (hu : u ᵥ* A = 0) :
    ∃ c : Fin n → ℤ, (∀ r : Fin n, k ≤ r.val → c r = 0) ∧ c ᵥ* U = u := by
  refine ⟨u ᵥ* U⁻¹, ?_, ?_⟩
  · apply echelon_indep W k pv hlen hk hincr hlt hpos hlast hzero
    rw [← hUA, Matrix.vecMul_vecMul, ← Matrix.mul_assoc, Matrix.nonsing_inv_mul _ hU, Matrix.one_mul]
    exact hu
  · rw [Matrix.vecMul_vecMul, Matrix.nonsing_inv_mul _ hU, Matrix.vecMul_one]

end NTV.Hnf
