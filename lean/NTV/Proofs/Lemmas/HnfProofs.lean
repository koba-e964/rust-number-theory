import NTV.Model.Hnf
import NTV.Proofs.Lemmas.RowOpsProofs
/-! The invariant `Inv` of `hnf_with_u` (`U * A₀ = A`, `det U` a unit) through the row operations and the three
loops, with the equations that say how `stepCol`, `outer` and `hnfWithU` return (`stepCol_some`, `outer_succ`,
`hnfWithU_eq`); the shape of the result is in `HnfShape`, termination in `HnfTotal`.
`ent`, `toM`, `Rect`, `subMulRow` and `swapRows` unfold to their generic counterparts in `NTV.RowOps` at `ℤ`, and
`negRow a k` is `RowOps.scaleRow a k (-1)`, so the generic descriptions of the row operations apply as they stand. -/
open Matrix
namespace NTV.Hnf

def toM (n m : Nat) (a : Mat) : Matrix (Fin n) (Fin m) ℤ := fun i j => ent a i j

def Rect (n m : Nat) (a : Mat) : Prop := a.length = n ∧ ∀ r ∈ a, r.length = m

theorem Rect.row_length {n m : Nat} {a : Mat} (hr : Rect n m a) (i : Nat) (hi : i < n) :
    (a.getD i []).length = m :=
  RowOps.Rect.row_length hr i hi

theorem ent_subMulRow {n m : Nat} {a : Mat} (hr : Rect n m a) (j k : Nat) (hj : j < n) (hk : k < n)
    (q : Int) (r c : Nat) :
    ent (subMulRow a j k q) r c = if r = j then ent a j c - ent a k c * q else ent a r c :=
  RowOps.ent_subMulRow hr j k hj hk q r c

theorem ent_negRow (a : Mat) (k r c : Nat) (hk : k < a.length) :
    ent (negRow a k) r c = if r = k then - ent a k c else ent a r c :=
  (RowOps.ent_map_row a k r c hk (· * (-1)) (zero_mul _)).trans (if_congr Iff.rfl (mul_neg_one _) rfl)

theorem ent_swapRows (a : Mat) (i j r c : Nat) (hi : i < a.length) (hj : j < a.length) :
    ent (swapRows a i j) r c = if r = j then ent a i c else if r = i then ent a j c else ent a r c :=
  RowOps.ent_swapRows a i j r c hi hj

theorem Rect.subMulRow {n m : Nat} {a : Mat} (hr : Rect n m a) (j k : Nat) (hk : k < n) (q : Int) :
    Rect n m (subMulRow a j k q) :=
  RowOps.Rect.subMulRow hr j k hk q

theorem Rect.negRow {n m : Nat} {a : Mat} (hr : Rect n m a) (k : Nat) : Rect n m (negRow a k) :=
  RowOps.Rect.scaleRow hr k (-1)

theorem Rect.swapRows {n m : Nat} {a : Mat} (hr : Rect n m a) (i j : Nat) (hi : i < n) (hj : j < n) :
    Rect n m (swapRows a i j) :=
  RowOps.Rect.swapRows hr i j hi hj

structure Inv (n m : Nat) (A0 : Matrix (Fin n) (Fin m) ℤ) (s : St) : Prop where
  ra : Rect n m s.a
  ru : Rect n n s.u
  ua : toM n n s.u * A0 = toM n m s.a
  det : IsUnit (toM n n s.u).det

theorem Inv.neg {n m A0 s} (h : Inv n m A0 s) (k : Fin n) : Inv n m A0 (s.neg k) :=
  ⟨h.ra.negRow k, h.ru.negRow k, RowOps.mul_scaleRow n m A0 s.a s.u h.ra h.ru h.ua k (-1),
    (congrArg IsUnit (RowOps.det_scaleRow n s.u h.ru k (-1))).mpr (isUnit_neg_one.mul h.det)⟩

theorem Inv.swap {n m A0 s} (h : Inv n m A0 s) (i j : Fin n) : Inv n m A0 (s.swap i j) := by
  refine ⟨h.ra.swapRows i j i.2 j.2, h.ru.swapRows i j i.2 j.2,
    RowOps.mul_swapRows n m A0 s.a s.u h.ra h.ru h.ua i j, ?_⟩
  show IsUnit (RowOps.toM n n (RowOps.swapRows s.u i j)).det
  rw [RowOps.toM_swapRows n n _ h.ru, det_permute]
  exact (Units.isUnit _).mul h.det

theorem Inv.subMul' {n m A0 s} (h : Inv n m A0 s) (j k : Nat) (hj : j < n) (hk : k < n) (hjk : j ≠ k) (q : Int) :
    Inv n m A0 (s.subMul j k q) :=
  ⟨h.ra.subMulRow j k hk q, h.ru.subMulRow j k hk q,
    RowOps.mul_subMulRow n m A0 s.a s.u h.ra h.ru h.ua ⟨j, hj⟩ ⟨k, hk⟩ q,
    (congrArg IsUnit (RowOps.det_subMulRow n s.u h.ru ⟨j, hj⟩ ⟨k, hk⟩ (fun e => hjk (congrArg Fin.val e)) q)).mpr h.det⟩

theorem foldl_Inv {n m A0} {α : Type} (l : List α) (f : St → α → St) (s : St) (h : Inv n m A0 s)
    (hf : ∀ s x, x ∈ l → Inv n m A0 s → Inv n m A0 (f s x)) : Inv n m A0 (l.foldl f s) := by
  induction l generalizing s with
  | nil => exact h
  | cons x xs ih =>
    simp only [List.foldl_cons]
    exact ih _ (hf _ _ (by simp) h) (fun s y hy hs => hf s y (by simp [hy]) hs)

theorem reduceAbove_Inv {n m A0 s} (h : Inv n m A0 s) (k i : Nat) (hk : k < n) :
    Inv n m A0 (reduceAbove s k i) := by
  unfold reduceAbove
  apply foldl_Inv _ _ _ h
  intro s j hj hs
  have : j < k := List.mem_range.mp hj
  exact hs.subMul' j k (lt_trans this hk) hk (ne_of_lt this) _

theorem reduceBelow_eq (s : St) (k i n : Nat) :
    reduceBelow s k i n = (List.range' (k + 1) (n - (k + 1))).foldl
      (fun t j => t.subMul j k (floorDiv (ent t.a j i) (ent s.a k i))) s := by
  rw [List.range'_eq_map_range, List.foldl_map]; rfl

theorem mem_rowsBelow {k n : Nat} (hk : k < n) (r : Nat) : r ∈ List.range' (k + 1) (n - (k + 1)) ↔ k < r ∧ r < n := by
  rw [List.mem_range'_1, Nat.add_sub_cancel' hk]; rfl

theorem reduceBelow_Inv {n m A0 s} (h : Inv n m A0 s) (k i : Nat) (hk : k < n) :
    Inv n m A0 (reduceBelow s k i n) := by
  rw [reduceBelow_eq]
  apply foldl_Inv _ _ _ h
  intro s j hj hs
  rw [mem_rowsBelow hk] at hj
  exact hs.subMul' j k hj.2 hk (ne_of_gt hj.1) _

theorem argmin_foldl (f : Nat → Nat) (c : Nat) (cs : List Nat) :
    let r := cs.foldl (fun best j => if f j < f best then j else best) c
    r ∈ c :: cs ∧ ∀ x ∈ c :: cs, f r ≤ f x := by
  induction cs generalizing c with
  | nil => exact ⟨List.mem_singleton_self c, fun x hx => List.mem_singleton.mp hx ▸ le_refl _⟩
  | cons d ds ih =>
    obtain ⟨hmem, h1, h2⟩ : (if f d < f c then d else c) ∈ [c, d] ∧
        f (if f d < f c then d else c) ≤ f c ∧ f (if f d < f c then d else c) ≤ f d := by
      split
      · exact ⟨by simp, le_of_lt ‹_›, le_refl _⟩
      · exact ⟨by simp, le_refl _, not_lt.mp ‹_›⟩
    obtain ⟨ih1, ih2⟩ := ih (if f d < f c then d else c)
    simp only [List.foldl_cons, List.mem_cons, List.not_mem_nil, or_false, forall_eq_or_imp] at hmem ih1 ih2 ⊢
    refine ⟨?_, le_trans ih2.1 h1, le_trans ih2.1 h2, ih2.2⟩
    rcases ih1 with e | e
    · rw [e]; exact hmem.imp_right Or.inl
    · exact Or.inr (Or.inr e)

theorem pickPivot_cases (a : Mat) (k i : Nat) :
    (pickPivot a k i = k ∧ ∀ j ≤ k, ent a j i = 0) ∨
    (pickPivot a k i ≤ k ∧ ent a (pickPivot a k i) i ≠ 0 ∧
      ∀ j ≤ k, ent a j i ≠ 0 → (ent a (pickPivot a k i) i).natAbs ≤ (ent a j i).natAbs) := by
  unfold pickPivot
  generalize hc : (List.range (k + 1)).filter (fun j => ent a j i != 0) = cands
  have hmem : ∀ j, j ∈ cands ↔ (j ≤ k ∧ ent a j i ≠ 0) := by
    intro j; rw [← hc]; simp [List.mem_filter, Nat.lt_succ_iff]
  cases cands with
  | nil => exact Or.inl ⟨rfl, fun j hj => by_contra fun hne => absurd ((hmem j).mpr ⟨hj, hne⟩) List.not_mem_nil⟩
  | cons c cs =>
    obtain ⟨h1, h2⟩ := argmin_foldl (fun j => (ent a j i).natAbs) c cs
    exact Or.inr ⟨((hmem _).mp h1).1, ((hmem _).mp h1).2, fun j hj hne => h2 j ((hmem j).mpr ⟨hj, hne⟩)⟩

theorem pickPivot_le (a : Mat) (k i : Nat) : pickPivot a k i ≤ k := by
  rcases pickPivot_cases a k i with ⟨h, _⟩ | ⟨h, _⟩
  · exact le_of_eq h
  · exact h

/-- The inner loop as seen from its result: a property kept by every swap-and-reduce pass holds of the state `t` in
which column `i` vanishes above row `k`, and the result is `t` with row `k` made non-negative in that column. -/
theorem inner_some {P : St → Prop} {fuel : Nat} {s s' : St} {k i : Nat} (hres : inner fuel s k i = some s') (h0 : P s)
    (hstep : ∀ t, P t → P (reduceAbove (t.swap (pickPivot t.a k i) k) k i)) :
    ∃ t, P t ∧ allZeroAbove t.a k i = true ∧ s' = if ent t.a k i < 0 then t.neg k else t := by
  induction fuel generalizing s with
  | zero => exact absurd hres (by simp [inner])
  | succ f ih =>
    unfold inner at hres
    split at hres
    · exact ⟨s, h0, ‹_›, (Option.some.inj hres).symm⟩
    · exact ih hres (hstep s h0)

theorem inner_Inv {n m A0} (fuel : Nat) (s s' : St) (k i : Nat) (hk : k < n) (h : Inv n m A0 s)
    (hres : inner fuel s k i = some s') : Inv n m A0 s' := by
  obtain ⟨t, ht, _, rfl⟩ := inner_some hres h fun t ht =>
    reduceAbove_Inv (ht.swap ⟨_, lt_of_le_of_lt (pickPivot_le t.a k i) hk⟩ ⟨k, hk⟩) k i hk
  split
  · exact ht.neg ⟨k, hk⟩
  · exact ht

theorem stepCol_some {n : Nat} {s s' : St} {k k' i : Nat} (h : stepCol n s k i = some (s', k')) :
    ∃ s1, inner (colAbsSum s.a k i + 1) s k i = some s1 ∧
      ((ent s1.a k i = 0 ∧ s' = s1 ∧ k' = k + 1) ∨
       (ent s1.a k i ≠ 0 ∧ s' = reduceBelow s1 k i n ∧ k' = k)) := by
  unfold stepCol at h
  cases hin : inner (colAbsSum s.a k i + 1) s k i with
  | none => rw [hin] at h; exact absurd h (by simp)
  | some s1 =>
    rw [hin] at h
    refine ⟨s1, rfl, ?_⟩
    simp only [Option.some.injEq] at h
    split at h
    · rename_i hz
      exact Or.inl ⟨beq_iff_eq.mp hz, (Prod.mk.inj h).1.symm, (Prod.mk.inj h).2.symm⟩
    · rename_i hz
      exact Or.inr ⟨fun e => hz (beq_iff_eq.mpr e), (Prod.mk.inj h).1.symm, (Prod.mk.inj h).2.symm⟩

theorem outer_succ {n c : Nat} {s : St} {k : Nat} {r : St × Nat} (h : outer n (c + 1) s k = some r) :
    ∃ s2 k2, stepCol n s k c = some (s2, k2) ∧
      (((k2 = 0 ∨ c = 0) ∧ r = (s2, k2)) ∨ (k2 ≠ 0 ∧ c ≠ 0 ∧ outer n c s2 (k2 - 1) = some r)) := by
  unfold outer at h
  cases hst : stepCol n s k c with
  | none => rw [hst] at h; exact absurd h (by simp)
  | some p =>
    obtain ⟨s2, k2⟩ := p
    rw [hst] at h
    refine ⟨s2, k2, rfl, ?_⟩
    simp only at h
    split at h
    · rename_i hc
      simp only [Bool.or_eq_true, beq_iff_eq] at hc
      exact Or.inl ⟨hc, (Option.some.inj h).symm⟩
    · rename_i hc
      simp only [Bool.or_eq_true, beq_iff_eq, not_or] at hc
      exact Or.inr ⟨hc.1, hc.2, h⟩

theorem stepCol_le {n : Nat} {s s' : St} {k k' i : Nat} (h : stepCol n s k i = some (s', k')) : k' ≤ k + 1 := by
  obtain ⟨_, _, ⟨_, _, rfl⟩ | ⟨_, _, rfl⟩⟩ := stepCol_some h
  exacts [le_refl _, Nat.le_succ _]

theorem pred_lt_of_stepCol {n k k2 : Nat} (hk : k < n) (h : k2 ≤ k + 1) : k2 - 1 < n :=
  lt_of_le_of_lt (Nat.sub_le_of_le_add h) hk

theorem stepCol_Inv {n m A0} (s s' : St) (k k' i : Nat) (hk : k < n) (h : Inv n m A0 s)
    (hres : stepCol n s k i = some (s', k')) : Inv n m A0 s' := by
  obtain ⟨s1, hin, hcase⟩ := stepCol_some hres
  have h1 := inner_Inv _ _ _ k i hk h hin
  rcases hcase with ⟨_, rfl, rfl⟩ | ⟨_, rfl, rfl⟩
  · exact h1
  · exact reduceBelow_Inv h1 _ i hk

theorem outer_Inv {n m A0} (c : Nat) (s s' : St) (k k' : Nat) (hk : k < n) (h : Inv n m A0 s)
    (hres : outer n c s k = some (s', k')) : Inv n m A0 s' ∧ k' ≤ n := by
  induction c generalizing s k with
  | zero =>
    obtain ⟨rfl, rfl⟩ := Prod.mk.inj (Option.some.inj hres)
    exact ⟨h, le_of_lt hk⟩
  | succ c ih =>
    obtain ⟨s2, k2, hstep, hcase⟩ := outer_succ hres
    have h2 := stepCol_Inv _ _ _ _ _ hk h hstep
    have hk2 := stepCol_le hstep
    rcases hcase with ⟨_, e⟩ | ⟨_, _, hrec⟩
    · obtain ⟨rfl, rfl⟩ := Prod.mk.inj e
      exact ⟨h2, le_trans hk2 hk⟩
    · exact ih _ _ (pred_lt_of_stepCol hk hk2) h2 hrec

theorem ent_idMat (n i j : Nat) (hi : i < n) (hj : j < n) : ent (idMat n) i j = if i = j then 1 else 0 := by
  unfold ent idMat
  simp [List.getD_eq_getElem?_getD, hi, hj]

theorem Rect_idMat (n : Nat) : Rect n n (idMat n) := by
  refine ⟨by simp [idMat], ?_⟩
  intro r hr
  simp only [idMat, List.mem_map, List.mem_range] at hr
  obtain ⟨i, _, rfl⟩ := hr
  simp

theorem toM_idMat (n : Nat) : toM n n (idMat n) = 1 := by
  ext i j
  show ent (idMat n) i j = _
  rw [ent_idMat n i j i.2 j.2, Matrix.one_apply]
  by_cases h : i = j
  · subst h; simp
  · have : ¬ ((i : Nat) = (j : Nat)) := fun e => h (Fin.ext e)
    simp [h, this]

theorem Inv.init {n m : Nat} {A : Mat} (hr : Rect n m A) : Inv n m (toM n m A) ⟨A, idMat n⟩ :=
  ⟨hr, Rect_idMat n, by simp [toM_idMat], by simp [toM_idMat]⟩

theorem hnfWithU_eq {A : Mat} {n m : Nat} (hr : Rect n m A) (hn : 0 < n) :
    hnfWithU A = (outer n m ⟨A, idMat n⟩ (n - 1)).map fun p => (p.1.a.drop p.2, p.1.u, p.2) := by
  cases A with
  | nil => exact absurd (hr.1 ▸ hn) (lt_irrefl 0)
  | cons r0 rs =>
    unfold hnfWithU
    simp only
    rw [hr.1, hr.2 r0 List.mem_cons_self]
    cases outer n m ⟨r0 :: rs, idMat n⟩ (n - 1) <;> rfl

theorem hnfWithU_some {A : Mat} {n m : Nat} (hr : Rect n m A) (hn : 0 < n) {H U : Mat} {k : Nat}
    (h : hnfWithU A = some (H, U, k)) :
    ∃ s, outer n m ⟨A, idMat n⟩ (n - 1) = some (s, k) ∧ H = s.a.drop k ∧ U = s.u ∧
      Inv n m (toM n m A) s ∧ k ≤ n := by
  rw [hnfWithU_eq hr hn, Option.map_eq_some_iff] at h
  obtain ⟨⟨s, k'⟩, hout, e⟩ := h
  obtain ⟨rfl, rfl, rfl⟩ := Prod.mk.inj e |>.imp_right Prod.mk.inj
  exact ⟨s, hout, rfl, rfl, outer_Inv m _ _ (n - 1) _ (Nat.sub_lt hn Nat.one_pos) (Inv.init hr) hout⟩

/-- C03, the transformation alone (also for `m = 0`; `hnfWithU_spec` adds the shape of `W` when `0 < m`): the model of
`hnf_with_u` returns `(H, U, k)` with `U` unimodular and `U * A = W` where `H` is `W` minus its first `k` rows. -/
theorem hnfWithU_UA (A : Mat) (n m : Nat) (hr : Rect n m A) (hn : 0 < n)
    (H U : Mat) (k : Nat) (hres : hnfWithU A = some (H, U, k)) :
    ∃ W : Mat, Rect n m W ∧ Rect n n U ∧ H = W.drop k ∧ k ≤ n ∧
      toM n n U * toM n m A = toM n m W ∧ IsUnit (toM n n U).det := by
  obtain ⟨s, _, rfl, rfl, hI, hk⟩ := hnfWithU_some hr hn hres
  exact ⟨s.a, hI.ra, hI.ru, rfl, hk, hI.ua, hI.det⟩

end NTV.Hnf
