import NTV.Proofs.Lemmas.HnfProofs
import NTV.Proofs.Lemmas.FloorDivProofs
/-! The shape half of the loop invariant of `hnf_with_u`: rows `≤ k` vanish right of the current column (`ZeroBefore`),
rows `> k` are finished pivot rows (`BlockFrom`); carried through `stepCol` and `outer` to `hnfWithU_spec`. -/
namespace NTV.Hnf

/-- The multiplier of a row `j ∈ l` is computed from the original row `j`: the rows in `l` are distinct and
differ from `k`, so the earlier steps of the fold touch neither row `j` nor row `k`. -/
theorem foldl_subMul_ent {n m : Nat} (k i : Nat) (hk : k < n) (b : Int) (l : List Nat)
    (hl : ∀ j ∈ l, j < n ∧ j ≠ k) (hnd : l.Nodup) (s : St) (hr : Rect n m s.a) :
    let s' := l.foldl (fun s j => s.subMul j k (floorDiv (ent s.a j i) b)) s
    Rect n m s'.a ∧ ∀ r c, ent s'.a r c =
      if r ∈ l then ent s.a r c - ent s.a k c * floorDiv (ent s.a r i) b else ent s.a r c := by
  induction l generalizing s with
  | nil => exact ⟨hr, fun r c => rfl⟩
  | cons j js ih =>
    have hj := hl j List.mem_cons_self
    have hnd' := List.nodup_cons.mp hnd
    have e1 : ∀ r c, ent (s.subMul j k (floorDiv (ent s.a j i) b)).a r c =
        if r = j then ent s.a j c - ent s.a k c * floorDiv (ent s.a j i) b else ent s.a r c :=
      fun r c => ent_subMulRow hr j k hj.1 hk _ r c
    obtain ⟨hr', h'⟩ := ih (fun x hx => hl x (List.mem_cons_of_mem j hx)) hnd'.2 (s.subMul j k (floorDiv (ent s.a j i) b))
      (hr.subMulRow j k hk _)
    refine ⟨hr', fun r c => (h' r c).trans ?_⟩
    by_cases hrj : r = j
    · subst hrj
      rw [if_neg hnd'.1, e1, if_pos rfl, if_pos List.mem_cons_self]
    · have er : ∀ c, ent (s.subMul j k (floorDiv (ent s.a j i) b)).a r c = ent s.a r c :=
        fun c => (e1 r c).trans (if_neg hrj)
      rw [er, er, (e1 k c).trans (if_neg (Ne.symm hj.2))]
      exact if_congr (List.mem_cons.trans (or_iff_right hrj)).symm rfl rfl

theorem reduceAbove_ent {n m : Nat} (s : St) (hr : Rect n m s.a) (k i : Nat) (hk : k < n) :
    Rect n m (reduceAbove s k i).a ∧ ∀ r c, ent (reduceAbove s k i).a r c =
      if r < k then ent s.a r c - ent s.a k c * floorDiv (ent s.a r i) (ent s.a k i) else ent s.a r c := by
  have := foldl_subMul_ent (n := n) (m := m) k i hk (ent s.a k i) (List.range k)
    (fun j hj => ⟨lt_trans (List.mem_range.mp hj) hk, ne_of_lt (List.mem_range.mp hj)⟩) List.nodup_range s hr
  exact ⟨this.1, fun r c => (this.2 r c).trans (if_congr List.mem_range rfl rfl)⟩

theorem reduceBelow_ent {n m : Nat} (s : St) (hr : Rect n m s.a) (k i : Nat) (hk : k < n) :
    Rect n m (reduceBelow s k i n).a ∧ ∀ r c, ent (reduceBelow s k i n).a r c =
      if k < r ∧ r < n then ent s.a r c - ent s.a k c * floorDiv (ent s.a r i) (ent s.a k i) else ent s.a r c := by
  rw [reduceBelow_eq]
  have := foldl_subMul_ent (n := n) (m := m) k i hk (ent s.a k i) (List.range' (k + 1) (n - (k + 1)))
    (fun j hj => ⟨((mem_rowsBelow hk j).mp hj).2, ne_of_gt ((mem_rowsBelow hk j).mp hj).1⟩) (List.nodup_range' ..) s hr
  exact ⟨this.1, fun r c => (this.2 r c).trans (if_congr (mem_rowsBelow hk r) rfl rfl)⟩

theorem allZeroAbove_iff (a : Mat) (k i : Nat) : allZeroAbove a k i = true ↔ ∀ j < k, ent a j i = 0 := by
  simp only [allZeroAbove, List.all_eq_true, List.mem_range, beq_iff_eq]

/-- What one pass of the inner loop guarantees about the `a` component. -/
structure InnerPost (n m : Nat) (s s' : St) (k i : Nat) : Prop where
  rect : Rect n m s'.a
  below : ∀ r, k < r → ∀ c, ent s'.a r c = ent s.a r c
  zerocol : ∀ c, (∀ r ≤ k, ent s.a r c = 0) → ∀ r ≤ k, ent s'.a r c = 0

theorem InnerPost.refl {n m s k i} (hr : Rect n m s.a) : InnerPost n m s s k i :=
  ⟨hr, fun _ _ _ => rfl, fun _ h => h⟩

theorem InnerPost.trans {n m s1 s2 s3 k i} (h12 : InnerPost n m s1 s2 k i) (h23 : InnerPost n m s2 s3 k i) :
    InnerPost n m s1 s3 k i :=
  ⟨h23.rect, fun r hr c => by rw [h23.below r hr c, h12.below r hr c],
   fun c h => h23.zerocol c (h12.zerocol c h)⟩

theorem InnerPost.neg {n m s k i} (hr : Rect n m s.a) (hk : k < n) : InnerPost n m s (s.neg k) k i := by
  have he := fun r c => ent_negRow s.a k r c (hr.1.symm ▸ hk)
  refine ⟨hr.negRow k, fun r hrk c => (he r c).trans (if_neg (ne_of_gt hrk)), fun c h r hrk => (he r c).trans ?_⟩
  split
  · rw [h k le_rfl, Int.neg_zero]
  · exact h r hrk

theorem InnerPost.swap {n m s k i} (hr : Rect n m s.a) (hk : k < n) (j0 : Nat) (hj0 : j0 ≤ k) :
    InnerPost n m s (s.swap j0 k) k i := by
  have hk' : k < s.a.length := hr.1.symm ▸ hk
  have he := fun r c => ent_swapRows s.a j0 k r c (lt_of_le_of_lt hj0 hk') hk'
  refine ⟨hr.swapRows j0 k (lt_of_le_of_lt hj0 hk) hk, fun r hrk c => (he r c).trans ?_,
    fun c h r hrk => (he r c).trans ?_⟩
  · rw [if_neg (ne_of_gt hrk), if_neg (ne_of_gt (lt_of_le_of_lt hj0 hrk))]
  · split
    · exact h j0 hj0
    · split
      · exact h k le_rfl
      · exact h r hrk

theorem InnerPost.reduceAbove {n m s k i} (hr : Rect n m s.a) (hk : k < n) :
    InnerPost n m s (reduceAbove s k i) k i := by
  obtain ⟨hr', he⟩ := reduceAbove_ent s hr k i hk
  refine ⟨hr', fun r hrk c => (he r c).trans (if_neg (lt_asymm hrk)), fun c h r hrk => (he r c).trans ?_⟩
  split
  · rw [h r hrk, h k le_rfl, Int.zero_mul, Int.sub_zero]
  · exact h r hrk

theorem inner_post {n m : Nat} (fuel : Nat) (s s' : St) (k i : Nat) (hk : k < n) (hr : Rect n m s.a)
    (hres : inner fuel s k i = some s') :
    InnerPost n m s s' k i ∧ (∀ r < k, ent s'.a r i = 0) ∧ 0 ≤ ent s'.a k i := by
  obtain ⟨t, ht, hz, rfl⟩ := inner_some (P := fun t => InnerPost n m s t k i) hres (InnerPost.refl hr) fun t ht =>
    have h1 := InnerPost.swap (i := i) ht.rect hk _ (pickPivot_le t.a k i)
    (ht.trans h1).trans (InnerPost.reduceAbove h1.rect hk)
  rw [allZeroAbove_iff] at hz
  split
  · rename_i hneg
    have he := fun r => ent_negRow t.a k r i (ht.rect.1.symm ▸ hk)
    refine ⟨ht.trans (InnerPost.neg ht.rect hk), fun r hrk => ?_, ?_⟩
    · exact (he r).trans ((if_neg (ne_of_lt hrk)).trans (hz r hrk))
    · exact ((he k).trans (if_pos rfl)).symm ▸ neg_nonneg.mpr (le_of_lt hneg)
  · exact ⟨ht, hz, not_lt.mp ‹_›⟩

/-- Rows `< hi` vanish on the columns `c .. m-1`. -/
def ZeroBefore (a : Mat) (hi c m : Nat) : Prop := ∀ r < hi, ∀ col, c ≤ col → col < m → ent a r col = 0

theorem ZeroBefore.col {a hi c m} (h : ZeroBefore a hi (c + 1) m) (hc : ∀ r < hi, ent a r c = 0) :
    ZeroBefore a hi c m := by
  intro r hr col hcol hm
  rcases Nat.eq_or_lt_of_le hcol with rfl | hlt
  · exact hc r hr
  · exact h r hr col hlt hm

/-- Rows `lo .. n-1` are finished pivot rows whose pivot columns are `pv` (in row order). -/
structure BlockFrom (a : Mat) (n m lo c : Nat) (pv : List Nat) : Prop where
  len : pv.length = n - lo
  lo_le : lo ≤ n
  incr : pv.Pairwise (· < ·)
  ge : ∀ p ∈ pv, c ≤ p ∧ p < m
  piv : ∀ t (ht : t < pv.length), 0 < ent a (lo + t) pv[t] ∧
        (∀ col, pv[t] < col → col < m → ent a (lo + t) col = 0) ∧
        (∀ r', lo + t < r' → r' < n → 0 ≤ ent a r' pv[t] ∧ ent a r' pv[t] < ent a (lo + t) pv[t])

theorem BlockFrom.weaken {a n m lo c c' pv} (h : BlockFrom a n m lo c pv) (hc : c' ≤ c) :
    BlockFrom a n m lo c' pv :=
  ⟨h.len, h.lo_le, h.incr, fun p hp => ⟨le_trans hc (h.ge p hp).1, (h.ge p hp).2⟩, h.piv⟩

theorem BlockFrom.congr {a a' n m lo c pv} (h : BlockFrom a n m lo c pv)
    (he : ∀ r, lo ≤ r → ∀ col, c ≤ col → col < m → ent a' r col = ent a r col) : BlockFrom a' n m lo c pv := by
  refine ⟨h.len, h.lo_le, h.incr, h.ge, fun t ht => ?_⟩
  obtain ⟨h1, h2, h3⟩ := h.piv t ht
  obtain ⟨hp, hpm⟩ := h.ge pv[t] (List.getElem_mem ht)
  have hrow : ent a' (lo + t) pv[t] = ent a (lo + t) pv[t] := he _ (Nat.le_add_right ..) _ hp hpm
  refine ⟨hrow ▸ h1, fun col hc hm => ?_, fun r' hr' hn => ?_⟩
  · rw [he _ (Nat.le_add_right ..) _ (le_trans hp (le_of_lt hc)) hm]; exact h2 col hc hm
  · rw [hrow, he _ (le_trans (Nat.le_add_right lo t) (le_of_lt hr')) _ hp hpm]; exact h3 r' hr' hn

theorem BlockFrom.cons {a n m k i pv} (h : BlockFrom a n m (k + 1) (i + 1) pv) (hk : k < n) (hi : i < m)
    (hpos : 0 < ent a k i) (hlast : ∀ col, i < col → col < m → ent a k col = 0)
    (hbel : ∀ r', k < r' → r' < n → 0 ≤ ent a r' i ∧ ent a r' i < ent a k i) :
    BlockFrom a n m k i (i :: pv) := by
  refine ⟨by rw [List.length_cons, h.len, Nat.sub_add_eq, Nat.sub_add_cancel (Nat.sub_pos_of_lt hk)], le_of_lt hk,
    List.pairwise_cons.mpr ⟨fun p hp => (h.ge p hp).1, h.incr⟩, ?_, ?_⟩
  · intro p hp
    rcases List.mem_cons.mp hp with rfl | hp
    · exact ⟨le_refl _, hi⟩
    · exact ⟨Nat.le_of_succ_le (h.ge p hp).1, (h.ge p hp).2⟩
  · intro t ht
    cases t with
    | zero => exact ⟨hpos, hlast, hbel⟩
    | succ t =>
      have := h.piv t (Nat.lt_of_succ_lt_succ ht)
      rwa [Nat.add_right_comm] at this

theorem stepCol_shape {n m : Nat} (s s' : St) (k k' i : Nat) (pv : List Nat)
    (hk : k < n) (him : i < m) (hr : Rect n m s.a)
    (hz : ZeroBefore s.a (k + 1) (i + 1) m) (hb : BlockFrom s.a n m (k + 1) (i + 1) pv)
    (hres : stepCol n s k i = some (s', k')) :
    ∃ pv', Rect n m s'.a ∧ ZeroBefore s'.a k' i m ∧ BlockFrom s'.a n m k' i pv' := by
  obtain ⟨s1, hin, hcase⟩ := stepCol_some hres
  obtain ⟨hp, hz0, hpos⟩ := inner_post _ _ _ k i hk hr hin
  have hz1 : ZeroBefore s1.a (k + 1) (i + 1) m := fun r hrk col hc hm =>
    hp.zerocol col (fun r' hr' => hz r' (Nat.lt_succ_of_le hr') col hc hm) r (Nat.le_of_lt_succ hrk)
  have hb1 : BlockFrom s1.a n m (k + 1) (i + 1) pv := hb.congr (fun r hrk col _ _ => hp.below r hrk col)
  rcases hcase with ⟨hzero, rfl, rfl⟩ | ⟨hne, rfl, rfl⟩
  · refine ⟨pv, hp.rect, hz1.col fun r hrk => ?_, hb1.weaken (Nat.le_succ i)⟩
    rcases Nat.eq_or_lt_of_le (Nat.le_of_lt_succ hrk) with rfl | hlt
    · exact hzero
    · exact hz0 r hlt
  · obtain ⟨hr2, he⟩ := reduceBelow_ent s1 hp.rect k' i hk
    have hkrow : ∀ col, i < col → col < m → ent s1.a k' col = 0 := hz1 k' (Nat.lt_succ_self k')
    have he_lo : ∀ r ≤ k', ∀ c, ent (reduceBelow s1 k' i n).a r c = ent s1.a r c := fun r hrk c => by
      rw [he, if_neg fun h => absurd h.1 (Nat.not_lt.mpr hrk)]
    -- right of column `i` row `k'` vanishes, so nothing is subtracted there
    have he_blk : ∀ r, k' + 1 ≤ r → ∀ col, i + 1 ≤ col → col < m →
        ent (reduceBelow s1 k' i n).a r col = ent s1.a r col := fun r _ col hc hm => by
      rw [he, hkrow col hc hm, Int.zero_mul, Int.sub_zero, ite_self]
    have hpos' : 0 < ent s1.a k' i := lt_of_le_of_ne hpos (Ne.symm hne)
    have hz2 : ZeroBefore s1.a k' i m := ZeroBefore.col (fun r hrk => hz1 r (Nat.lt_succ_of_lt hrk)) hz0
    refine ⟨i :: pv, hr2, fun r hrk col hc hm => ?_, (hb1.congr he_blk).cons hk him ?_ ?_ ?_⟩
    · rw [he_lo r (le_of_lt hrk)]; exact hz2 r hrk col hc hm
    · rw [he_lo k' (le_refl _)]; exact hpos'
    · intro col hc hm; rw [he_lo k' (le_refl _)]; exact hkrow col hc hm
    · intro r' hr' hn
      rw [he_lo k' (le_refl _), he, if_pos ⟨hr', hn⟩]
      exact floorDiv_rem_pos _ _ hpos'

theorem outer_shape {n m : Nat} (c : Nat) (s s' : St) (k k' : Nat) (pv : List Nat)
    (hk : k < n) (hc : 0 < c) (hcm : c ≤ m) (hr : Rect n m s.a)
    (hz : ZeroBefore s.a (k + 1) c m) (hb : BlockFrom s.a n m (k + 1) c pv)
    (hres : outer n c s k = some (s', k')) :
    ∃ pv', ZeroBefore s'.a k' 0 m ∧ BlockFrom s'.a n m k' 0 pv' := by
  induction c generalizing s k pv with
  | zero => exact absurd hc (lt_irrefl 0)
  | succ c ih =>
    obtain ⟨s2, k2, hstep, hcase⟩ := outer_succ hres
    obtain ⟨pv', hr2, hz2, hb2⟩ := stepCol_shape _ _ _ _ _ pv hk hcm hr hz hb hstep
    rcases hcase with ⟨hstop, e⟩ | ⟨hk0, hc0, hrec⟩
    · obtain ⟨rfl, rfl⟩ := Prod.mk.inj e
      refine ⟨pv', ?_, hb2.weaken (Nat.zero_le c)⟩
      rcases hstop with rfl | rfl
      · exact fun r hr' => absurd hr' (Nat.not_lt_zero r)
      · exact hz2
    · have e : k2 - 1 + 1 = k2 := Nat.sub_add_cancel (Nat.pos_of_ne_zero hk0)
      exact ih _ _ pv' (pred_lt_of_stepCol hk (stepCol_le hstep)) (Nat.pos_of_ne_zero hc0) (Nat.le_of_succ_le hcm) hr2 (by rw [e]; exact hz2)
        (by rw [e]; exact hb2) hrec

/-- The normal form of the property statement, for a list of rows `H` with `m` columns:
`pv` lists the pivot column of each row. -/
structure IsHNF (H : Mat) (m : Nat) (pv : List Nat) : Prop where
  len : pv.length = H.length
  incr : pv.Pairwise (· < ·)
  lt : ∀ p ∈ pv, p < m
  pos : ∀ t (ht : t < pv.length), 0 < ent H t pv[t]
  last : ∀ t (ht : t < pv.length), ∀ col, pv[t] < col → col < m → ent H t col = 0
  below : ∀ t (ht : t < pv.length), ∀ t', t < t' → t' < H.length →
            0 ≤ ent H t' pv[t] ∧ ent H t' pv[t] < ent H t pv[t]

theorem ent_drop (W : Mat) (k t c : Nat) : ent (W.drop k) t c = ent W (k + t) c := by
  simp only [ent, List.getD_eq_getElem?_getD, List.getElem?_drop]

theorem BlockFrom.isHNF {a : Mat} {n m k : Nat} {pv : List Nat} (h : BlockFrom a n m k 0 pv) (hlen : a.length = n) :
    IsHNF (a.drop k) m pv := by
  have hlenH : (a.drop k).length = n - k := by rw [List.length_drop, hlen]
  refine ⟨h.len.trans hlenH.symm, h.incr, fun p hp => (h.ge p hp).2, ?_, ?_, ?_⟩
  · intro t ht; rw [ent_drop]; exact (h.piv t ht).1
  · intro t ht col hc hcm; rw [ent_drop]; exact (h.piv t ht).2.1 col hc hcm
  · intro t ht t' htt' ht'
    rw [ent_drop, ent_drop]
    exact (h.piv t ht).2.2 (k + t') (Nat.add_lt_add_left htt' k) (Nat.lt_sub_iff_add_lt'.mp (hlenH ▸ ht'))

/-- C02/C03 core: shape of the result of the `hnf_with_u` model, for every rectangular
input with at least one row and one column. -/
theorem hnfWithU_spec (A : Mat) (n m : Nat) (hr : Rect n m A) (hn : 0 < n) (hm : 0 < m)
    (H U : Mat) (k : Nat) (hres : hnfWithU A = some (H, U, k)) :
    ∃ W pv, Rect n m W ∧ Rect n n U ∧ H = W.drop k ∧ k ≤ n ∧
      toM n n U * toM n m A = toM n m W ∧ IsUnit (toM n n U).det ∧
      (∀ r < k, ∀ c < m, ent W r c = 0) ∧ IsHNF H m pv := by
  obtain ⟨s, hout, rfl, rfl, hI, hk⟩ := hnfWithU_some hr hn hres
  have e : n - 1 + 1 = n := Nat.sub_add_cancel hn
  obtain ⟨pv, hz2, hb2⟩ := outer_shape m ⟨A, idMat n⟩ s (n - 1) k [] (Nat.sub_lt hn Nat.one_pos) hm (le_refl m) hr
    (fun r _ col hc hm => absurd hm (Nat.not_lt.mpr hc))
    ⟨by rw [e, Nat.sub_self]; rfl, le_of_eq e, List.Pairwise.nil, fun p hp => absurd hp List.not_mem_nil,
      fun t ht => absurd ht (Nat.not_lt_zero t)⟩ hout
  exact ⟨s.a, pv, hI.ra, hI.ru, rfl, hk, hI.ua, hI.det, fun r hrk col hc => hz2 r hrk col (Nat.zero_le _) hc,
    hb2.isHNF hI.ra.1⟩

end NTV.Hnf
