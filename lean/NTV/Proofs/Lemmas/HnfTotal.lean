import NTV.Proofs.Lemmas.HnfShape
/-! The fuel of the model never runs out: a pass of the inner loop that does not stop lowers `colAbsSum`. -/
namespace NTV.Hnf

theorem inner_step_decreases {n m : Nat} (s : St) (hr : Rect n m s.a) (k i : Nat) (hk : k < n)
    (hnz : allZeroAbove s.a k i = false) :
    colAbsSum (reduceAbove (s.swap (pickPivot s.a k i) k) k i).a k i < colAbsSum s.a k i := by
  obtain ⟨jn, hjn, hjne⟩ : ∃ j < k, ent s.a j i ≠ 0 := by
    by_contra hcon
    simp only [not_exists, not_and, not_not] at hcon
    rw [(allZeroAbove_iff s.a k i).mpr hcon] at hnz
    exact absurd hnz (by simp)
  obtain ⟨hp0, hp1, hp2⟩ : pickPivot s.a k i ≤ k ∧ ent s.a (pickPivot s.a k i) i ≠ 0 ∧ _ :=
    (pickPivot_cases s.a k i).resolve_left fun h => hjne (h.2 jn (le_of_lt hjn))
  generalize pickPivot s.a k i = j0 at hp0 hp1 hp2
  have hk' : k < s.a.length := by rw [hr.1]; exact hk
  have hsw : ∀ r c, ent (s.swap j0 k).a r c = if r = k then ent s.a j0 c else if r = j0 then ent s.a k c else ent s.a r c :=
    fun r c => ent_swapRows _ _ _ _ _ (lt_of_le_of_lt hp0 hk') hk'
  obtain ⟨_, he⟩ := reduceAbove_ent (s.swap j0 k) (hr.swapRows j0 k (lt_of_le_of_lt hp0 hk) hk) k i hk
  -- every row above `k` is replaced by its remainder modulo the pivot `b = ent s.a j0 i`, whose absolute value
  -- is below `|b|`, the least non-zero absolute value in the column; zero entries stay zero
  have hnew : ∀ r < k, (ent s.a r i = 0 → ent (reduceAbove (s.swap j0 k) k i).a r i = 0) ∧
      (ent s.a r i ≠ 0 → (ent (reduceAbove (s.swap j0 k) k i).a r i).natAbs < (ent s.a r i).natAbs) := by
    intro r hrk
    rw [he r i, if_pos hrk, hsw k i, if_pos rfl, hsw r i, if_neg (ne_of_lt hrk)]
    have hrem := fun y => floorDiv_rem_abs y (ent s.a j0 i) hp1
    by_cases hrj : r = j0
    · subst hrj
      rw [if_pos rfl]
      exact ⟨fun h => absurd h hp1, fun _ => hrem _⟩
    · rw [if_neg hrj]
      refine ⟨fun h => ?_, fun h => lt_of_lt_of_le (hrem _) (hp2 r (le_of_lt hrk) h)⟩
      rw [h, floorDiv_zero _ hp1, Int.mul_zero, Int.sub_zero]
  refine List.sum_lt_sum _ _ (fun r hr' => ?_) ⟨jn, List.mem_range.mpr hjn, (hnew jn hjn).2 hjne⟩
  obtain ⟨h0, h1⟩ := hnew r (List.mem_range.mp hr')
  by_cases hz : ent s.a r i = 0
  · rw [h0 hz]; exact Nat.zero_le _
  · exact le_of_lt (h1 hz)

theorem inner_total {n m : Nat} (fuel : Nat) (s : St) (hr : Rect n m s.a) (k i : Nat) (hk : k < n)
    (hf : colAbsSum s.a k i < fuel) : (inner fuel s k i).isSome := by
  induction fuel generalizing s with
  | zero => exact absurd hf (Nat.not_lt_zero _)
  | succ f ih =>
    unfold inner
    split
    · rfl
    · rename_i hnz
      have hdec := inner_step_decreases s hr k i hk (Bool.eq_false_iff.mpr hnz)
      have hr1 := hr.swapRows _ k (lt_of_le_of_lt (pickPivot_le s.a k i) hk) hk
      exact ih _ (reduceAbove_ent _ hr1 k i hk).1 (lt_of_lt_of_le hdec (Nat.le_of_lt_succ hf))

theorem stepCol_total {n m : Nat} (s : St) (hr : Rect n m s.a) (k i : Nat) (hk : k < n) :
    ∃ s' k', stepCol n s k i = some (s', k') := by
  unfold stepCol
  obtain ⟨s1, hs1⟩ := Option.isSome_iff_exists.mp
    (inner_total (n := n) (m := m) (colAbsSum s.a k i + 1) s hr k i hk (Nat.lt_succ_self _))
  rw [hs1]
  exact ⟨_, _, rfl⟩

theorem outer_total {n m A0} (c : Nat) (s : St) (h : Inv n m A0 s) (k : Nat) (hk : k < n) :
    ∃ s' k', outer n c s k = some (s', k') := by
  induction c generalizing s k with
  | zero => exact ⟨s, k, rfl⟩
  | succ c ih =>
    unfold outer
    obtain ⟨s2, k2, h2⟩ := stepCol_total s h.ra k c hk
    rw [h2]
    simp only
    split
    · exact ⟨_, _, rfl⟩
    · exact ih s2 (stepCol_Inv _ _ _ _ _ hk h h2) (k2 - 1) (pred_lt_of_stepCol hk (stepCol_le h2))

/-- Termination of the model of `hnf_with_u`: the fuel never runs out. -/
theorem hnfWithU_total (A : Mat) (n m : Nat) (hr : Rect n m A) : (hnfWithU A).isSome := by
  rcases Nat.eq_zero_or_pos n with rfl | hn
  · rw [List.length_eq_zero_iff.mp hr.1]; rfl
  · obtain ⟨s', k', h⟩ := outer_total m ⟨A, idMat n⟩ (Inv.init hr) (n - 1) (Nat.sub_lt hn Nat.one_pos)
    rw [hnfWithU_eq hr hn, h]; rfl

end NTV.Hnf
