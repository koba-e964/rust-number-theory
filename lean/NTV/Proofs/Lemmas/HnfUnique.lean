import Mathlib.Data.List.Sort
import Mathlib.Algebra.BigOperators.Group.Finset.Basic
import Mathlib.Algebra.Order.BigOperators.Group.Finset
import Mathlib.Tactic
/-! Uniqueness of the Hermite normal form of a lattice, for rows given as functions `ℕ → ℤ` and a list of pivot
columns (`HnfF`): independent of the list-matrix model, which enters through `IsHNF.toF`. -/
open Finset
namespace NTV.HnfU

/-- HNF shape for a family of rows `h s : ℕ → ℤ` (s < pv.length), columns `< m`. -/
structure HnfF (h : ℕ → ℕ → ℤ) (m : ℕ) (pv : List ℕ) : Prop where
  incr : pv.Pairwise (· < ·)
  lt : ∀ p ∈ pv, p < m
  pos : ∀ s (hs : s < pv.length), 0 < h s pv[s]
  last : ∀ s (hs : s < pv.length), ∀ col, pv[s] < col → col < m → h s col = 0
  below : ∀ s (hs : s < pv.length), ∀ s', s < s' → s' < pv.length →
            0 ≤ h s' pv[s] ∧ h s' pv[s] < h s pv[s]

theorem HnfF.pv_lt {h m pv} (H : HnfF h m pv) {s s' : ℕ} (hs' : s' < pv.length) (h1 : s < s') :
    pv[s]'(lt_trans h1 hs') < pv[s'] :=
  List.pairwise_iff_getElem.mp H.incr s s' (lt_trans h1 hs') hs' h1

theorem exists_last_ne_zero (c : ℕ → ℤ) (T : ℕ) (hex : ∃ s < T, c s ≠ 0) :
    ∃ s, s < T ∧ c s ≠ 0 ∧ ∀ s', s < s' → s' < T → c s' = 0 := by
  induction T with
  | zero => obtain ⟨s, hs, _⟩ := hex; exact absurd hs (Nat.not_lt_zero s)
  | succ T ih =>
    by_cases hT : c T = 0
    · obtain ⟨s, hs, hne⟩ := hex
      obtain ⟨s0, h1, h2, h3⟩ :=
        ih ⟨s, lt_of_le_of_ne (Nat.le_of_lt_succ hs) (fun e => hne (e ▸ hT)), hne⟩
      refine ⟨s0, Nat.lt_succ_of_lt h1, h2, fun s' hs' hlt => ?_⟩
      rcases Nat.eq_or_lt_of_le (Nat.le_of_lt_succ hlt) with rfl | h
      · exact hT
      · exact h3 s' hs' h
    · exact ⟨T, Nat.lt_succ_self T, hT, fun s' h1 h2 => absurd h1 (Nat.not_lt.mpr (Nat.le_of_lt_succ h2))⟩

theorem sum_at_pivot {h m pv} (H : HnfF h m pv) (c : ℕ → ℤ) (s0 : ℕ) (hs : s0 < pv.length)
    (hmax : ∀ s, s0 < s → s < pv.length → c s = 0) :
    (∑ s ∈ range pv.length, c s * h s pv[s0]) = c s0 * h s0 pv[s0] ∧
    ∀ col, pv[s0] < col → col < m → (∑ s ∈ range pv.length, c s * h s col) = 0 := by
  constructor
  · rw [Finset.sum_eq_single s0]
    · intro s hsr hne
      have hsT : s < pv.length := Finset.mem_range.mp hsr
      rcases Nat.lt_or_gt_of_ne hne with hlt | hgt
      · rw [H.last s hsT pv[s0] (H.pv_lt hs hlt) (H.lt _ (List.getElem_mem hs)), Int.mul_zero]
      · rw [hmax s hgt hsT, Int.zero_mul]
    · exact fun hn => absurd (Finset.mem_range.mpr hs) hn
  · intro col hc hm
    apply Finset.sum_eq_zero
    intro s hsr
    have hsT : s < pv.length := Finset.mem_range.mp hsr
    rcases Nat.lt_or_ge s0 s with hgt | hle
    · rw [hmax s hgt hsT, Int.zero_mul]
    · have hp : pv[s] ≤ pv[s0] := by
        rcases Nat.eq_or_lt_of_le hle with e | hlt
        · subst e; exact le_refl _
        · exact le_of_lt (H.pv_lt hs hlt)
      rw [H.last s hsT col (lt_of_le_of_lt hp hc) hm, Int.mul_zero]

/-- A lattice vector with last non-zero entry at column `p` is led by the row whose pivot is `p`. -/
theorem pivot_match {h m pv} (H : HnfF h m pv) (v : ℕ → ℤ) (c : ℕ → ℤ)
    (hv : ∀ col < m, v col = ∑ s ∈ range pv.length, c s * h s col)
    (p : ℕ) (hp : p < m) (hvp : v p ≠ 0) (hvlast : ∀ col, p < col → col < m → v col = 0) :
    ∃ s0, ∃ hs : s0 < pv.length, pv[s0] = p ∧ v p = c s0 * h s0 p ∧
      ∀ s, s0 < s → s < pv.length → c s = 0 := by
  have hex : ∃ s < pv.length, c s ≠ 0 := by
    by_contra hcon
    refine hvp ((hv p hp).trans (Finset.sum_eq_zero fun s hs => ?_))
    rw [not_not.mp fun hne => hcon ⟨s, Finset.mem_range.mp hs, hne⟩, Int.zero_mul]
  obtain ⟨s0, hs, hne, hmax⟩ := exists_last_ne_zero c pv.length hex
  obtain ⟨t1, t2⟩ := sum_at_pivot H c s0 hs hmax
  have hpm := H.lt _ (List.getElem_mem hs)
  have hval : v pv[s0] = c s0 * h s0 pv[s0] := (hv _ hpm).trans t1
  have heq : pv[s0] = p := by
    rcases Nat.lt_trichotomy pv[s0] p with hlt | heq | hgt
    · exact absurd ((hv p hp).trans (t2 p hlt hp)) hvp
    · exact heq
    · exact absurd (hval.symm.trans (hvlast _ hgt hpm)) (Int.mul_ne_zero hne (ne_of_gt (H.pos s0 hs)))
  exact ⟨s0, hs, heq, heq ▸ hval, hmax⟩

theorem mem_of_span {h1 h2 m pv1 pv2} (H1 : HnfF h1 m pv1) (H2 : HnfF h2 m pv2)
    (h12 : ∀ r < pv2.length, ∃ c : ℕ → ℤ, ∀ col < m, h2 r col = ∑ s ∈ range pv1.length, c s * h1 s col) :
    ∀ p, p ∈ pv2 → p ∈ pv1 := by
  intro p hp
  obtain ⟨r, hr, rfl⟩ := List.mem_iff_getElem.mp hp
  obtain ⟨c, hc⟩ := h12 r hr
  obtain ⟨s0, hs, heq, _, _⟩ := pivot_match H1 (h2 r) c hc pv2[r] (H2.lt _ hp)
    (ne_of_gt (H2.pos r hr)) (H2.last r hr)
  rw [← heq]; exact List.getElem_mem hs

theorem lead_one {h1 h2 m pv} (H1 : HnfF h1 m pv) (H2 : HnfF h2 m pv)
    (h12 : ∀ r < pv.length, ∃ c : ℕ → ℤ, ∀ col < m, h2 r col = ∑ s ∈ range pv.length, c s * h1 s col)
    (h21 : ∀ r < pv.length, ∃ c : ℕ → ℤ, ∀ col < m, h1 r col = ∑ s ∈ range pv.length, c s * h2 s col)
    (r : ℕ) (hr : r < pv.length) :
    h1 r pv[r] = h2 r pv[r] ∧
    ∃ c : ℕ → ℤ, (∀ col < m, h2 r col = ∑ s ∈ range pv.length, c s * h1 s col) ∧ c r = 1 ∧
      ∀ s, r < s → s < pv.length → c s = 0 := by
  have hpm := H1.lt _ (List.getElem_mem hr)
  have inj : ∀ s0 (hs : s0 < pv.length), pv[s0] = pv[r] → s0 = r := fun s0 hs he =>
    (List.Nodup.getElem_inj_iff (H1.incr.imp ne_of_lt)).mp he
  obtain ⟨c, hc⟩ := h12 r hr
  obtain ⟨s0, hs, heq, hval, hmax⟩ := pivot_match H1 (h2 r) c hc pv[r] hpm
    (ne_of_gt (H2.pos r hr)) (H2.last r hr)
  obtain rfl := inj s0 hs heq
  obtain ⟨c', hc'⟩ := h21 s0 hr
  obtain ⟨s1, hs1, heq1, hval1, _⟩ := pivot_match H2 (h1 s0) c' hc' pv[s0] hpm
    (ne_of_gt (H1.pos s0 hr)) (H1.last s0 hr)
  obtain rfl := inj s1 hs1 heq1
  -- the two pivots are positive and divide each other
  have hd : h1 s1 pv[s1] = h2 s1 pv[s1] := Int.dvd_antisymm (le_of_lt (H1.pos s1 hr)) (le_of_lt (H2.pos s1 hr))
    (Dvd.intro_left _ hval.symm) (Dvd.intro_left _ hval1.symm)
  exact ⟨hd, c, hc, Int.eq_one_of_mul_eq_self_left (ne_of_gt (H1.pos s1 hr)) (hval.symm.trans hd.symm), hmax⟩

theorem coeff_zero_of_reduced {x y d c : ℤ} (hx : 0 ≤ x ∧ x < d) (hy : 0 ≤ y ∧ y < d) (h : y - x = c * d) : c = 0 := by
  have h0 : y - x = 0 :=
    Int.eq_zero_of_abs_lt_dvd (Dvd.intro_left c h.symm) (abs_sub_lt_iff.mpr
      ⟨(sub_le_self y hx.1).trans_lt hy.2, (sub_le_self x hy.1).trans_lt hx.2⟩)
  exact (Int.mul_eq_zero.mp (h.symm.trans h0)).resolve_right (ne_of_gt (lt_of_le_of_lt hx.1 hx.2))

theorem hnf_unique_F {h1 h2 m pv1 pv2} (H1 : HnfF h1 m pv1) (H2 : HnfF h2 m pv2)
    (h12 : ∀ r < pv2.length, ∃ c : ℕ → ℤ, ∀ col < m, h2 r col = ∑ s ∈ range pv1.length, c s * h1 s col)
    (h21 : ∀ r < pv1.length, ∃ c : ℕ → ℤ, ∀ col < m, h1 r col = ∑ s ∈ range pv2.length, c s * h2 s col) :
    pv1 = pv2 ∧ ∀ r < pv1.length, ∀ col < m, h1 r col = h2 r col := by
  obtain rfl : pv1 = pv2 := List.Pairwise.eq_of_mem_iff H1.incr H2.incr
    (fun p => ⟨mem_of_span H2 H1 h21 p, mem_of_span H1 H2 h12 p⟩)
  refine ⟨rfl, fun r hr => ?_⟩
  obtain ⟨_, c, hc, hc1, hmax⟩ := lead_one H1 H2 h12 h21 r hr
  let c2 : ℕ → ℤ := fun s => c s - if r = s then 1 else 0
  have hdiff : ∀ col < m, h2 r col - h1 r col = ∑ s ∈ range pv1.length, c2 s * h1 s col := by
    intro col hcol
    simp only [c2, hc col hcol, sub_mul, ite_mul, one_mul, Int.zero_mul, Finset.sum_sub_distrib, Finset.sum_ite_eq,
      Finset.mem_range, hr, if_true]
  have hzero_hi : ∀ s, r ≤ s → s < pv1.length → c2 s = 0 := by
    intro s hs hT
    rcases Nat.eq_or_lt_of_le hs with rfl | hlt
    · simp only [c2, hc1, if_true, Int.sub_self]
    · simp only [c2, hmax s hlt hT, if_neg (ne_of_lt hlt), Int.sub_self]
  have hall : ∀ s < pv1.length, c2 s = 0 := by
    by_contra hcon
    simp only [not_forall] at hcon
    obtain ⟨s, hs, hne⟩ := hcon
    -- the highest row `s0 < r` that occurs: at its pivot column both entries of row `r` lie in `[0, d)`,
    -- but they differ by a non-zero multiple of the pivot `d`
    obtain ⟨s0, hs0, hne0, hmax0⟩ := exists_last_ne_zero c2 pv1.length ⟨s, hs, hne⟩
    have hs0r : s0 < r := Nat.lt_of_not_le fun hge => hne0 (hzero_hi s0 hge hs0)
    have hd := hdiff pv1[s0] (H1.lt _ (List.getElem_mem hs0))
    rw [(sum_at_pivot H1 c2 s0 hs0 hmax0).1] at hd
    obtain ⟨hpe, _⟩ := lead_one H1 H2 h12 h21 s0 hs0
    exact hne0 (coeff_zero_of_reduced (H1.below s0 hs0 r hs0r hr) (hpe ▸ H2.below s0 hs0 r hs0r hr) hd)
  intro col hcol
  have := hdiff col hcol
  rw [Finset.sum_eq_zero fun s hs => by rw [hall s (Finset.mem_range.mp hs), Int.zero_mul]] at this
  exact (sub_eq_zero.mp this).symm

end NTV.HnfU
