import Mathlib.LinearAlgebra.Matrix.Nondegenerate
import Mathlib.LinearAlgebra.Matrix.Adjugate
/-! # `Ideal::inv`, part A: the linear algebra of exact right division by a non-singular integer matrix. -/
open Matrix
namespace NTV.IdealInv

variable {n : ℕ}

/-- `h` is the whole idea: a vector whose image under `M` is divisible by `s·m` is divisible by `s`; it is applied to
the rows of `m · adj M` with `s = det M` -/
theorem exists_quotient_of_divisibility (M : Matrix (Fin n) (Fin n) ℤ) (m : ℤ) (hdet : M.det ≠ 0)
    (h : ∀ (u : Fin n → ℤ) (s : ℤ), s ≠ 0 → (∀ j, s * m ∣ (u ᵥ* M) j) → ∀ i, s ∣ u i) :
    ∃ D : Matrix (Fin n) (Fin n) ℤ, D * M = m • (1 : Matrix (Fin n) (Fin n) ℤ) := by
  set s := M.det with hs
  set U : Matrix (Fin n) (Fin n) ℤ := m • adjugate M with hU
  have hUM : U * M = (s * m) • (1 : Matrix (Fin n) (Fin n) ℤ) := by
    rw [hU, Matrix.smul_mul, adjugate_mul, smul_smul, mul_comm]
  have hdiv : ∀ r i, s ∣ U r i := by
    intro r
    apply h (U r) s hdet
    intro j
    have : (U r ᵥ* M) j = (U * M) r j := rfl
    rw [this, hUM]
    by_cases hrj : r = j
    · simp [hrj]
    · simp [hrj]
  choose D hD using hdiv
  refine ⟨Matrix.of D, ?_⟩
  have hsD : s • Matrix.of D = U := by
    ext r i
    simp only [Matrix.smul_apply, Matrix.of_apply, smul_eq_mul]
    exact (hD r i).symm
  have : s • (Matrix.of D * M) = s • (m • (1 : Matrix (Fin n) (Fin n) ℤ)) := by
    rw [← Matrix.smul_mul, hsD, hUM, smul_smul]
  ext r i
  have e := congrFun (congrFun this r) i
  simp only [Matrix.smul_apply, smul_eq_mul] at e
  simpa using mul_left_cancel₀ hdet e

theorem rowspan_quotient_iff (M D : Matrix (Fin n) (Fin n) ℤ) (m : ℤ) (hdet : M.det ≠ 0)
    (hD : D * M = m • (1 : Matrix (Fin n) (Fin n) ℤ)) (v : Fin n → ℤ) :
    (∃ k : Fin n → ℤ, k ᵥ* D = v) ↔ ∀ j, m ∣ (v ᵥ* M) j := by
  constructor
  · rintro ⟨k, rfl⟩ j
    rw [vecMul_vecMul, hD, vecMul_smul, vecMul_one]
    exact ⟨k j, by simp⟩
  · intro h
    choose k hk using h
    refine ⟨k, ?_⟩
    have h0 : (k ᵥ* D - v) ᵥ* M = 0 := by
      rw [sub_vecMul, vecMul_vecMul, hD, vecMul_smul, vecMul_one]
      funext j
      simp [hk j]
    have := eq_zero_of_vecMul_eq_zero hdet h0
    exact sub_eq_zero.mp this

theorem det_ne_zero_of_mul_eq_smul_one (M D : Matrix (Fin n) (Fin n) ℤ) (m : ℤ) (hm : m ≠ 0)
    (hD : D * M = m • (1 : Matrix (Fin n) (Fin n) ℤ)) : D.det ≠ 0 := by
  intro h0
  have := congrArg Matrix.det hD
  rw [det_mul, h0, zero_mul, det_smul, det_one, mul_one] at this
  exact pow_ne_zero _ hm this.symm

end NTV.IdealInv
