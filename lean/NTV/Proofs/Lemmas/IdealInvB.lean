import NTV.Proofs.Lemmas.IdealInvA
import NTV.Proofs.Lemmas.IdealProofsC
import NTV.Proofs.Lemmas.IdealProofsD
import NTV.Proofs.Lemmas.InvDiffA
/-! # `Ideal::inv`, part B: the trace form of a table ring and the lattices met by `inv`.

`tau t n x = Σ_k x_k · Σ_l t[l][k][l]` is what `MultTable::trace` computes (the trace of the regular
representation, C14); `trForm t n v w = tau (v ⋆ w)` is the trace form, with Gram matrix `traceMatrix t n`.
`DualData t n d H` collects what is used of the output `(d, H)` of `get_inv_diff`: `L(H)` is the row lattice of an
integer matrix `S` with `S · Tr = d · 1`. -/
open Matrix
namespace NTV.IdealInv
open NTV.IdealP NTV.Hnf NTV.Ord Finset
-- `star` also exists at the root (`Star.star`); as an alias in this namespace the table product is found first, so that
-- the elaborator does not try (and fail) the other reading at every occurrence
export NTV.IdealP (star)
open NTV.InvDiff (traceMatrix trEnt)

def tauVec (t : Table) (n : Nat) : Fin n → ℤ := fun k => ∑ l : Fin n, tent t l.val k.val l.val

/-- the trace functional `MultTable::trace` -/
def tau (t : Table) (n : Nat) (x : Fin n → ℤ) : ℤ := x ⬝ᵥ tauVec t n

def trForm (t : Table) (n : Nat) (v w : Fin n → ℤ) : ℤ := tau t n (star t n v w)

theorem ttrace_eq_tau {t : Table} {n : Nat} {a : List Int} (ht : t.length = n) (ha : a.length = n) :
    ttrace t a = .ok (tau t n (vec n a)) := by
  rw [ttrace_eq t a ht (by omega)]
  congr 1
  simp only [tau, tauVec, dotProduct, Finset.mul_sum]
  rfl

theorem tau_add (t : Table) (n : Nat) (x y : Fin n → ℤ) : tau t n (x + y) = tau t n x + tau t n y := by
  unfold tau
  rw [add_dotProduct]

theorem tau_smul (t : Table) (n : Nat) (c : ℤ) (x : Fin n → ℤ) : tau t n (c • x) = c * tau t n x := by
  rw [tau, smul_dotProduct, smul_eq_mul]; rfl

def tauL (t : Table) (n : Nat) : (Fin n → ℤ) →ₗ[ℤ] ℤ where
  toFun := tau t n
  map_add' := tau_add t n
  map_smul' := fun c x => by rw [tau_smul]; rfl

@[simp] theorem tauL_apply (t : Table) (n : Nat) (x : Fin n → ℤ) : tauL t n x = tau t n x := rfl

theorem traceMatrix_eq_trForm (t : Table) (n : Nat) (i j : Fin n) :
    traceMatrix t n i j = trForm t n (e n i) (e n j) := by
  simp only [traceMatrix, trEnt, trForm, tau, tauVec, dotProduct, star_e_e, Finset.mul_sum]

theorem trForm_eq_matrix (t : Table) (n : Nat) (v w : Fin n → ℤ) :
    trForm t n v w = (v ᵥ* traceMatrix t n) ⬝ᵥ w := by
  have h1 : trForm t n v w = ∑ i, v i * ∑ j, w j * traceMatrix t n i j := by
    unfold trForm
    rw [star_sum_e_left, ← tauL_apply, map_sum]
    refine Finset.sum_congr rfl (fun i _ => ?_)
    rw [map_smul, star_sum_e_right, map_sum, smul_eq_mul]
    congr 1
    refine Finset.sum_congr rfl (fun j _ => ?_)
    rw [map_smul, smul_eq_mul, tauL_apply, traceMatrix_eq_trForm]
    rfl
  rw [h1]
  simp only [dotProduct, vecMul, Finset.mul_sum, Finset.sum_mul]
  rw [Finset.sum_comm]
  refine Finset.sum_congr rfl (fun j _ => Finset.sum_congr rfl (fun i _ => by ring))

theorem trForm_add_right (t : Table) (n : Nat) (v w w' : Fin n → ℤ) :
    trForm t n v (w + w') = trForm t n v w + trForm t n v w' := by
  simp only [trForm_eq_matrix, dotProduct_add]

theorem trForm_smul_right (t : Table) (n : Nat) (c : ℤ) (v w : Fin n → ℤ) :
    trForm t n v (c • w) = c * trForm t n v w := by
  simp only [trForm_eq_matrix, dotProduct_smul, smul_eq_mul]

theorem trForm_smul_left (t : Table) (n : Nat) (c : ℤ) (v w : Fin n → ℤ) :
    trForm t n (c • v) w = c * trForm t n v w := by
  unfold trForm
  rw [star_smul_left, tau_smul]

theorem trForm_zero_right (t : Table) (n : Nat) (v : Fin n → ℤ) : trForm t n v 0 = 0 := by
  rw [trForm_eq_matrix, dotProduct_zero]

section ring
variable {t : Table} {n : Nat} (T : TableRing t n)
include T

theorem trForm_comm (v w : Fin n → ℤ) : trForm t n v w = trForm t n w v := by
  unfold trForm; rw [T.star_comm]

theorem trForm_assoc (u x h : Fin n → ℤ) : trForm t n (star t n u x) h = trForm t n u (star t n x h) := by
  unfold trForm; rw [T.star_assoc]

end ring

/-- what is used of the inverse different `(d, H)` -/
structure DualData (t : Table) (n : Nat) (d : ℤ) (H : Mat) : Prop where
  dpos : 0 < d
  len : H.length = n
  wid : Wid n H
  ex : ∃ S : Matrix (Fin n) (Fin n) ℤ, S * traceMatrix t n = d • (1 : Matrix (Fin n) (Fin n) ℤ) ∧
    ∀ v, v ∈ Lat n H ↔ ∃ k : Fin n → ℤ, k ᵥ* S = v

theorem hnf_toM_eq_rowOps_toM (n m : Nat) (A : Mat) : NTV.Hnf.toM n m A = NTV.RowOps.toM n m A := rfl

theorem dualData_of_getInvDiff {t : Table} {n : Nat} (hs : NTV.InvDiff.Shape t n) (hn : 0 < n) {d : ℤ} {H : Mat}
    (h : NTV.Ideal.getInvDiff t = .ok (d, H)) : DualData t n d H := by
  have hdet : (traceMatrix t n).det ≠ 0 := by
    intro h0
    rw [NTV.InvDiff.getInvDiff_singular t n hs h0] at h
    cases h
  obtain ⟨B, H', _, _, _, h1, hpos, hlen, hwid, _, hST, hLat⟩ :=
    NTV.InvDiff.getInvDiff_nonsingular t n hs hn hdet
  rw [h1] at h
  cases h
  refine ⟨hpos, hlen, hwid, NTV.Hnf.toM n n (scaled B n), hST, fun v => ?_⟩
  rw [hLat, mem_Lat_iff (n := n) (scaled_rect B n).1]
  rfl

namespace DualData
variable {t : Table} {n : Nat} {d : ℤ} {H : Mat}

theorem det_trace_ne_zero (D : DualData t n d H) : (traceMatrix t n).det ≠ 0 := by
  obtain ⟨S, hS, _⟩ := D.ex
  intro h0
  have := congrArg Matrix.det hS
  rw [det_mul, h0, mul_zero, det_smul, det_one, mul_one] at this
  exact pow_ne_zero _ (ne_of_gt D.dpos) this.symm

theorem mem_iff (D : DualData t n d H) (h : Fin n → ℤ) :
    h ∈ Lat n H ↔ ∀ j, d ∣ (h ᵥ* traceMatrix t n) j := by
  obtain ⟨S, hS, hH⟩ := D.ex
  rw [hH]
  exact rowspan_quotient_iff (traceMatrix t n) S d D.det_trace_ne_zero hS h

theorem smul_mem (D : DualData t n d H) (y : Fin n → ℤ) : d • y ∈ Lat n H := by
  rw [D.mem_iff]
  intro j
  rw [smul_vecMul]
  exact ⟨_, rfl⟩

end DualData

end NTV.IdealInv
