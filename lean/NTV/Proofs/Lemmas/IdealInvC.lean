import NTV.Proofs.Lemmas.IdealInvB
import NTV.Proofs.Lemmas.IdealNormA
/-! # `Ideal::inv`, part C: the lattice computed by `inv`.

With `C = I · H` (H the numerator of the inverse different, denominator d), `a·e_0 ∈ L(I)`, `a > 0`, and
`M = Tr · Cᵀ` (the matrix `tc` of the routine): `M` is non-singular, the integer quotient `(a·d) · M⁻¹` exists, and
its row lattice is the colon lattice `{v | v ⋆ L(I) ⊆ a·ℤⁿ}`, which is also the `a·d`-dual of `L(C)` under the trace
form. -/
open Matrix
namespace NTV.IdealInv
open NTV.IdealP NTV.Hnf NTV.Ord Finset
open NTV.InvDiff (traceMatrix)

variable {t : Table} {n : Nat} {d : ℤ} {H : Mat}

def dvdSub (t : Table) (n : Nat) (q : ℤ) (v : Fin n → ℤ) : Submodule ℤ (Fin n → ℤ) where
  carrier := {c | q ∣ trForm t n v c}
  add_mem' := by
    intro a b ha hb
    show q ∣ trForm t n v (a + b)
    rw [trForm_add_right]; exact dvd_add ha hb
  zero_mem' := by
    show q ∣ trForm t n v 0
    rw [trForm_zero_right]; exact dvd_zero _
  smul_mem' := by
    intro c x hx
    show q ∣ trForm t n v (c • x)
    rw [trForm_smul_right]; exact Dvd.dvd.mul_left hx c

theorem mem_dvdSub {q : ℤ} {v c : Fin n → ℤ} : c ∈ dvdSub t n q v ↔ q ∣ trForm t n v c := Iff.rfl

theorem trForm_rowS (T : TableRing t n) (S : Matrix (Fin n) (Fin n) ℤ)
    (hS : S * traceMatrix t n = d • (1 : Matrix (Fin n) (Fin n) ℤ)) (y k : Fin n → ℤ) :
    trForm t n y (k ᵥ* S) = d * (k ⬝ᵥ y) := by
  rw [trForm_comm T, trForm_eq_matrix, vecMul_vecMul, hS, vecMul_smul, vecMul_one, smul_dotProduct, smul_eq_mul]

theorem single_dot (i : Fin n) (y : Fin n → ℤ) : (Pi.single i 1 : Fin n → ℤ) ⬝ᵥ y = y i := by
  rw [single_dotProduct, one_mul]

theorem dvd_of_pairing (T : TableRing t n) (D : DualData t n d H) {L : Submodule ℤ (Fin n → ℤ)} {a : ℤ}
    (ha0 : a ≠ 0) (haL : a • e n ⟨0, T.pos⟩ ∈ L) (u : Fin n → ℤ) (s : ℤ)
    (h : ∀ c ∈ prodLat t n L (Lat n H), s * (a * d) ∣ trForm t n u c) (i : Fin n) : s ∣ u i := by
  obtain ⟨S, hS, hH⟩ := D.ex
  have hk : (Pi.single i 1 : Fin n → ℤ) ᵥ* S ∈ Lat n H := (hH _).mpr ⟨_, rfl⟩
  have hc := h _ (star_mem_prodLat haL hk)
  rw [star_smul_left, T.one_star, trForm_smul_right, trForm_rowS T S hS, single_dot] at hc
  have hd0 : d ≠ 0 := ne_of_gt D.dpos
  have : s * (a * d) ∣ u i * (a * d) := by
    have e : a * (d * u i) = u i * (a * d) := by ring
    rwa [e] at hc
  exact (mul_dvd_mul_iff_right (mul_ne_zero ha0 hd0)).mp this

theorem pairing_iff_colon (T : TableRing t n) (D : DualData t n d H) (L : Submodule ℤ (Fin n → ℤ)) {a : ℤ}
    (v : Fin n → ℤ) :
    (∀ c ∈ prodLat t n L (Lat n H), a * d ∣ trForm t n v c) ↔
      ∀ x ∈ L, ∃ y : Fin n → ℤ, star t n v x = a • y := by
  obtain ⟨S, hS, hH⟩ := D.ex
  have hd0 : d ≠ 0 := ne_of_gt D.dpos
  constructor
  · intro h x hx
    have : ∀ i : Fin n, a ∣ star t n v x i := by
      intro i
      have hk : (Pi.single i 1 : Fin n → ℤ) ᵥ* S ∈ Lat n H := (hH _).mpr ⟨_, rfl⟩
      have hc := h _ (star_mem_prodLat hx hk)
      rw [← trForm_assoc T, trForm_rowS T S hS, single_dot, mul_comm a d] at hc
      exact (mul_dvd_mul_iff_left hd0).mp hc
    choose y hy using this
    exact ⟨y, funext fun i => by rw [hy i]; rfl⟩
  · intro h
    have : prodLat t n L (Lat n H) ≤ dvdSub t n (a * d) v := by
      refine prodLat_le.mpr fun x hx w hw => ?_
      obtain ⟨y, hy⟩ := h x hx
      rw [mem_dvdSub, ← trForm_assoc T, hy, trForm_smul_left]
      apply mul_dvd_mul_left
      rw [trForm_comm T, trForm_eq_matrix]
      have hj := (D.mem_iff w).mp hw
      unfold dotProduct
      exact Finset.dvd_sum (fun j _ => Dvd.dvd.mul_right (hj j) _)
    exact fun c hc => this hc

theorem vecMul_tc (C : Mat) (u : Fin n → ℤ) (j : Fin n) :
    (u ᵥ* (traceMatrix t n * (toM n n C)ᵀ)) j = trForm t n u (toM n n C j) := by
  rw [← vecMul_vecMul, vecMul_transpose, trForm_eq_matrix]
  show toM n n C j ⬝ᵥ (u ᵥ* traceMatrix t n) = _
  rw [dotProduct_comm]

theorem forall_rows_iff {C : Mat} (hlen : C.length = n) (q : ℤ) (u : Fin n → ℤ) :
    (∀ j : Fin n, q ∣ trForm t n u (toM n n C j)) ↔ ∀ c ∈ Lat n C, q ∣ trForm t n u c := by
  constructor
  · intro h
    have : Lat n C ≤ dvdSub t n q u := by
      rw [Lat_le_iff]
      intro r hr
      obtain ⟨j, hj, rfl⟩ := List.mem_iff_getElem.mp hr
      have := h ⟨j, by omega⟩
      rw [toM_row, List.getD_eq_getElem?_getD, List.getElem?_eq_getElem hj, Option.getD_some] at this
      exact this
    exact fun c hc => this hc
  · intro h j
    apply h
    rw [toM_row]
    have hj : j.val < C.length := by rw [hlen]; exact j.isLt
    rw [List.getD_eq_getElem?_getD, List.getElem?_eq_getElem hj, Option.getD_some]
    exact row_mem_Lat (List.getElem_mem hj)

theorem inv_lattice_core (T : TableRing t n) (D : DualData t n d H) {I C : Mat} {pvC : List Nat} {a : ℤ}
    (ha : 0 < a) (haI : a • e n ⟨0, T.pos⟩ ∈ Lat n I)
    (hC : Lat n C = prodLat t n (Lat n I) (Lat n H)) (hWC : Wid n C) (hHC : IsHNF C n pvC) :
    C.length = n ∧ (traceMatrix t n * (toM n n C)ᵀ).det ≠ 0 ∧
    (∃ Dm : Matrix (Fin n) (Fin n) ℤ, Dm * (traceMatrix t n * (toM n n C)ᵀ) = (a * d) • (1 : Matrix (Fin n) (Fin n) ℤ)) ∧
    ∀ Dm : Matrix (Fin n) (Fin n) ℤ, Dm * (traceMatrix t n * (toM n n C)ᵀ) = (a * d) • (1 : Matrix (Fin n) (Fin n) ℤ) →
      ∀ v : Fin n → ℤ, ((∃ k : Fin n → ℤ, k ᵥ* Dm = v) ↔ ∀ c ∈ Lat n C, a * d ∣ trForm t n v c) ∧
        ((∃ k : Fin n → ℤ, k ᵥ* Dm = v) ↔ ∀ x ∈ Lat n I, ∃ y : Fin n → ℤ, star t n v x = a • y) := by
  have ha0 : a ≠ 0 := ne_of_gt ha
  have hd0 : d ≠ 0 := ne_of_gt D.dpos
  have hfull : C.length = n := by
    apply NTV.DecompP.full_rank hHC (a * d) (mul_ne_zero ha0 hd0)
    intro y
    have := star_mem_prodLat (t := t) haI (D.smul_mem y)
    rw [star_smul_left, T.one_star, smul_smul, ← hC] at this
    exact this
  have hdetC : (toM n n C).det ≠ 0 := ne_of_gt (hnf_square T.pos hWC hHC hfull).2
  have hdetM : (traceMatrix t n * (toM n n C)ᵀ).det ≠ 0 := by
    rw [det_mul, det_transpose]
    exact mul_ne_zero D.det_trace_ne_zero hdetC
  have hex : ∃ Dm : Matrix (Fin n) (Fin n) ℤ,
      Dm * (traceMatrix t n * (toM n n C)ᵀ) = (a * d) • (1 : Matrix (Fin n) (Fin n) ℤ) := by
    apply exists_quotient_of_divisibility _ _ hdetM
    intro u s _ hdiv i
    apply dvd_of_pairing T D ha0 haI u s _ i
    rw [← hC]
    apply (forall_rows_iff hfull _ u).mp
    intro j
    rw [← vecMul_tc]
    exact hdiv j
  refine ⟨hfull, hdetM, hex, ?_⟩
  intro Dm hDm v
  have h1 : (∃ k : Fin n → ℤ, k ᵥ* Dm = v) ↔ ∀ c ∈ Lat n C, a * d ∣ trForm t n v c := by
    rw [rowspan_quotient_iff _ Dm (a * d) hdetM hDm v, ← forall_rows_iff hfull]
    simp only [vecMul_tc]
  refine ⟨h1, ?_⟩
  rw [h1, hC]
  exact pairing_iff_colon T D (Lat n I) v

end NTV.IdealInv
