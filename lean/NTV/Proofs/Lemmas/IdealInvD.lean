import NTV.Proofs.Lemmas.IdealInvC
import NTV.Proofs.Lemmas.LinAlgProofs
/-! # `Ideal::inv`, part D: the model `NTV.Ideal.inv` step by step.

For a table ring with non-singular trace form, `(d, H)` the output of `get_inv_diff` and `I` a normal form with `n`
rows: no step of `inv` panics (the product `C = I·H` has `n` rows, the matrix `tc = Tr · Cᵀ` is non-singular, the
quotient `(a·d) · tc⁻¹` is integral) and the returned numerator `N` has the colon lattice
`{v | v ⋆ L(I) ⊆ a·ℤⁿ}`. -/
open Matrix
namespace NTV.IdealInv
open NTV.IdealP NTV.Hnf NTV.Ord Finset
open NTV.InvDiff (traceMatrix)
open NTV.Ideal (capZ mul getInvDiff)

/-- the matrix `tc` built by `inv`: `tc[ii][jj] = trace(ω_ii · c_jj)` -/
def tcList (t : Table) (n : Nat) (C : Mat) : Mat :=
  (List.range n).map (fun ii => (List.range n).map (fun jj =>
    tau t n (vec n (tmulV t (NTV.Ideal.unit n ii) (C.getD jj [])))))

/-- the matrix `ad` built by `inv`: `m` times the identity -/
def adList (n : Nat) (m : ℤ) : Mat :=
  (List.range n).map (fun ii => (List.range n).map (fun jj => if ii = jj then m else 0))

theorem tcList_rect (t : Table) (n : Nat) (C : Mat) : NTV.RowOps.Rect n n (tcList t n C) := by
  refine ⟨by simp [tcList], ?_⟩
  intro r hr
  simp only [tcList, List.mem_map, List.mem_range] at hr
  obtain ⟨i, _, rfl⟩ := hr
  simp

theorem adList_rect (n : Nat) (m : ℤ) : NTV.RowOps.Rect n n (adList n m) := by
  refine ⟨by simp [adList], ?_⟩
  intro r hr
  simp only [adList, List.mem_map, List.mem_range] at hr
  obtain ⟨i, _, rfl⟩ := hr
  simp

theorem toM_adList (n : Nat) (m : ℤ) :
    NTV.RowOps.toM n n (adList n m) = m • (1 : Matrix (Fin n) (Fin n) ℤ) := by
  ext i j
  simp only [NTV.RowOps.toM, NTV.RowOps.ent, adList, List.getD_eq_getElem?_getD, List.getElem?_map,
    List.getElem?_range i.isLt, List.getElem?_range j.isLt, Option.map_some, Option.getD_some,
    Matrix.smul_apply, Matrix.one_apply, smul_eq_mul]
  by_cases h : i = j
  · simp [h]
  · have : i.val ≠ j.val := fun h' => h (Fin.ext h')
    simp [h, this]

theorem toM_tcList {t : Table} {n : Nat} (C : Mat) :
    NTV.RowOps.toM n n (tcList t n C) = traceMatrix t n * (NTV.Hnf.toM n n C)ᵀ := by
  ext i j
  have h1 : NTV.RowOps.toM n n (tcList t n C) i j
      = tau t n (vec n (tmulV t (NTV.Ideal.unit n i.val) (C.getD j.val []))) := by
    simp only [NTV.RowOps.toM, NTV.RowOps.ent, tcList, List.getD_eq_getElem?_getD, List.getElem?_map,
      List.getElem?_range i.isLt, List.getElem?_range j.isLt, Option.map_some, Option.getD_some]
  rw [h1, vec_tmulV (unit_length n i.val), vec_unit, ← toM_row]
  have h2 := vecMul_tc (t := t) C (e n i) j
  rw [show e n i = Pi.single i 1 from rfl, single_one_vecMul] at h2
  exact h2.symm

theorem tc_ok {t : Table} {n : Nat} {C : Mat} (ht : t.length = n) (hW : Wid n C) (hlen : C.length = n) :
    (List.range n).mapM (fun ii => (List.range n).mapM (fun jj => do
      let cj ← NTV.Ord.idx C jj
      let prod ← NTV.Ord.tmul t (NTV.Ideal.unit n ii) cj
      NTV.Ord.ttrace t prod)) = .ok (tcList t n C) := by
  unfold tcList
  apply NTV.IdealP.mapM_ok
  intro ii _
  apply NTV.IdealP.mapM_ok
  intro jj hjj
  have hj : jj < C.length := by rw [hlen]; exact List.mem_range.mp hjj
  have hrow : (C[jj]).length = n := hW _ (List.getElem_mem hj)
  have hget : C.getD jj [] = C[jj] := by
    rw [List.getD_eq_getElem?_getD, List.getElem?_eq_getElem hj, Option.getD_some]
  rw [idx_ok C jj hj]
  simp only [bind, Except.bind]
  rw [IdealP.tmul_eq ht (unit_length n ii) hrow]
  simp only []
  rw [ttrace_eq_tau ht (by rw [tmulV_length, unit_length]), hget]

theorem mulInv_rect {A B C : NTV.LinAlg.IMat} {n : Nat} (hn : 0 < n) (hA : NTV.RowOps.Rect n n A)
    (hB : NTV.RowOps.Rect n n B) (h : NTV.LinAlg.mulInvFromRightExact A B = .ok C) : NTV.RowOps.Rect n n C := by
  rw [NTV.LinAlg.mulInv_unfold hn hA hB] at h
  split at h
  · cases h
  · rename_i invb _
    have hrs := NTV.LinAlg.rect_quotSums hA invb
    split at h
    · cases h
      refine ⟨(List.length_map ..).trans hrs.1, fun r hr => ?_⟩
      obtain ⟨r0, h0, rfl⟩ := List.mem_map.mp hr
      rw [List.length_map]
      exact hrs.2 r0 h0
    · cases h

theorem inv_ok_of {t : Table} {n : Nat} {I H C Dl N : Mat} {d a : ℤ} (ht : t.length = n) (hcap : capZ I = .ok a)
    (hmul : mul t I H = .ok C) (hW : Wid n C) (hlen : C.length = n)
    (hdiv : NTV.LinAlg.mulInvFromRightExact (adList n (a * d)) (tcList t n C) = .ok Dl)
    (hN : NTV.Ideal.hnfNew Dl = .ok N) : NTV.Ideal.inv t I (d, H) = .ok (a, N) := by
  have h := tc_ok ht hW hlen
  unfold NTV.Ideal.inv
  rw [ht]
  simp only [bind, Except.bind, pure, Except.pure] at h ⊢
  rw [hcap]
  simp only [hmul]
  rw [h]
  simp only []
  have : (List.map (fun ii => List.map (fun jj => if ii = jj then a * d else 0) (List.range n)) (List.range n))
      = adList n (a * d) := rfl
  rw [this, hdiv]
  simp only [hN]

theorem inv_spec {t : Table} {n : Nat} (T : TableRing t n) {d : ℤ} {H : Mat} (hD : getInvDiff t = .ok (d, H))
    {I₀ I : Mat} (hI₀ : Wid n I₀) (hnf : NTV.Ideal.hnfNew I₀ = .ok I) (hfull : I.length = n) :
    ∃ a C N, capZ I = .ok a ∧ 0 < a ∧ (∀ z : ℤ, z • e n ⟨0, T.pos⟩ ∈ Lat n I ↔ a ∣ z) ∧
      mul t I H = .ok C ∧ C.length = n ∧ Wid n C ∧
      NTV.Ideal.inv t I (d, H) = .ok (a, N) ∧ Wid n N ∧ N.length = n ∧ (∃ pv, IsHNF N n pv) ∧
      NTV.Ideal.hnfNew N = .ok N ∧
      (∀ v, v ∈ Lat n N ↔ ∀ c ∈ Lat n C, a * d ∣ trForm t n v c) ∧
      (∀ v, v ∈ Lat n N ↔ ∀ x ∈ Lat n I, ∃ y : Fin n → ℤ, star t n v x = a • y) := by
  have D : DualData t n d H := dualData_of_getInvDiff ⟨T.len, T.shape⟩ T.pos hD
  obtain ⟨hWI, ⟨pvI, hHI⟩, _⟩ := ideal_hnfNew_spec hI₀ T.pos hnf
  obtain ⟨a, hcap, hapos, haz⟩ := capZ_core T.pos hWI hHI hfull
  have haI : a • e n ⟨0, T.pos⟩ ∈ Lat n I := (haz a).mpr (dvd_refl a)
  obtain ⟨C, hmul, hWC, ⟨pvC, hHC⟩, hLC⟩ := mul_total T.len T.pos hWI D.wid
  obtain ⟨hlenC, hdetM, ⟨Dm₀, hDm₀⟩, hall⟩ := inv_lattice_core T D hapos haI hLC hWC hHC
  have hn := T.pos
  have hrA := adList_rect n (a * d)
  have hrB := tcList_rect t n C
  obtain ⟨hok, herr⟩ := NTV.LinAlg.mulInv_spec (adList n (a * d)) (tcList t n C) n hn hrA hrB
  have hBm : NTV.LinAlg.toMZ n (tcList t n C) = traceMatrix t n * (NTV.Hnf.toM n n C)ᵀ := toM_tcList C
  have hAm : NTV.LinAlg.toMZ n (adList n (a * d)) = (a * d) • (1 : Matrix (Fin n) (Fin n) ℤ) := toM_adList n _
  cases hdiv : NTV.LinAlg.mulInvFromRightExact (adList n (a * d)) (tcList t n C) with
  | error e =>
    rcases herr e hdiv with ⟨_, h0⟩ | ⟨_, hno⟩
    · rw [hBm] at h0; exact absurd h0 hdetM
    · exact absurd ⟨Dm₀, by rw [hBm, hAm]; exact hDm₀⟩ hno
  | ok Dl =>
    have hDl := hok Dl hdiv
    rw [hBm, hAm] at hDl
    have hrD : NTV.RowOps.Rect n n Dl := mulInv_rect hn hrA hrB hdiv
    have hWD : Wid n Dl := hrD.2
    obtain ⟨N, pvN, hN, hWN, hHN, hLN⟩ := ideal_hnfNew_total hWD hn
    have hdetD : (NTV.Hnf.toM n n Dl).det ≠ 0 :=
      det_ne_zero_of_mul_eq_smul_one _ _ (a * d) (mul_ne_zero (ne_of_gt hapos) (ne_of_gt D.dpos)) hDl
    have hNlen : N.length = n := (hnfNew_square ⟨hrD.1, hrD.2⟩ hn hdetD (ideal_hnfNew_ok.mp hN)).1
    have hmem : ∀ v, v ∈ Lat n N ↔ ∃ k : Fin n → ℤ, k ᵥ* NTV.Hnf.toM n n Dl = v := by
      intro v
      rw [hLN, mem_Lat_iff (n := n) hrD.1]
      rfl
    refine ⟨a, C, N, hcap, hapos, haz, hmul, hlenC, hWC, inv_ok_of T.len hcap hmul hWC hlenC hdiv hN, hWN, hNlen,
      ⟨pvN, hHN⟩, ideal_hnfNew_idem hWD hn hN, ?_, ?_⟩
    · intro v; rw [hmem]; exact (hall _ hDl v).1
    · intro v; rw [hmem]; exact (hall _ hDl v).2

end NTV.IdealInv
