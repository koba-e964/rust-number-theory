import NTV.Proofs.Lemmas.IdealInvD
import NTV.Proofs.Lemmas.IdealNormC
import Mathlib.RingTheory.DedekindDomain.Ideal.Basic
/-! # `Ideal::inv`, part E: in a Dedekind table ring, `I · N = (a)` for the colon lattice `N = (a·ℤⁿ : L(I))`.

`L(I)` is any lattice containing `a·e_0` (it need not be closed under the order: `N` only depends on the
ideal generated by `L(I)`, and `L(I)·L(N)` is the product of that ideal with `N`). The only use of the Dedekind
property is "to contain is to divide" (`Ideal.dvd_iff_le`). -/
open Matrix
namespace NTV.IdealInv
open NTV.IdealP NTV.Hnf NTV.Ord Finset

variable {t : Table} {n : Nat} (T : TableRing t n)
include T

theorem colon_closed {L : Submodule ℤ (Fin n → ℤ)} {a : ℤ} {N : Mat}
    (hN : ∀ v, v ∈ Lat n N ↔ ∀ x ∈ L, ∃ y : Fin n → ℤ, star t n v x = a • y) : IsOIdeal t n N := by
  intro b v hv
  rw [hN] at hv ⊢
  intro x hx
  obtain ⟨y, hy⟩ := hv x hx
  exact ⟨star t n b y, by rw [T.star_assoc, hy, star_smul_right]⟩

theorem prodLat_closed {L : Submodule ℤ (Fin n → ℤ)} {N : Mat} (oN : IsOIdeal t n N) (b : Fin n → ℤ) :
    ∀ v ∈ prodLat t n L (Lat n N), star t n b v ∈ prodLat t n L (Lat n N) := by
  show prodLat t n L (Lat n N) ≤ Submodule.comap (starB t n b) (prodLat t n L (Lat n N))
  refine prodLat_le.mpr fun x hx v hv => ?_
  rw [mem_comap_star, ← T.star_assoc, T.star_comm b x, T.star_assoc]
  exact star_mem_prodLat hx (oN b v hv)

theorem smul_one_mem_prodLat [IsDedekindDomain (RT T)] {L : Submodule ℤ (Fin n → ℤ)} {N : Mat} {a : ℤ}
    (haL : a • e n ⟨0, T.pos⟩ ∈ L)
    (hN : ∀ v, v ∈ Lat n N ↔ ∀ x ∈ L, ∃ y : Fin n → ℤ, star t n v x = a • y) :
    a • e n ⟨0, T.pos⟩ ∈ prodLat t n L (Lat n N) := by
  have oN : IsOIdeal t n N := colon_closed T hN
  let K : Ideal (RT T) := RT.idealOf T (prodLat t n L (Lat n N)) (fun b v hv => prodLat_closed T oN b v hv)
  let I' : Ideal (RT T) := Ideal.span {x : RT T | RT.toVec T x ∈ L}
  let N' : Ideal (RT T) := RT.idealOf T (Lat n N) (fun b v hv => oN b v hv)
  let α : RT T := RT.ofVec T (a • e n ⟨0, T.pos⟩)
  have h1 : Ideal.span {α} ≤ I' := by
    rw [Ideal.span_le, Set.singleton_subset_iff]
    exact Ideal.subset_span haL
  obtain ⟨J, hJ⟩ := Ideal.dvd_iff_le.mpr h1
  have h2 : J ≤ N' := by
    intro w hw
    show RT.toVec T w ∈ Lat n N
    rw [hN]
    intro x hx
    have hmem : RT.ofVec T x * w ∈ I' * J :=
      Ideal.mul_mem_mul (Ideal.subset_span (show RT.toVec T (RT.ofVec T x) ∈ L from hx)) hw
    rw [← hJ, Ideal.mem_span_singleton'] at hmem
    obtain ⟨r, hr⟩ := hmem
    refine ⟨RT.toVec T r, ?_⟩
    have e1 : star t n (RT.toVec T w) x = RT.toVec T (RT.ofVec T x * w) := by
      rw [RT.toVec_mul, RT.toVec_ofVec, T.star_comm]
    rw [e1, ← hr, RT.toVec_mul, RT.toVec_ofVec, star_smul_right, T.star_one]
  have h3 : I' * N' ≤ K := by
    rw [Ideal.mul_le]
    intro r hr s hs
    induction hr using Submodule.span_induction with
    | mem x hx => exact star_mem_prodLat hx hs
    | zero => rw [zero_mul]; exact K.zero_mem
    | add x y _ _ hx hy => rw [add_mul]; exact K.add_mem hx hy
    | smul b x _ hx => rw [smul_eq_mul, mul_assoc]; exact K.mul_mem_left b hx
  exact h3 (Ideal.mul_mono_right h2 (hJ ▸ Ideal.mem_span_singleton_self α))

theorem prodLat_colon_eq [IsDedekindDomain (RT T)] {L : Submodule ℤ (Fin n → ℤ)} {N : Mat} {a : ℤ}
    (haL : a • e n ⟨0, T.pos⟩ ∈ L)
    (hN : ∀ v, v ∈ Lat n N ↔ ∀ x ∈ L, ∃ y : Fin n → ℤ, star t n v x = a • y) :
    prodLat t n L (Lat n N) = LinearMap.range (starB t n (a • e n ⟨0, T.pos⟩)) := by
  apply le_antisymm
  · refine prodLat_le.mpr fun x hx v hv => ?_
    obtain ⟨y, hy⟩ := (hN v).mp hv x hx
    refine ⟨y, ?_⟩
    rw [starB_apply, star_smul_left, T.one_star, T.star_comm, hy]
  · rintro _ ⟨y, rfl⟩
    rw [starB_apply, T.star_comm]
    exact prodLat_closed T (colon_closed T hN) y _ (smul_one_mem_prodLat T haL hN)

theorem mul_colon_eq_principal [IsDedekindDomain (RT T)] {I N : Mat} {a : ℤ} (hWI : Wid n I)
    (haI : a • e n ⟨0, T.pos⟩ ∈ Lat n I)
    (hN : ∀ v, v ∈ Lat n N ↔ ∀ x ∈ Lat n I, ∃ y : Fin n → ℤ, star t n v x = a • y) (hWN : Wid n N) :
    ∃ P, NTV.Ideal.mul t I N = .ok P ∧ NTV.Ideal.principal t (a :: List.replicate (n - 1) 0) = .ok P ∧
      Wid n P ∧ ∀ v, v ∈ Lat n P ↔ ∃ y : Fin n → ℤ, v = a • y := by
  obtain ⟨P, hP, hWP, _, hLP⟩ := mul_total T.len T.pos hWI hWN
  have hx := NTV.DecompP.length_pelem T.pos a
  have hL := prodLat_colon_eq T haI hN
  refine ⟨P, hP, ?_, hWP, ?_⟩
  · rw [← hP, mul_eq T.len hWI hWN, principal_eq T.len hx]
    symm
    apply ideal_hnfNew_congr
    apply hnfNew_canonical (Wid_prodRows hWI) (Wid_prinRows hx) T.pos
    rw [Lat_prodRows hWI, Lat_prinRows hx, NTV.DecompP.vec_pelem n T.pos, hL]
  · intro v
    rw [hLP, hL, LinearMap.mem_range]
    constructor
    · rintro ⟨y, rfl⟩; exact ⟨y, by rw [starB_apply, star_smul_left, T.one_star]⟩
    · rintro ⟨y, rfl⟩; exact ⟨y, by rw [starB_apply, star_smul_left, T.one_star]⟩

end NTV.IdealInv
