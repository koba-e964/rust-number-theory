import NTV.Proofs.Lemmas.InvDiffD
import Mathlib.RingTheory.Discriminant
import Mathlib.FieldTheory.Perfect
/-! # `Ideal::inv`, part F: the trace form of an order of a number field ℚ[x]/(f), f irreducible, is
non-degenerate (the extension is separable): `det Tr ≠ 0`. That `get_inv_diff` then succeeds is
`C16.inv_diff_total_of_irreducible`. -/
open Polynomial Matrix
namespace NTV.Ord
open NTV.RowOps (toM Rect ent)
open NTV.PolyG
open NTV.Alg (modulus)
open NTV.TableAbs (Ctx)

variable {f : List Int} {basis : QMat} {n : Nat}

theorem Setup.det_traceMatrix_ne_zero (S : Setup f basis n) (t : Table) (ht : IsTable f basis n t)
    (hirr : Irreducible (modulus f)) : (NTV.InvDiff.traceMatrix t n).det ≠ 0 := by
  have : NeZero n := ⟨by have := S.pos; omega⟩
  have C' : Ctx (K := AdjoinRoot (modulus f)) (qK f) (omegaA f basis n) (tabT t n) := S.ctx t ht
  let b := C'.basis S.finrank
  have h3 : (⇑b : Fin n → AdjoinRoot (modulus f)) = omegaA f basis n :=
    funext (C'.basis_apply S.finrank)
  have hfd : FiniteDimensional ℚ (AdjoinRoot (modulus f)) := Module.Finite.of_basis b
  have hF : Fact (Irreducible (modulus f)) := ⟨hirr⟩
  have h2 := Algebra.discr_not_zero_of_basis ℚ b
  rw [Algebra.discr_def, h3, S.traceMatrix_eq t ht] at h2
  intro h0
  apply h2
  have : ((NTV.InvDiff.traceMatrix t n).map (Int.castRingHom ℚ)).det
      = (((NTV.InvDiff.traceMatrix t n).det : ℤ) : ℚ) := ((Int.castRingHom ℚ).map_det _).symm
  rw [this, h0, Int.cast_zero]

end NTV.Ord
