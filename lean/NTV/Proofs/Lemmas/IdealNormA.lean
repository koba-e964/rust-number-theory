import NTV.Proofs.Lemmas.IdealProofsC
import NTV.Proofs.Lemmas.HnfDet
import NTV.Proofs.Lemmas.DecompProofsC
import Mathlib.LinearAlgebra.FreeModule.Finite.CardQuotient
import Mathlib.GroupTheory.OrderOfElement
/-! # Ideal norm, part A (lattice level): the norm of a full-rank ideal in normal form is the index
`[ℤⁿ : L(I)]`, i.e. the number of elements of the quotient `ℤⁿ ⧸ L(I)`. At the end, two facts about the normal form
of a square matrix of non-zero determinant (`hnfWithU_k_zero`, `hnfNew_square`: no row dropped, norm = |det|). -/
namespace NTV.IdealP
open NTV.Hnf Matrix Finset

theorem card_quot_Lat {n : Nat} {A : Mat} (hA : A.length = n) (hdet : (toM n n A).det ≠ 0) :
    Nat.card ((Fin n → ℤ) ⧸ Lat n A) = (toM n n A).det.natAbs := by
  have hli : LinearIndependent ℤ (fun i => toM n n A i) :=
    Matrix.linearIndependent_rows_of_det_ne_zero hdet
  have hspan : Submodule.span ℤ (Set.range (fun i => toM n n A i)) = Lat n A := by
    rw [Lat, image_rows_eq_range hA]
  let bN : Module.Basis (Fin n) ℤ (Lat n A) := (Module.Basis.span hli).map (LinearEquiv.ofEq _ _ hspan)
  rw [← Submodule.natAbs_det_basis_change (Pi.basisFun ℤ (Fin n)) (Lat n A) bN]
  refine congrArg Int.natAbs ?_
  rw [Pi.basisFun_det_apply]
  refine congrArg Matrix.det ?_
  ext i j
  simp [bN, Module.Basis.span_apply]

theorem hnf_square {n : Nat} {H : Mat} {pv : List Nat} (hn : 0 < n) (hW : Wid n H) (hH : IsHNF H n pv)
    (hfull : H.length = n) : determinant H = (toM n n H).det ∧ 0 < (toM n n H).det := by
  have hpvlen : pv.length = n := by rw [hH.len, hfull]
  have hpv := pairwise_lt_eq_id pv n hpvlen hH.incr hH.lt
  have hlow : ∀ i j : Fin n, i.val < j.val → toM n n H i j = 0 := by
    intro i j hij
    have hi : i.val < pv.length := by rw [hpvlen]; exact i.isLt
    have := hH.last i.val hi j.val (by rw [hpv i.val hi]; exact hij) j.isLt
    simpa [toM] using this
  have hdiag : ∀ i : Fin n, 0 < toM n n H i i := by
    intro i
    have hi : i.val < pv.length := by rw [hpvlen]; exact i.isLt
    have := hH.pos i.val hi
    rw [hpv i.val hi] at this
    simpa [toM] using this
  have hdetH : (toM n n H).det = ∏ i : Fin n, toM n n H i i := by
    apply det_of_isLowerTriangular
    intro i j hij
    exact hlow i j hij
  have hmodel : determinant H = ∏ i : Fin n, toM n n H i i := by
    have hdim : dim H = deg H := by
      unfold dim deg
      cases hHc : H with
      | nil => rw [hHc] at hfull; simp at hfull; omega
      | cons r rs =>
        have h1 : (r :: rs).length = n := by rw [← hHc]; exact hfull
        have h2 : r.length = n := hW r (by rw [hHc]; simp)
        simp only; omega
    unfold determinant
    simp only [hdim, ne_eq, not_true_eq_false, ↓reduceIte]
    rw [foldl_mul_eq_prod (fun i => ent H i i) H.length, hfull,
      ← Fin.prod_univ_eq_prod_range (fun i => ent H i i) n]
    rfl
  refine ⟨by rw [hmodel, hdetH], ?_⟩
  rw [hdetH]; exact Finset.prod_pos (fun i _ => hdiag i)

theorem norm_eq_card {n : Nat} {H : Mat} {pv : List Nat} (hn : 0 < n) (hW : Wid n H) (hH : IsHNF H n pv)
    (hfull : H.length = n) :
    0 < NTV.Ideal.norm H ∧ NTV.Ideal.norm H = (Nat.card ((Fin n → ℤ) ⧸ Lat n H) : ℤ) := by
  obtain ⟨h1, h2⟩ := hnf_square hn hW hH hfull
  refine ⟨by unfold NTV.Ideal.norm; rw [h1]; exact h2, ?_⟩
  rw [card_quot_Lat hfull (ne_of_gt h2)]
  unfold NTV.Ideal.norm
  rw [h1, Int.natCast_natAbs, abs_of_pos h2]

theorem norm_eq_zero_of_not_full {n : Nat} {H : Mat} (hW : Wid n H) (h0 : H ≠ []) (hlt : H.length ≠ n) :
    NTV.Ideal.norm H = 0 := by
  unfold NTV.Ideal.norm determinant dim deg
  cases H with
  | nil => exact absurd rfl h0
  | cons r rs =>
    have h2 : r.length = n := hW r (by simp)
    simp only [h2]
    rw [if_pos hlt]

theorem card_smul_mem {n : Nat} (L : Submodule ℤ (Fin n → ℤ)) (y : Fin n → ℤ) :
    (Nat.card ((Fin n → ℤ) ⧸ L) : ℤ) • y ∈ L := by
  have h := L.toAddSubgroup.nsmul_index_mem y
  rw [natCast_zsmul]
  exact h

/-- a normal form with fewer than n rows has infinite index (the quotient is infinite: `Nat.card` = 0) -/
theorem card_quot_eq_zero_of_not_full {n : Nat} {H : Mat} {pv : List Nat} (hH : IsHNF H n pv)
    (hlt : H.length ≠ n) : Nat.card ((Fin n → ℤ) ⧸ Lat n H) = 0 := by
  by_contra hc
  apply hlt
  exact NTV.DecompP.full_rank hH (Nat.card ((Fin n → ℤ) ⧸ Lat n H) : ℤ) (by exact_mod_cast hc)
    (fun y => card_smul_mem _ y)

theorem det_ne_zero_of_card_ne_zero {n : Nat} {A : Mat} (hA : A.length = n)
    (hc : Nat.card ((Fin n → ℤ) ⧸ Lat n A) ≠ 0) : (toM n n A).det ≠ 0 := by
  classical
  set d : ℤ := (Nat.card ((Fin n → ℤ) ⧸ Lat n A) : ℤ) with hd
  have hd0 : d ≠ 0 := by rw [hd]; exact_mod_cast hc
  have hmem : ∀ i : Fin n, ∃ c : Fin n → ℤ, c ᵥ* toM n n A = d • (Pi.single i 1 : Fin n → ℤ) := by
    intro i
    have := card_smul_mem (Lat n A) (Pi.single i 1)
    rw [mem_Lat_iff hA] at this
    exact this
  choose c hc' using hmem
  have hYM : Matrix.of c * toM n n A = d • (1 : Matrix (Fin n) (Fin n) ℤ) := by
    ext i j
    have := congrFun (hc' i) j
    simp only [Matrix.vecMul, dotProduct] at this
    simp only [Matrix.mul_apply, Matrix.of_apply, Matrix.smul_apply, Matrix.one_apply, smul_eq_mul]
    rw [this]
    simp [Pi.single_apply, eq_comm]
  intro h0
  have := congrArg Matrix.det hYM
  rw [Matrix.det_mul, h0, mul_zero, Matrix.det_smul, Matrix.det_one, mul_one] at this
  exact pow_ne_zero _ hd0 this.symm

theorem norm_smul_mem {n : Nat} {H : Mat} {pv : List Nat} (hn : 0 < n) (hW : Wid n H) (hH : IsHNF H n pv)
    (hfull : H.length = n) (y : Fin n → ℤ) : NTV.Ideal.norm H • y ∈ Lat n H := by
  rw [(norm_eq_card hn hW hH hfull).2]
  exact card_smul_mem _ y

theorem hnfWithU_k_zero {n : Nat} {A H U : Mat} {k : Nat} (hr : Rect n n A) (hn : 0 < n)
    (hdet : (toM n n A).det ≠ 0) (hres : hnfWithU A = some (H, U, k)) : k = 0 := by
  obtain ⟨W, pv, R⟩ := Result.of_spec A n n hr hn hn H U k hres
  by_contra hk
  have hk0 : 0 < k := Nat.pos_of_ne_zero hk
  have hW0 : (toM n n W).det = 0 := by
    apply Matrix.det_eq_zero_of_row_eq_zero ⟨0, hn⟩
    intro j
    exact R.hzero ⟨0, hn⟩ hk0 j
  have hmul : (toM n n U).det * (toM n n A).det = (toM n n W).det := by
    rw [← Matrix.det_mul, R.ua]
  rw [hW0] at hmul
  rcases mul_eq_zero.mp hmul with h | h
  · exact (R.det.ne_zero) h
  · exact hdet h

theorem hnfNew_square {n : Nat} {A H : Mat} (hr : Rect n n A) (hn : 0 < n)
    (hdet : (toM n n A).det ≠ 0) (h : NTV.Hnf.hnfNew A = some H) :
    H.length = n ∧ NTV.Ideal.norm H = |(toM n n A).det| := by
  unfold NTV.Hnf.hnfNew at h
  cases hres : hnfWithU A with
  | none => rw [hres] at h; cases h
  | some r =>
    obtain ⟨H', U, k⟩ := r
    rw [hres] at h
    simp only [Option.map_some, Option.some.injEq] at h
    subst h
    have hk := hnfWithU_k_zero hr hn hdet hres
    subst hk
    obtain ⟨W, pv, R⟩ := Result.of_spec A n n hr hn hn H' U 0 hres
    exact ⟨by rw [R.lenH]; omega, determinant_eq_index A n hr hn H' U hres⟩

end NTV.IdealP
