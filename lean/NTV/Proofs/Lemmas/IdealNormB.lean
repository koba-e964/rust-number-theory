import NTV.Proofs.Lemmas.IdealNormA
import NTV.Proofs.Lemmas.TableProofs2
/-! # Ideal norm, part B: the norm of a principal ideal is the absolute value of the norm of its generator. -/
namespace NTV.IdealP
open NTV.Hnf Matrix Finset
open NTV.Ord (Table tnorm tabT vecZ tnorm_eq)
open NTV.TableAbs (reg)

theorem prinRows_length (t : Table) (n : Nat) (x : List Int) : (prinRows t n x).length = n := by
  simp [prinRows]

theorem toM_prinRows {t : Table} {n : Nat} {x : List Int} (hx : x.length = n) :
    toM n n (prinRows t n x) = reg (tabT t n) (vecZ x n) := by
  ext i k
  have h1 : toM n n (prinRows t n x) i = vec n (tmulV t x (NTV.Ideal.unit n i.val)) := by
    rw [toM_row]
    congr 1
    simp [prinRows, List.getD_eq_getElem?_getD]
  rw [h1, vec_tmulV hx, vec_unit]
  simp only [star, reg, tabT, e, Pi.single_apply, mul_ite, mul_one, mul_zero, ite_mul, zero_mul,
    Finset.sum_ite_eq', Finset.mem_univ, ↓reduceIte]
  rfl

theorem principal_norm_core {t : Table} {n : Nat} (hn : 0 < n) (ht : t.length = n) {x : List Int}
    (hx : x.length = n) {nm : Int} (hnm : tnorm t x = .ok nm) (hne : nm ≠ 0) :
    ∃ P, NTV.Ideal.principal t x = .ok P ∧ P.length = n ∧ Wid n P ∧ NTV.Ideal.norm P = |nm| := by
  rw [tnorm_eq t x ht (by omega)] at hnm
  injection hnm with hnm
  have hdet : (toM n n (prinRows t n x)).det = nm := by rw [toM_prinRows hx, hnm]
  obtain ⟨P, pv, h1, h2, _, _⟩ := ideal_hnfNew_total (Wid_prinRows (t := t) hx) hn
  have hr : Rect n n (prinRows t n x) := ⟨prinRows_length t n x, Wid_prinRows hx⟩
  obtain ⟨h3, h4⟩ := hnfNew_square hr hn (by rw [hdet]; exact hne) (ideal_hnfNew_ok.mp h1)
  exact ⟨P, by rw [principal_eq ht hx, h1], h3, h2, by rw [h4, hdet]⟩

/-- for a non-zero x of norm 0 (a zero divisor; impossible in an order of a number field) the principal ideal is
not of full rank and its norm is 0 -/
theorem principal_norm_zero_core {t : Table} {n : Nat} (T : TableRing t n) {x : List Int}
    (hx : x.length = n) (hnm : tnorm t x = .ok 0) (hx0 : vec n x ≠ 0) :
    ∃ P, NTV.Ideal.principal t x = .ok P ∧ P ≠ [] ∧ P.length ≠ n ∧ NTV.Ideal.norm P = 0 := by
  rw [tnorm_eq t x T.len (by omega)] at hnm
  injection hnm with hnm
  have hdet : (toM n n (prinRows t n x)).det = 0 := by rw [toM_prinRows hx, hnm]
  obtain ⟨P, pv, h1, h2, h3, h4⟩ := ideal_hnfNew_total (Wid_prinRows (t := t) hx) T.pos
  have hP0 : P ≠ [] := by
    intro hP
    have hmem : vec n x ∈ Lat n P := by
      rw [h4, Lat_prinRows hx]
      exact ⟨e n ⟨0, T.pos⟩, by rw [starB_apply, T.star_one]⟩
    rw [hP, Lat_nil, Submodule.mem_bot] at hmem
    exact hx0 hmem
  have hPn : P.length ≠ n := by
    intro hfull
    have hc : Nat.card ((Fin n → ℤ) ⧸ Lat n P) ≠ 0 := by
      have := norm_eq_card T.pos h2 h3 hfull
      intro h0
      rw [this.2, h0] at this
      exact absurd this.1 (by simp)
    rw [h4] at hc
    exact det_ne_zero_of_card_ne_zero (prinRows_length t n x) hc hdet
  exact ⟨P, by rw [principal_eq T.len hx, h1], hP0, hPn, norm_eq_zero_of_not_full h2 hP0 hPn⟩

end NTV.IdealP
