import NTV.Proofs.Lemmas.IdealNormA
import Mathlib.RingTheory.Ideal.Norm.AbsNorm
/-! # Ideal norm, part C: the commutative ring `RT T` defined by a multiplication table on ℤⁿ, ideals of the
order as `Ideal (RT T)`, the model's norm as `Ideal.absNorm`, and multiplicativity of the norm when `RT T` is
a Dedekind domain. -/
namespace NTV.IdealP
open NTV.Hnf NTV.Ord Finset

/-- the ring defined by the table `t`: ℤⁿ with the product `⋆` and the identity `e_0` -/
def RT {t : Table} {n : Nat} (_T : TableRing t n) : Type := Fin n → ℤ

namespace RT
variable {t : Table} {n : Nat} (T : TableRing t n)

theorem star_zero_left (y : Fin n → ℤ) : star t n 0 y = 0 := (starB t n).map_zero₂ y

theorem star_zero_right (x : Fin n → ℤ) : star t n x 0 = 0 := (starB t n x).map_zero

instance instCommRing : CommRing (RT T) :=
  { (Pi.addCommGroup : AddCommGroup (Fin n → ℤ)) with
    mul := star t n
    one := e n ⟨0, T.pos⟩
    mul_assoc := T.star_assoc
    mul_comm := T.star_comm
    one_mul := T.one_star
    mul_one := T.star_one
    left_distrib := star_add_right t n
    right_distrib := star_add_left t n
    zero_mul := star_zero_left
    mul_zero := star_zero_right
    natCast := fun k => (k : ℤ) • e n ⟨0, T.pos⟩
    natCast_zero := by
      show ((0 : ℕ) : ℤ) • e n ⟨0, T.pos⟩ = (0 : Fin n → ℤ)
      simp
    natCast_succ := fun k => by
      show ((k + 1 : ℕ) : ℤ) • e n ⟨0, T.pos⟩ = ((k : ℤ) • e n ⟨0, T.pos⟩ + e n ⟨0, T.pos⟩ : Fin n → ℤ)
      rw [Nat.cast_succ, add_smul, one_smul]
    intCast := fun z => z • e n ⟨0, T.pos⟩
    intCast_ofNat := fun k => rfl
    intCast_negSucc := fun k => by
      show (Int.negSucc k) • e n ⟨0, T.pos⟩ = (-(((k + 1 : ℕ) : ℤ) • e n ⟨0, T.pos⟩) : Fin n → ℤ)
      rw [Int.negSucc_eq, neg_smul]
      norm_cast }

/-- the underlying vector of an element (the identity map) -/
def toVecAdd : RT T ≃+ (Fin n → ℤ) where
  toFun := fun x => x
  invFun := fun x => x
  left_inv := fun _ => rfl
  right_inv := fun _ => rfl
  map_add' := fun _ _ => rfl

def toVec : RT T ≃ₗ[ℤ] (Fin n → ℤ) := (toVecAdd T).toIntLinearEquiv

def ofVec (v : Fin n → ℤ) : RT T := v

@[simp] theorem toVec_ofVec (v : Fin n → ℤ) : toVec T (ofVec T v) = v := rfl
@[simp] theorem ofVec_toVec (x : RT T) : ofVec T (toVec T x) = x := rfl

theorem toVec_mul (x y : RT T) : toVec T (x * y) = star t n (toVec T x) (toVec T y) := rfl
theorem toVec_one : toVec T 1 = e n ⟨0, T.pos⟩ := rfl
theorem ofVec_star (x y : Fin n → ℤ) : ofVec T (star t n x y) = ofVec T x * ofVec T y := rfl

instance instFree : Module.Free ℤ (RT T) := Module.Free.of_equiv (toVec T).symm
instance instFinite : Module.Finite ℤ (RT T) := Module.Finite.equiv (toVec T).symm
instance instNontrivial : Nontrivial (RT T) := by
  have : Nontrivial (Fin n → ℤ) := by
    have : Nonempty (Fin n) := ⟨⟨0, T.pos⟩⟩
    infer_instance
  exact (toVec T).toEquiv.nontrivial

theorem finrank_eq : Module.finrank ℤ (RT T) = n := by
  rw [(toVec T).finrank_eq, Module.finrank_fin_fun]

def idealOf (L : Submodule ℤ (Fin n → ℤ)) (h : ∀ a : Fin n → ℤ, ∀ v ∈ L, star t n a v ∈ L) : Ideal (RT T) where
  carrier := {x | toVec T x ∈ L}
  add_mem' := fun {a b} ha hb => by
    show toVec T (a + b) ∈ L
    rw [map_add]; exact L.add_mem ha hb
  zero_mem' := by
    show toVec T 0 ∈ L
    rw [map_zero]; exact L.zero_mem
  smul_mem' := fun a v hv => h (toVec T a) (toVec T v) hv

theorem mem_idealOf {L : Submodule ℤ (Fin n → ℤ)} {h : ∀ a : Fin n → ℤ, ∀ v ∈ L, star t n a v ∈ L}
    {x : RT T} : x ∈ idealOf T L h ↔ toVec T x ∈ L := Iff.rfl

theorem map_idealOf (L : Submodule ℤ (Fin n → ℤ)) (h : ∀ a : Fin n → ℤ, ∀ v ∈ L, star t n a v ∈ L) :
    ((idealOf T L h).restrictScalars ℤ).map ((toVec T : RT T ≃ₗ[ℤ] (Fin n → ℤ)) : RT T →ₗ[ℤ] (Fin n → ℤ)) = L := by
  ext v
  simp only [Submodule.mem_map, Submodule.restrictScalars_mem, LinearEquiv.coe_coe]
  constructor
  · rintro ⟨x, hx, rfl⟩; exact hx
  · intro hv; exact ⟨ofVec T v, hv, rfl⟩

theorem idealOf_congr {L L' : Submodule ℤ (Fin n → ℤ)} (hLL : L = L')
    (h : ∀ a : Fin n → ℤ, ∀ v ∈ L, star t n a v ∈ L) (h' : ∀ a : Fin n → ℤ, ∀ v ∈ L', star t n a v ∈ L') :
    idealOf T L h = idealOf T L' h' := by
  subst hLL; rfl

theorem cardQuot_idealOf (L : Submodule ℤ (Fin n → ℤ)) (h : ∀ a : Fin n → ℤ, ∀ v ∈ L, star t n a v ∈ L) :
    Submodule.cardQuot (idealOf T L h) = Nat.card ((Fin n → ℤ) ⧸ L) := by
  rw [Submodule.cardQuot_apply]
  exact Nat.card_congr
    (Submodule.Quotient.equiv ((idealOf T L h).restrictScalars ℤ) L (toVec T) (map_idealOf T L h)).toEquiv

theorem idealOf_prodLat (L M : Submodule ℤ (Fin n → ℤ)) (hL : ∀ a : Fin n → ℤ, ∀ v ∈ L, star t n a v ∈ L)
    (hM : ∀ a : Fin n → ℤ, ∀ v ∈ M, star t n a v ∈ M)
    (hLM : ∀ a : Fin n → ℤ, ∀ v ∈ prodLat t n L M, star t n a v ∈ prodLat t n L M) :
    idealOf T (prodLat t n L M) hLM = idealOf T L hL * idealOf T M hM := by
  apply le_antisymm
  · intro x hx
    rw [mem_idealOf] at hx
    have hle : prodLat t n L M ≤
        ((idealOf T L hL * idealOf T M hM).restrictScalars ℤ).map
          ((toVec T : RT T ≃ₗ[ℤ] (Fin n → ℤ)) : RT T →ₗ[ℤ] (Fin n → ℤ)) := by
      refine prodLat_le.mpr fun a ha b hb => ?_
      refine ⟨ofVec T a * ofVec T b, ?_, rfl⟩
      exact Ideal.mul_mem_mul (show ofVec T a ∈ idealOf T L hL from ha) (show ofVec T b ∈ idealOf T M hM from hb)
    obtain ⟨y, hy, hxy⟩ := hle hx
    have : y = x := (toVec T).injective hxy
    rw [← this]; exact hy
  · rw [Ideal.mul_le]
    intro r hr s hs
    rw [mem_idealOf, toVec_mul]
    exact star_mem_prodLat hr hs

/-- "maximal order": a table ring that is a domain and integrally closed (in its field of fractions) is a
Dedekind domain (it is Noetherian and of dimension ≤ 1 because it is a finite ℤ-module) -/
theorem isDedekindDomain_of_integrallyClosed [IsDomain (RT T)] [IsIntegrallyClosed (RT T)] :
    IsDedekindDomain (RT T) := by
  have h1 : IsNoetherian ℤ (RT T) := isNoetherian_of_isNoetherianRing_of_finite ℤ (RT T)
  have h2 : IsNoetherianRing (RT T) := isNoetherian_of_tower ℤ h1
  have h3 : Algebra.IsIntegral ℤ (RT T) := Algebra.IsIntegral.of_finite ℤ (RT T)
  have h4 : Ring.DimensionLEOne (RT T) := Ring.DimensionLEOne.of_isIntegral ℤ (RT T)
  exact { toIsDedekindRing := { } }

end RT


section
variable {t : Table} {n : Nat} (T : TableRing t n)

def toIdeal (I : Mat) (oI : IsOIdeal t n I) : Ideal (RT T) := RT.idealOf T (Lat n I) (fun a v hv => oI a v hv)

theorem mem_toIdeal {I : Mat} {oI : IsOIdeal t n I} {x : RT T} :
    x ∈ toIdeal T I oI ↔ RT.toVec T x ∈ Lat n I := Iff.rfl

theorem norm_eq_cardQuot {I : Mat} {pv : List Nat} (hW : Wid n I) (hH : IsHNF I n pv) (hfull : I.length = n)
    (oI : IsOIdeal t n I) : NTV.Ideal.norm I = (Submodule.cardQuot (toIdeal T I oI) : ℤ) := by
  rw [(norm_eq_card T.pos hW hH hfull).2, toIdeal, RT.cardQuot_idealOf]

theorem toIdeal_mul {I J P : Mat} (hI : Wid n I) (hJ : Wid n J) (oI : IsOIdeal t n I) (oJ : IsOIdeal t n J)
    (h : NTV.Ideal.mul t I J = .ok P) (oP : IsOIdeal t n P) :
    toIdeal T P oP = toIdeal T I oI * toIdeal T J oJ := by
  obtain ⟨_, _, hL⟩ := mul_spec T.len T.pos hI hJ h
  have hLM : ∀ a : Fin n → ℤ, ∀ v ∈ prodLat t n (Lat n I) (Lat n J),
      star t n a v ∈ prodLat t n (Lat n I) (Lat n J) := by
    intro a v hv; rw [← hL] at hv ⊢; exact oP a v hv
  unfold toIdeal
  rw [← RT.idealOf_prodLat T (Lat n I) (Lat n J) (fun a v hv => oI a v hv) (fun a v hv => oJ a v hv) hLM]
  exact RT.idealOf_congr T hL _ _

include T in
/-- the product of two full-rank ideals has full rank (any table ring: it contains `N(I)·N(J)·ℤⁿ`) -/
theorem mul_full_rank {I J P : Mat} {pvI pvJ : List Nat} (hI : Wid n I) (hJ : Wid n J)
    (hHI : IsHNF I n pvI) (hHJ : IsHNF J n pvJ) (fI : I.length = n) (fJ : J.length = n)
    (h : NTV.Ideal.mul t I J = .ok P) : P.length = n := by
  obtain ⟨_, ⟨pv, hHP⟩, hL⟩ := mul_spec T.len T.pos hI hJ h
  have hpI := (norm_eq_card T.pos hI hHI fI).1
  have hpJ := (norm_eq_card T.pos hJ hHJ fJ).1
  apply NTV.DecompP.full_rank hHP (NTV.Ideal.norm I * NTV.Ideal.norm J) (by positivity)
  intro y
  have h1 := norm_smul_mem T.pos hI hHI fI (e n ⟨0, T.pos⟩)
  have h2 := norm_smul_mem T.pos hJ hHJ fJ y
  have := star_mem_prodLat (t := t) h1 h2
  rw [← hL, star_smul_left, star_smul_right, T.one_star, smul_smul] at this
  exact this

theorem norm_mul_core [IsDedekindDomain (RT T)] {I J : Mat} {pvI pvJ : List Nat} (hI : Wid n I) (hJ : Wid n J)
    (hHI : IsHNF I n pvI) (hHJ : IsHNF J n pvJ) (fI : I.length = n) (fJ : J.length = n)
    (oI : IsOIdeal t n I) (oJ : IsOIdeal t n J) :
    ∃ P, NTV.Ideal.mul t I J = .ok P ∧ P.length = n ∧ Wid n P ∧ IsOIdeal t n P ∧
      NTV.Ideal.norm P = NTV.Ideal.norm I * NTV.Ideal.norm J := by
  obtain ⟨P, h, hP, ⟨pv, hHP⟩, hL⟩ := mul_total T.len T.pos hI hJ
  have oP : IsOIdeal t n P := isOIdeal_of_lat_mul T hL oI
  have fP := mul_full_rank T hI hJ hHI hHJ fI fJ h
  refine ⟨P, h, fP, hP, oP, ?_⟩
  rw [norm_eq_cardQuot T hP hHP fP oP, norm_eq_cardQuot T hI hHI fI oI, norm_eq_cardQuot T hJ hHJ fJ oJ,
    toIdeal_mul T hI hJ oI oJ h oP, cardQuot_mul, Nat.cast_mul]

theorem norm_eq_absNorm [IsDedekindDomain (RT T)] {I : Mat} {pv : List Nat} (hW : Wid n I) (hH : IsHNF I n pv)
    (hfull : I.length = n) (oI : IsOIdeal t n I) :
    NTV.Ideal.norm I = (Ideal.absNorm (toIdeal T I oI) : ℤ) := by
  rw [Ideal.absNorm_apply]; exact norm_eq_cardQuot T hW hH hfull oI

end

end NTV.IdealP
