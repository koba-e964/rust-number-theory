import NTV.Proofs.Lemmas.IdealNormC
import NTV.Proofs.Lemmas.IdealProofsD
import Mathlib.NumberTheory.Zsqrtd.GaussianInt
import Mathlib.RingTheory.PrincipalIdealDomain
/-! # Ideal norm, part D: non-vacuity of the Dedekind hypothesis. The ring of the table of ℤ[i]
(`f = x² + 1`, basis 1, θ) is isomorphic to Mathlib's `GaussianInt`, a Euclidean domain, hence a Dedekind
domain. -/
namespace NTV.IdealP
open NTV.Hnf NTV.Ord

/-- the multiplication table of ℤ[i] (the value of `getMultTable [[1,0],[0,1]] [1,0,1]`, see C14) -/
def tGauss : Table := [[[1, 0], [0, 1]], [[0, 1], [-1, 0]]]

theorem tGauss_ring : TableRing tGauss 2 := TableRing.of_consts (by decide +kernel)

theorem star_tGauss (x y : Fin 2 → ℤ) :
    star tGauss 2 x y = ![x 0 * y 0 - x 1 * y 1, x 0 * y 1 + x 1 * y 0] := by
  funext k
  simp only [star, Fin.sum_univ_two]
  -- the entries `tent tGauss i j k` are read off by evaluation
  fin_cases k
  · show x 0 * y 0 * 1 + x 0 * y 1 * 0 + (x 1 * y 0 * 0 + x 1 * y 1 * (-1)) = x 0 * y 0 - x 1 * y 1
    ring
  · show x 0 * y 0 * 0 + x 0 * y 1 * 1 + (x 1 * y 0 * 1 + x 1 * y 1 * 0) = x 0 * y 1 + x 1 * y 0
    ring

/-- `RT tGauss_ring ≃+* ℤ[i]`, (a, b) ↦ a + b i -/
def gaussEquiv : RT tGauss_ring ≃+* GaussianInt where
  toFun := fun x => ⟨RT.toVec tGauss_ring x 0, RT.toVec tGauss_ring x 1⟩
  invFun := fun z => RT.ofVec tGauss_ring ![z.re, z.im]
  left_inv := fun x => by
    apply (RT.toVec tGauss_ring).injective
    funext k; fin_cases k <;> rfl
  right_inv := fun z => rfl
  map_mul' := fun x y => by
    apply Zsqrtd.ext
    · show star tGauss 2 (RT.toVec tGauss_ring x) (RT.toVec tGauss_ring y) 0 = _
      rw [star_tGauss, Zsqrtd.re_mul, Matrix.cons_val_zero]
      ring
    · show star tGauss 2 (RT.toVec tGauss_ring x) (RT.toVec tGauss_ring y) 1 = _
      rw [star_tGauss, Zsqrtd.im_mul, Matrix.cons_val_one, Matrix.cons_val_zero]
  map_add' := fun x y => rfl

instance : IsDomain (RT tGauss_ring) := MulEquiv.isDomain GaussianInt gaussEquiv.toMulEquiv

instance : IsPrincipalIdealRing (RT tGauss_ring) :=
  IsPrincipalIdealRing.of_surjective gaussEquiv.symm.toRingHom gaussEquiv.symm.surjective

instance gauss_isDedekindDomain : IsDedekindDomain (RT tGauss_ring) := inferInstance

end NTV.IdealP
