import NTV.Proofs.Lemmas.IdealNormC
import NTV.Proofs.Lemmas.IdealProofsD
import NTV.Proofs.Lemmas.TableProofs2
/-! # Ideal norm, part E: the table of an order of ℚ[x]/(f) (in the sense of C14: `IsTable f basis n t`, with
ω_0 = 1) is a `TableRing`, and its ring `RT T` is a domain when f is irreducible. -/
open Polynomial
namespace NTV.IdealP
open NTV.Hnf NTV.Ord
open NTV.TableAbs (psi mulVec Ctx)

section abstract
variable {K : Type*} [CommRing K] {n : ℕ} {q : ℚ →+* K} {Ω : Fin n → K} {t : Table}

theorem star_eq_mulVec (t : Table) (n : Nat) (x y : Fin n → ℤ) : star t n x y = mulVec (tabT t n) x y := rfl

def phi (q : ℚ →+* K) (Ω : Fin n → K) (x : Fin n → ℤ) : K := psi q Ω (NTV.TableAbs.castV x)

theorem phi_inj (h : Ctx q Ω (tabT t n)) : Function.Injective (phi q Ω) := by
  intro x y hxy
  have := h.inj _ _ hxy
  funext i
  have := congrFun this i
  simpa [NTV.TableAbs.castV] using this

theorem phi_star (h : Ctx q Ω (tabT t n)) (x y : Fin n → ℤ) :
    phi q Ω (star t n x y) = phi q Ω x * phi q Ω y := by
  rw [star_eq_mulVec]; exact (h.mul_agrees x y).symm

theorem phi_e (i : Fin n) : phi q Ω (e n i) = Ω i := by
  classical
  have : NTV.TableAbs.castV (e n i) = Pi.single i 1 := by
    funext j; simp [NTV.TableAbs.castV, e, Pi.single_apply]
  unfold phi
  rw [this, NTV.TableAbs.psi_single]

theorem phi_zero : phi q Ω (0 : Fin n → ℤ) = 0 := by
  have : NTV.TableAbs.castV (0 : Fin n → ℤ) = 0 := by funext j; simp [NTV.TableAbs.castV]
  unfold phi; rw [this, NTV.TableAbs.psi_zero]

theorem tableRing_of_ctx (h : Ctx q Ω (tabT t n)) (hn : 0 < n) (hΩ : Ω ⟨0, hn⟩ = 1) (len : t.length = n)
    (shape : ∀ r ∈ t, r.length = n ∧ ∀ s ∈ r, s.length = n) : TableRing t n := by
  apply tableRing_of_star hn len shape
  · intro x y
    apply phi_inj h
    rw [phi_star h, phi_star h, mul_comm]
  · intro x y z
    apply phi_inj h
    rw [phi_star h, phi_star h, phi_star h, phi_star h, mul_assoc]
  · intro x
    apply phi_inj h
    rw [phi_star h, phi_e, hΩ, one_mul]

theorem isDomain_of_ctx [NoZeroDivisors K] (h : Ctx q Ω (tabT t n)) (T : TableRing t n) : IsDomain (RT T) :=
  have : NoZeroDivisors (RT T) :=
    ((phi_inj h).comp (RT.toVec T).injective).noZeroDivisors _ phi_zero (fun _ _ => phi_star h _ _)
  NoZeroDivisors.to_isDomain _

end abstract


theorem shape_of_isTable {f : List Int} {basis : QMat} {n : Nat} {t : Table} (ht : IsTable f basis n t) :
    ∀ r ∈ t, r.length = n ∧ ∀ s ∈ r, s.length = n := by
  intro r hr
  obtain ⟨i, hi, rfl⟩ := List.mem_iff_getElem.mp hr
  have hin : i < n := by rw [← ht.1]; exact hi
  obtain ⟨h1, h2⟩ := ht.2.1 i hin
  simp only [List.getD_eq_getElem?_getD, List.getElem?_eq_getElem hi, Option.getD_some] at h1 h2
  refine ⟨h1, ?_⟩
  intro s hs
  obtain ⟨j, hj, rfl⟩ := List.mem_iff_getElem.mp hs
  have := h2 j (by rw [← h1]; exact hj)
  simpa [List.getElem?_eq_getElem hj] using this

/-- the table of an order with ω_0 = 1 (C14: `IsTable`, e.g. the value of `get_mult_table`) is a `TableRing` -/
theorem tableRing_of_isTable {f : List Int} {basis : QMat} {n : Nat} (S : Setup f basis n) {t : Table}
    (ht : IsTable f basis n t) (h0 : basis.getD 0 [] = 1 :: List.replicate (n - 1) 0) : TableRing t n := by
  have hn : 0 < n := S.pos
  apply tableRing_of_ctx (S.ctx t ht) hn ?_ ht.1 (shape_of_isTable ht)
  unfold omegaK
  show NTV.Alg.cls f (NTV.PolyG.toPoly (basis.getD 0 [])) = 1
  rw [h0, toPoly_unit_row, Polynomial.C_1]
  exact RingHom.map_one _

theorem isDomain_of_isTable {f : List Int} {basis : QMat} {n : Nat} (S : Setup f basis n) {t : Table}
    (ht : IsTable f basis n t) (hirr : Irreducible (NTV.Alg.modulus f)) (T : TableRing t n) :
    IsDomain (RT T) := by
  have := noZeroDivisors_of_irreducible hirr
  exact isDomain_of_ctx (S.ctx t ht) T

end NTV.IdealP
