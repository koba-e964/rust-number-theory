import NTV.Model.Ideal
import NTV.Proofs.Lemmas.HnfCanon
import NTV.Proofs.Lemmas.TableProofs2
import Mathlib.Algebra.Module.Submodule.Bilinear
import Mathlib.Algebra.BigOperators.Pi
/-! # Ideals, part A: the product `⋆` defined by a multiplication table, as a ℤ-bilinear map on ℤⁿ,
and what `NTV.Ord.tmul` computes. -/
namespace NTV.IdealP
open NTV.Hnf NTV.Ord Finset

/-- coordinate vector of a list (entries beyond the length read 0; always used with `a.length = n`) -/
def vec (n : Nat) (a : List Int) : Fin n → ℤ := fun i => a.getD i.val 0

def star (t : Table) (n : Nat) (x y : Fin n → ℤ) : Fin n → ℤ :=
  fun k => ∑ i : Fin n, ∑ j : Fin n, x i * y j * tent t i.val j.val k.val

theorem vec_inj {n : Nat} {a b : List Int} (ha : a.length = n) (hb : b.length = n) (h : vec n a = vec n b) :
    a = b := by
  apply List.ext_getElem (by rw [ha, hb])
  intro i h1 h2
  have := congrFun h ⟨i, by omega⟩
  simpa [vec, List.getD_eq_getElem?_getD, List.getElem?_eq_getElem h1, List.getElem?_eq_getElem h2] using this

theorem vec_ofFn {n : Nat} (x : Fin n → ℤ) : vec n (List.ofFn x) = x := by
  funext i
  simp [vec, List.getD_eq_getElem?_getD]

/-- the list computed by `tmul` on its non-panicking branch -/
def tmulV (t : Table) (a b : List Int) : List Int :=
  let n := a.length
  (List.range n).map (fun k =>
      (List.range n).foldl (fun acc i => (List.range n).foldl (fun acc j =>
        acc + a.getD i 0 * b.getD j 0 * tent t i j k) acc) 0)

theorem tmul_eq {t : Table} {n : Nat} {a b : List Int} (ht : t.length = n) (ha : a.length = n)
    (hb : b.length = n) : tmul t a b = .ok (tmulV t a b) := by
  simp [tmul, tmulV, ha, hb, ht]

theorem tmulV_length (t : Table) (a b : List Int) : (tmulV t a b).length = a.length := by
  simp [tmulV]

theorem vec_tmulV {t : Table} {n : Nat} {a b : List Int} (ha : a.length = n) :
    vec n (tmulV t a b) = star t n (vec n a) (vec n b) := by
  funext k
  have hk : k.val < a.length := by rw [ha]; exact k.isLt
  simp only [vec, tmulV, star, List.getD_eq_getElem?_getD, List.getElem?_map, List.getElem?_range hk,
    Option.map_some, Option.getD_some]
  rw [foldl_add_range2 (fun i j => a[i]?.getD 0 * b[j]?.getD 0 * tent t i j k.val), zero_add, ha,
    ← Fin.sum_univ_eq_sum_range (fun i => ∑ j ∈ range n, a[i]?.getD 0 * b[j]?.getD 0 * tent t i j k.val) n]
  apply Finset.sum_congr rfl
  intro i _
  rw [← Fin.sum_univ_eq_sum_range (fun j => a[i.val]?.getD 0 * b[j]?.getD 0 * tent t i.val j k.val) n]

theorem tmul_spec {t : Table} {n : Nat} {a b : List Int} (ht : t.length = n) (ha : a.length = n)
    (hb : b.length = n) :
    ∃ c, tmul t a b = .ok c ∧ c.length = n ∧ vec n c = star t n (vec n a) (vec n b) :=
  ⟨tmulV t a b, tmul_eq ht ha hb, by rw [tmulV_length, ha], vec_tmulV ha⟩

/-- from "the call returns some value with property `P`" to "the value it returned has `P`" -/
theorem of_total {ε α : Type} {x : Except ε α} {P : α → Prop} (h : ∃ a, x = .ok a ∧ P a) {a : α}
    (hx : x = .ok a) : P a := by
  obtain ⟨a', h1, h2⟩ := h
  rw [hx] at h1
  cases h1
  exact h2

theorem tmul_ok_vec {t : Table} {n : Nat} {a b c : List Int} (ht : t.length = n) (ha : a.length = n)
    (hb : b.length = n) (h : tmul t a b = .ok c) :
    c.length = n ∧ vec n c = star t n (vec n a) (vec n b) :=
  of_total (tmul_spec ht ha hb) h

theorem tmul_eq_tmul_iff {t : Table} {n : Nat} {a b a' b' : List Int} (ht : t.length = n) (ha : a.length = n)
    (hb : b.length = n) (ha' : a'.length = n) (hb' : b'.length = n) :
    tmul t a b = tmul t a' b' ↔ star t n (vec n a) (vec n b) = star t n (vec n a') (vec n b') := by
  rw [tmul_eq ht ha hb, tmul_eq ht ha' hb', ← vec_tmulV ha, ← vec_tmulV ha']
  constructor
  · intro h
    rw [Except.ok.inj h]
  · intro h
    rw [vec_inj (by rw [tmulV_length, ha]) (by rw [tmulV_length, ha']) h]


theorem star_add_left (t : Table) (n : Nat) (x x' y : Fin n → ℤ) :
    star t n (x + x') y = star t n x y + star t n x' y := by
  funext k; simp only [star, Pi.add_apply, add_mul, Finset.sum_add_distrib]

theorem star_add_right (t : Table) (n : Nat) (x y y' : Fin n → ℤ) :
    star t n x (y + y') = star t n x y + star t n x y' := by
  funext k; simp only [star, Pi.add_apply, mul_add, add_mul, Finset.sum_add_distrib]

theorem star_smul_left (t : Table) (n : Nat) (c : ℤ) (x y : Fin n → ℤ) :
    star t n (c • x) y = c • star t n x y := by
  funext k; simp only [star, Pi.smul_apply, smul_eq_mul, Finset.mul_sum, mul_assoc]

theorem star_smul_right (t : Table) (n : Nat) (c : ℤ) (x y : Fin n → ℤ) :
    star t n x (c • y) = c • star t n x y := by
  funext k; simp only [star, Pi.smul_apply, smul_eq_mul, Finset.mul_sum]
  refine Finset.sum_congr rfl (fun i _ => Finset.sum_congr rfl (fun j _ => by ring))

def starB (t : Table) (n : Nat) : (Fin n → ℤ) →ₗ[ℤ] (Fin n → ℤ) →ₗ[ℤ] (Fin n → ℤ) :=
  LinearMap.mk₂ ℤ (star t n) (star_add_left t n) (star_smul_left t n) (star_add_right t n)
    (star_smul_right t n)

@[simp] theorem starB_apply (t : Table) (n : Nat) (x y : Fin n → ℤ) : starB t n x y = star t n x y := rfl

/-- right multiplication `· ⋆ y` (named: elaborating `LinearMap.flip` at each use is slow) -/
def starR (t : Table) (n : Nat) (y : Fin n → ℤ) : (Fin n → ℤ) →ₗ[ℤ] (Fin n → ℤ) := (starB t n).flip y

@[simp] theorem starR_apply (t : Table) (n : Nat) (x y : Fin n → ℤ) : starR t n y x = star t n x y := rfl

def e (n : Nat) (i : Fin n) : Fin n → ℤ := Pi.single i 1

theorem vec_unit (n : Nat) (i : Fin n) : vec n (NTV.Ideal.unit n i.val) = e n i := by
  funext j
  simp only [vec, NTV.Ideal.unit, e, List.getD_eq_getElem?_getD, List.getElem?_map,
    List.getElem?_range j.isLt, Option.map_some, Option.getD_some, Pi.single_apply]
  by_cases h : j = i
  · simp [h]
  · have : j.val ≠ i.val := fun h' => h (Fin.ext h')
    simp [h, this]

theorem unit_length (n i : Nat) : (NTV.Ideal.unit n i).length = n := by simp [NTV.Ideal.unit]

theorem star_e_e (t : Table) (n : Nat) (i j : Fin n) (k : Fin n) :
    star t n (e n i) (e n j) k = tent t i.val j.val k.val := by
  simp only [star, e, Pi.single_apply, mul_ite, mul_one, mul_zero, ite_mul, one_mul, zero_mul, sum_ite_eq',
    mem_univ, ↓reduceIte]

theorem eq_sum_e {n : Nat} (x : Fin n → ℤ) : x = ∑ i, x i • e n i := by
  simp only [e, ← Pi.single_smul, smul_eq_mul, mul_one]
  exact (Finset.univ_sum_single x).symm

theorem star_sum_e_left (t : Table) (n : Nat) (x y : Fin n → ℤ) :
    star t n x y = ∑ i, x i • star t n (e n i) y := by
  conv_lhs => rw [eq_sum_e x]
  rw [← starR_apply, map_sum]
  simp only [map_smul, starR_apply]

theorem star_sum_e_right (t : Table) (n : Nat) (x y : Fin n → ℤ) :
    star t n x y = ∑ j, y j • star t n x (e n j) := by
  conv_lhs => rw [eq_sum_e y]
  rw [← starB_apply, map_sum]
  simp only [map_smul, starB_apply]


/-- `t` is an n×n×n table whose product `tmul t` on ℤⁿ is commutative, associative and has the first
basis vector `e_0 = (1,0,…,0)` as identity — what the table of an order with ω_0 = 1 satisfies. -/
structure TableRing (t : Table) (n : Nat) : Prop where
  pos : 0 < n
  len : t.length = n
  shape : ∀ r ∈ t, r.length = n ∧ ∀ s ∈ r, s.length = n
  comm : ∀ x y : List Int, x.length = n → y.length = n → tmul t x y = tmul t y x
  assoc : ∀ x y z xy yz : List Int, x.length = n → y.length = n → z.length = n →
    tmul t x y = .ok xy → tmul t y z = .ok yz → tmul t xy z = tmul t x yz
  one : ∀ x : List Int, x.length = n → tmul t (NTV.Ideal.unit n 0) x = .ok x

namespace TableRing
variable {t : Table} {n : Nat}

theorem star_comm (T : TableRing t n) (x y : Fin n → ℤ) : star t n x y = star t n y x := by
  have hx : (List.ofFn x).length = n := List.length_ofFn
  have hy : (List.ofFn y).length = n := List.length_ofFn
  have h := (tmul_eq_tmul_iff T.len hx hy hy hx).mp (T.comm _ _ hx hy)
  rwa [vec_ofFn, vec_ofFn] at h

theorem star_assoc (T : TableRing t n) (x y z : Fin n → ℤ) :
    star t n (star t n x y) z = star t n x (star t n y z) := by
  have hx : (List.ofFn x).length = n := List.length_ofFn
  have hy : (List.ofFn y).length = n := List.length_ofFn
  have hz : (List.ofFn z).length = n := List.length_ofFn
  have hxy : (tmulV t (List.ofFn x) (List.ofFn y)).length = n := by rw [tmulV_length, hx]
  have hyz : (tmulV t (List.ofFn y) (List.ofFn z)).length = n := by rw [tmulV_length, hy]
  have h := (tmul_eq_tmul_iff T.len hxy hz hx hyz).mp
    (T.assoc _ _ _ _ _ hx hy hz (tmul_eq T.len hx hy) (tmul_eq T.len hy hz))
  rwa [vec_tmulV hx, vec_tmulV hy, vec_ofFn, vec_ofFn, vec_ofFn] at h

theorem one_star (T : TableRing t n) (x : Fin n → ℤ) : star t n (e n ⟨0, T.pos⟩) x = x := by
  have hx : (List.ofFn x).length = n := List.length_ofFn
  have h := T.one _ hx
  rw [tmul_eq T.len (unit_length n 0) hx] at h
  have h' := congrArg (vec n) (Except.ok.inj h)
  rwa [vec_tmulV (unit_length n 0), vec_ofFn, vec_unit n ⟨0, T.pos⟩] at h'

theorem star_one (T : TableRing t n) (x : Fin n → ℤ) : star t n x (e n ⟨0, T.pos⟩) = x := by
  rw [T.star_comm, T.one_star]

end TableRing

end NTV.IdealP
