import NTV.Proofs.Lemmas.IdealProofsA
/-! # Ideals, part B: the lattice of a list matrix as a submodule of ℤᵐ, the normal form keeps it,
two matrices have the same normal form iff they have the same lattice (also for empty matrices). -/
namespace NTV.IdealP
open NTV.Hnf NTV.Ord Finset Matrix

def Wid (m : Nat) (A : Mat) : Prop := ∀ r ∈ A, r.length = m

theorem Wid.rect {m : Nat} {A : Mat} (h : Wid m A) : Rect A.length m A := ⟨rfl, h⟩

theorem Wid.append {m : Nat} {A B : Mat} (hA : Wid m A) (hB : Wid m B) : Wid m (A ++ B) := by
  intro r hr
  rcases List.mem_append.mp hr with h | h
  · exact hA r h
  · exact hB r h

def Lat (m : Nat) (A : Mat) : Submodule ℤ (Fin m → ℤ) := Submodule.span ℤ (vec m '' {r | r ∈ A})

theorem row_mem_Lat {m : Nat} {A : Mat} {r : Row} (hr : r ∈ A) : vec m r ∈ Lat m A :=
  Submodule.subset_span ⟨r, hr, rfl⟩

theorem Lat_nil (m : Nat) : Lat m [] = ⊥ := by simp [Lat]

theorem Lat_append (m : Nat) (A B : Mat) : Lat m (A ++ B) = Lat m A ⊔ Lat m B := by
  unfold Lat
  rw [← Submodule.span_union, ← Set.image_union]
  congr 2
  ext r; simp

theorem Lat_le_iff {m : Nat} {A : Mat} {S : Submodule ℤ (Fin m → ℤ)} :
    Lat m A ≤ S ↔ ∀ r ∈ A, vec m r ∈ S := by
  unfold Lat
  rw [Submodule.span_le]
  constructor
  · intro h r hr; exact h ⟨r, hr, rfl⟩
  · rintro h _ ⟨r, hr, rfl⟩; exact h r hr

theorem toM_row (n m : Nat) (A : Mat) (i : Fin n) : toM n m A i = vec m (A.getD i.val []) := by
  funext j; simp [toM, ent, vec]

theorem image_rows_eq_range {n m : Nat} {A : Mat} (hA : A.length = n) :
    vec m '' {r | r ∈ A} = Set.range (fun i : Fin n => toM n m A i) := by
  ext v
  simp only [Set.mem_image, Set.mem_ofPred_eq, Set.mem_range]
  constructor
  · rintro ⟨r, hr, rfl⟩
    obtain ⟨i, hi, rfl⟩ := List.mem_iff_getElem.mp hr
    refine ⟨⟨i, by omega⟩, ?_⟩
    rw [toM_row, List.getD_eq_getElem?_getD, List.getElem?_eq_getElem hi, Option.getD_some]
  · rintro ⟨i, rfl⟩
    have hi : i.val < A.length := by rw [hA]; exact i.isLt
    refine ⟨A[i.val], List.getElem_mem hi, ?_⟩
    rw [toM_row, List.getD_eq_getElem?_getD, List.getElem?_eq_getElem hi, Option.getD_some]

theorem mem_Lat_iff {n m : Nat} {A : Mat} (hA : A.length = n) (v : Fin m → ℤ) :
    v ∈ Lat m A ↔ InLattice n m A v := by
  unfold Lat InLattice
  rw [image_rows_eq_range hA, Submodule.mem_span_range_iff_exists_fun]
  simp only [Matrix.vecMul_eq_sum]

theorem hnfNew_full {m : Nat} {A : Mat} (hA : Wid m A) (hm : 0 < m) :
    ∃ H pv, NTV.Hnf.hnfNew A = some H ∧ Wid m H ∧ IsHNF H m pv ∧ Lat m H = Lat m A := by
  by_cases h0 : A = []
  · subst h0
    refine ⟨[], [], by simp [NTV.Hnf.hnfNew, hnfWithU], by intro r hr; simp at hr, ?_, rfl⟩
    exact ⟨rfl, List.Pairwise.nil, by simp, by simp, by simp, by simp⟩
  · have hn : 0 < A.length := List.length_pos_iff.mpr h0
    obtain ⟨H, U, k, W, pv, _, hH, R⟩ := Result.exists A A.length m hA.rect hn hm
    refine ⟨H, pv, hH, R.rectH.2, R.shape, ?_⟩
    apply le_antisymm
    · rw [Lat_le_iff]
      intro r hr
      obtain ⟨i, hi, rfl⟩ := List.mem_iff_getElem.mp hr
      have := R.row_in_lattice i (by rw [R.lenPv, ← R.lenH]; exact hi)
      rw [← mem_Lat_iff rfl] at this
      convert this using 1
      funext col
      simp [vec, ent, List.getD_eq_getElem?_getD, List.getElem?_eq_getElem hi]
    · intro v hv
      rw [mem_Lat_iff rfl] at hv
      obtain ⟨c, hc⟩ := R.lattice_as_sum v hv
      rw [mem_Lat_iff R.lenH]
      refine ⟨fun s => c s.val, ?_⟩
      funext col
      rw [hc col.val col.isLt, R.lenPv]
      simp only [Matrix.vecMul, dotProduct, toM]
      rw [Fin.sum_univ_eq_sum_range (fun s => c s * ent H s col.val) (A.length - k)]

theorem isHNF_bot {m : Nat} {H : Mat} {pv : List Nat} (h : IsHNF H m pv) (hb : Lat m H = ⊥) : H = [] := by
  by_contra hne
  have hl : 0 < H.length := List.length_pos_iff.mpr hne
  have hp : 0 < pv.length := by rw [h.len]; exact hl
  have h1 := h.pos 0 hp
  have h2 : vec m H[0] ∈ Lat m H := row_mem_Lat (List.getElem_mem hl)
  rw [hb, Submodule.mem_bot] at h2
  have h3 := congrFun h2 ⟨pv[0], h.lt _ (List.getElem_mem hp)⟩
  simp only [vec, Pi.zero_apply] at h3
  simp only [ent, List.getD_eq_getElem?_getD, List.getElem?_eq_getElem hl, Option.getD_some] at h1
  rw [List.getD_eq_getElem?_getD] at h3
  omega

theorem hnfNew_bot {m : Nat} {A : Mat} (hA : Wid m A) (hm : 0 < m) (hb : Lat m A = ⊥) :
    NTV.Hnf.hnfNew A = some [] := by
  obtain ⟨H, pv, h1, _, h3, h4⟩ := hnfNew_full hA hm
  rw [h1, isHNF_bot h3 (h4.trans hb)]

theorem hnfNew_canonical {m : Nat} {A A' : Mat} (hA : Wid m A) (hA' : Wid m A') (hm : 0 < m)
    (h : Lat m A = Lat m A') : NTV.Hnf.hnfNew A = NTV.Hnf.hnfNew A' := by
  by_cases h0 : A = []
  · have hb : Lat m A = ⊥ := by rw [h0, Lat_nil]
    rw [hnfNew_bot hA hm hb, hnfNew_bot hA' hm (h ▸ hb)]
  by_cases h0' : A' = []
  · have hb : Lat m A' = ⊥ := by rw [h0', Lat_nil]
    rw [hnfNew_bot hA' hm hb, hnfNew_bot hA hm (h ▸ hb)]
  exact hnf_canonical A A' A.length A'.length m hA.rect hA'.rect (List.length_pos_iff.mpr h0)
    (List.length_pos_iff.mpr h0') hm (fun v => by rw [← mem_Lat_iff rfl, ← mem_Lat_iff rfl, h])

theorem hnfNew_eq_iff {m : Nat} {A A' : Mat} (hA : Wid m A) (hA' : Wid m A') (hm : 0 < m) :
    NTV.Hnf.hnfNew A = NTV.Hnf.hnfNew A' ↔ Lat m A = Lat m A' := by
  refine ⟨fun h => ?_, hnfNew_canonical hA hA' hm⟩
  obtain ⟨H, pv, h1, _, _, h4⟩ := hnfNew_full hA hm
  obtain ⟨H', pv', h1', _, _, h4'⟩ := hnfNew_full hA' hm
  rw [h1, h1'] at h
  cases h
  rw [← h4, h4']


theorem ideal_hnfNew_ok {A H : Mat} : NTV.Ideal.hnfNew A = .ok H ↔ NTV.Hnf.hnfNew A = some H := by
  unfold NTV.Ideal.hnfNew
  cases h : NTV.Hnf.hnfNew A <;> simp

theorem ideal_hnfNew_congr {A A' : Mat} (h : NTV.Hnf.hnfNew A = NTV.Hnf.hnfNew A') :
    NTV.Ideal.hnfNew A = NTV.Ideal.hnfNew A' := by
  unfold NTV.Ideal.hnfNew; rw [h]

theorem ideal_hnfNew_total {m : Nat} {A : Mat} (hA : Wid m A) (hm : 0 < m) :
    ∃ H pv, NTV.Ideal.hnfNew A = .ok H ∧ Wid m H ∧ IsHNF H m pv ∧ Lat m H = Lat m A := by
  obtain ⟨H, pv, h1, h2, h3, h4⟩ := hnfNew_full hA hm
  exact ⟨H, pv, ideal_hnfNew_ok.mpr h1, h2, h3, h4⟩

theorem ideal_hnfNew_spec {m : Nat} {A H : Mat} (hA : Wid m A) (hm : 0 < m)
    (h : NTV.Ideal.hnfNew A = .ok H) : Wid m H ∧ (∃ pv, IsHNF H m pv) ∧ Lat m H = Lat m A := by
  obtain ⟨H', pv, h1, h2, h3, h4⟩ := ideal_hnfNew_total hA hm
  rw [h] at h1; cases h1
  exact ⟨h2, ⟨pv, h3⟩, h4⟩

theorem ideal_hnfNew_idem {m : Nat} {A H : Mat} (hA : Wid m A) (hm : 0 < m)
    (h : NTV.Ideal.hnfNew A = .ok H) : NTV.Ideal.hnfNew H = .ok H := by
  obtain ⟨h2, _, h4⟩ := ideal_hnfNew_spec hA hm h
  rw [ideal_hnfNew_congr (hnfNew_canonical h2 hA hm h4), h]

theorem mapM_ok {α β : Type} (f : α → Except String β) (g : α → β) (l : List α)
    (h : ∀ x ∈ l, f x = .ok (g x)) : l.mapM f = .ok (l.map g) :=
  NTV.Ord.mapM_ok l f g h

end NTV.IdealP
