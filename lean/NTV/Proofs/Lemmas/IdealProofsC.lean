import NTV.Proofs.Lemmas.IdealProofsB
import NTV.Proofs.Lemmas.HnfDet
/-! # Ideals, part C: what `add`, `mul`, `principal`, `contains`, `capZ` of the ideal model compute,
in terms of lattices. -/
namespace NTV.IdealP
open NTV.Hnf NTV.Ord Finset
open NTV.Ideal (add mul principal contains capZ)


theorem add_total {m : Nat} {I J : Mat} (hI : Wid m I) (hJ : Wid m J) (hm : 0 < m) :
    ∃ S, add I J = .ok S ∧ Wid m S ∧ (∃ pv, IsHNF S m pv) ∧ Lat m S = Lat m I ⊔ Lat m J := by
  obtain ⟨S, pv, h1, h2, h3, h4⟩ := ideal_hnfNew_total (hI.append hJ) hm
  exact ⟨S, h1, h2, ⟨pv, h3⟩, by rw [h4, Lat_append]⟩

theorem add_spec {m : Nat} {I J S : Mat} (hI : Wid m I) (hJ : Wid m J) (hm : 0 < m) (h : add I J = .ok S) :
    Wid m S ∧ (∃ pv, IsHNF S m pv) ∧ Lat m S = Lat m I ⊔ Lat m J :=
  of_total (add_total hI hJ hm) h


/-- the product lattice `p·q`: the ℤ-span of the products `x ⋆ y`, `x ∈ p`, `y ∈ q`. Memberships go through the three
lemmas below (unfolding `starB` to `⋆` inside a membership is slow in the kernel); the lemmas that compare it with a
span or a sum (`prodLat_Lat_eq_span`, `mul_add_distrib_core`) unfold it to use Mathlib's `map₂` lemmas. -/
abbrev prodLat (t : Table) (n : Nat) (p q : Submodule ℤ (Fin n → ℤ)) : Submodule ℤ (Fin n → ℤ) :=
  Submodule.map₂ (starB t n) p q

section prodLat
variable {t : Table} {n : Nat}

theorem prodLat_le {p q r : Submodule ℤ (Fin n → ℤ)} :
    prodLat t n p q ≤ r ↔ ∀ x ∈ p, ∀ y ∈ q, star t n x y ∈ r := Submodule.map₂_le

theorem star_mem_prodLat {p q : Submodule ℤ (Fin n → ℤ)} {x y : Fin n → ℤ} (hx : x ∈ p) (hy : y ∈ q) :
    star t n x y ∈ prodLat t n p q := Submodule.apply_mem_map₂ (starB t n) hx hy

theorem mem_comap_star {r : Submodule ℤ (Fin n → ℤ)} {a v : Fin n → ℤ} :
    v ∈ Submodule.comap (starB t n a) r ↔ star t n a v ∈ r := Iff.rfl

theorem prodLat_comm (T : TableRing t n) (p q : Submodule ℤ (Fin n → ℤ)) : prodLat t n p q = prodLat t n q p :=
  have h : ∀ p q : Submodule ℤ (Fin n → ℤ), prodLat t n p q ≤ prodLat t n q p := fun _ _ =>
    prodLat_le.mpr fun x hx y hy => T.star_comm x y ▸ star_mem_prodLat hy hx
  le_antisymm (h p q) (h q p)

theorem prodLat_assoc_le (T : TableRing t n) (p q r : Submodule ℤ (Fin n → ℤ)) :
    prodLat t n (prodLat t n p q) r ≤ prodLat t n p (prodLat t n q r) := by
  refine prodLat_le.mpr fun m hm c hc => ?_
  -- for fixed `c`, the `m` with `c ⋆ m` in the right-hand side form a submodule containing the generators
  have : prodLat t n p q ≤ Submodule.comap (starB t n c) (prodLat t n p (prodLat t n q r)) := by
    refine prodLat_le.mpr fun a ha b hb => ?_
    rw [mem_comap_star, T.star_comm, T.star_assoc]
    exact star_mem_prodLat ha (star_mem_prodLat hb hc)
  have h := this hm
  rw [mem_comap_star, T.star_comm] at h
  exact h

theorem prodLat_assoc (T : TableRing t n) (p q r : Submodule ℤ (Fin n → ℤ)) :
    prodLat t n (prodLat t n p q) r = prodLat t n p (prodLat t n q r) := by
  apply le_antisymm (prodLat_assoc_le T p q r)
  rw [prodLat_comm T p, prodLat_comm T q r]
  refine le_trans (prodLat_assoc_le T r q p) ?_
  rw [prodLat_comm T r, prodLat_comm T q p]

end prodLat

/-- the generating rows handed to the normal form by `mul` -/
def prodRows (t : Table) (I J : Mat) : Mat := (I.map (fun v => J.map (fun w => tmulV t v w))).flatten

theorem mem_prodRows {t : Table} {I J : Mat} {r : Row} :
    r ∈ prodRows t I J ↔ ∃ v ∈ I, ∃ w ∈ J, tmulV t v w = r := by
  simp only [prodRows, List.mem_flatten, List.mem_map]
  constructor
  · rintro ⟨l, ⟨v, hv, rfl⟩, hr⟩
    obtain ⟨w, hw, rfl⟩ := List.mem_map.mp hr
    exact ⟨v, hv, w, hw, rfl⟩
  · rintro ⟨v, hv, w, hw, rfl⟩
    exact ⟨_, ⟨v, hv, rfl⟩, List.mem_map.mpr ⟨w, hw, rfl⟩⟩

theorem mul_eq {t : Table} {n : Nat} {I J : Mat} (ht : t.length = n) (hI : Wid n I) (hJ : Wid n J) :
    mul t I J = NTV.Ideal.hnfNew (prodRows t I J) := by
  unfold mul
  have h1 : I.mapM (fun v => J.mapM (fun w => tmul t v w)) =
      .ok (I.map (fun v => J.map (fun w => tmulV t v w))) := by
    apply mapM_ok
    intro v hv
    apply mapM_ok
    intro w hw
    exact tmul_eq ht (hI v hv) (hJ w hw)
  rw [h1]; rfl

theorem Wid_prodRows {t : Table} {n : Nat} {I J : Mat} (hI : Wid n I) : Wid n (prodRows t I J) := by
  intro r hr
  obtain ⟨v, hv, w, _, rfl⟩ := mem_prodRows.mp hr
  rw [tmulV_length, hI v hv]

theorem prodLat_Lat_eq_span {t : Table} {n : Nat} (I J : Mat) :
    prodLat t n (Lat n I) (Lat n J) =
      Submodule.span ℤ {u | ∃ v ∈ I, ∃ w ∈ J, u = star t n (vec n v) (vec n w)} := by
  unfold Lat prodLat
  rw [Submodule.map₂_span_span]
  congr 1
  ext u
  simp only [Set.mem_image, Set.mem_image2, Set.mem_ofPred_eq]
  constructor
  · rintro ⟨_, ⟨v, hv, rfl⟩, _, ⟨w, hw, rfl⟩, rfl⟩
    exact ⟨v, hv, w, hw, rfl⟩
  · rintro ⟨v, hv, w, hw, rfl⟩
    exact ⟨vec n v, ⟨v, hv, rfl⟩, vec n w, ⟨w, hw, rfl⟩, rfl⟩

theorem Lat_prodRows {t : Table} {n : Nat} {I J : Mat} (hI : Wid n I) :
    Lat n (prodRows t I J) = prodLat t n (Lat n I) (Lat n J) := by
  rw [prodLat_Lat_eq_span]
  refine congrArg (Submodule.span ℤ) (Set.ext fun u => ?_)
  constructor
  · rintro ⟨r, hr, rfl⟩
    obtain ⟨v, hv, w, hw, rfl⟩ := mem_prodRows.mp hr
    exact ⟨v, hv, w, hw, vec_tmulV (hI v hv)⟩
  · rintro ⟨v, hv, w, hw, rfl⟩
    exact ⟨tmulV t v w, mem_prodRows.mpr ⟨v, hv, w, hw, rfl⟩, vec_tmulV (hI v hv)⟩

theorem mul_total {t : Table} {n : Nat} {I J : Mat} (ht : t.length = n) (hn : 0 < n) (hI : Wid n I)
    (hJ : Wid n J) :
    ∃ P, mul t I J = .ok P ∧ Wid n P ∧ (∃ pv, IsHNF P n pv) ∧
      Lat n P = prodLat t n (Lat n I) (Lat n J) := by
  obtain ⟨P, pv, h1, h2, h3, h4⟩ := ideal_hnfNew_total (Wid_prodRows (t := t) (J := J) hI) hn
  exact ⟨P, by rw [mul_eq ht hI hJ, h1], h2, ⟨pv, h3⟩, by rw [h4, Lat_prodRows hI]⟩

theorem mul_spec {t : Table} {n : Nat} {I J P : Mat} (ht : t.length = n) (hn : 0 < n) (hI : Wid n I)
    (hJ : Wid n J) (h : mul t I J = .ok P) :
    Wid n P ∧ (∃ pv, IsHNF P n pv) ∧ Lat n P = prodLat t n (Lat n I) (Lat n J) :=
  of_total (mul_total ht hn hI hJ) h

theorem mul_congr {t : Table} {n : Nat} {I J I' J' : Mat} (ht : t.length = n) (hn : 0 < n)
    (hI : Wid n I) (hJ : Wid n J) (hI' : Wid n I') (hJ' : Wid n J')
    (h : prodLat t n (Lat n I) (Lat n J) = prodLat t n (Lat n I') (Lat n J')) :
    mul t I J = mul t I' J' := by
  rw [mul_eq ht hI hJ, mul_eq ht hI' hJ']
  apply ideal_hnfNew_congr
  apply hnfNew_canonical (Wid_prodRows hI) (Wid_prodRows hI') hn
  rw [Lat_prodRows hI, Lat_prodRows hI', h]

theorem mem_map₂_iff_list {n : Nat} (f : (Fin n → ℤ) →ₗ[ℤ] (Fin n → ℤ) →ₗ[ℤ] (Fin n → ℤ))
    (p q : Submodule ℤ (Fin n → ℤ)) (u : Fin n → ℤ) :
    u ∈ Submodule.map₂ f p q ↔
      ∃ l : List ((Fin n → ℤ) × (Fin n → ℤ)), (∀ xy ∈ l, xy.1 ∈ p ∧ xy.2 ∈ q) ∧
        u = (l.map (fun xy => f xy.1 xy.2)).sum := by
  constructor
  · intro hu
    rw [Submodule.map₂_eq_span_image2] at hu
    induction hu using Submodule.span_induction with
    | mem x hx =>
      obtain ⟨a, ha, b, hb, rfl⟩ := hx
      exact ⟨[(a, b)], by simpa using ⟨ha, hb⟩, by simp⟩
    | zero => exact ⟨[], by simp, by simp⟩
    | add x y _ _ ihx ihy =>
      obtain ⟨l1, h1, rfl⟩ := ihx
      obtain ⟨l2, h2, rfl⟩ := ihy
      refine ⟨l1 ++ l2, ?_, by simp⟩
      intro xy hxy
      rcases List.mem_append.mp hxy with h | h
      · exact h1 xy h
      · exact h2 xy h
    | smul c x _ ih =>
      obtain ⟨l, h1, rfl⟩ := ih
      refine ⟨l.map (fun xy => (c • xy.1, xy.2)), ?_, ?_⟩
      · intro xy hxy
        obtain ⟨xy', h', rfl⟩ := List.mem_map.mp hxy
        exact ⟨p.smul_mem c (h1 xy' h').1, (h1 xy' h').2⟩
      · rw [List.smul_sum, List.map_map, List.map_map]
        congr 1
        apply List.map_congr_left
        intro xy _
        simp only [Function.comp, map_smul, LinearMap.smul_apply]
  · rintro ⟨l, hl, rfl⟩
    apply list_sum_mem
    intro x hx
    obtain ⟨xy, hxy, rfl⟩ := List.mem_map.mp hx
    exact Submodule.apply_mem_map₂ f (hl xy hxy).1 (hl xy hxy).2




/-- the lattice of `I` is closed under multiplication by every element of ℤⁿ (the order) -/
def IsOIdeal (t : Table) (n : Nat) (I : Mat) : Prop :=
  ∀ a : Fin n → ℤ, ∀ v ∈ Lat n I, star t n a v ∈ Lat n I

theorem isOIdeal_of_basis {t : Table} {n : Nat} {I : Mat}
    (h : ∀ i : Fin n, ∀ v ∈ Lat n I, star t n (e n i) v ∈ Lat n I) : IsOIdeal t n I := by
  intro a v hv
  rw [star_sum_e_left]
  exact Submodule.sum_mem _ (fun i _ => Submodule.smul_mem _ _ (h i v hv))

theorem isOIdeal_iff {t : Table} {n : Nat} {I : Mat} :
    IsOIdeal t n I ↔ ∀ a, Lat n I ≤ Submodule.comap (starB t n a) (Lat n I) := Iff.rfl

theorem isOIdeal_of_lat_sup {t : Table} {n : Nat} {I J S : Mat} (hS : Lat n S = Lat n I ⊔ Lat n J)
    (hI : IsOIdeal t n I) (hJ : IsOIdeal t n J) : IsOIdeal t n S := by
  intro a v hv
  rw [hS] at hv ⊢
  obtain ⟨x, hx, y, hy, rfl⟩ := Submodule.mem_sup.mp hv
  rw [star_add_right]
  exact Submodule.add_mem_sup (hI a x hx) (hJ a y hy)

theorem isOIdeal_of_lat_mul {t : Table} {n : Nat} (T : TableRing t n) {I J P : Mat}
    (hP : Lat n P = prodLat t n (Lat n I) (Lat n J)) (hI : IsOIdeal t n I) :
    IsOIdeal t n P := by
  intro a
  show Lat n P ≤ Submodule.comap (starB t n a) (Lat n P)
  rw [hP]
  refine prodLat_le.mpr fun x hx y hy => ?_
  rw [mem_comap_star, ← T.star_assoc]
  exact star_mem_prodLat (hI a x hx) hy

/-- the rows handed to the normal form by `principal` -/
def prinRows (t : Table) (n : Nat) (x : List Int) : Mat :=
  (List.range n).map (fun i => tmulV t x (NTV.Ideal.unit n i))

theorem principal_eq {t : Table} {n : Nat} {x : List Int} (ht : t.length = n) (hx : x.length = n) :
    principal t x = NTV.Ideal.hnfNew (prinRows t n x) := by
  unfold principal
  have h1 : (List.range t.length).mapM (fun i => tmul t x (NTV.Ideal.unit t.length i)) =
      .ok (prinRows t n x) := by
    rw [ht]
    apply mapM_ok
    intro i _
    exact tmul_eq ht hx (unit_length n i)
  simp only [ht, hx, ne_eq, not_true_eq_false, ↓reduceIte] at h1 ⊢
  rw [h1]; rfl

theorem Wid_prinRows {t : Table} {n : Nat} {x : List Int} (hx : x.length = n) : Wid n (prinRows t n x) := by
  intro r hr
  obtain ⟨i, _, rfl⟩ := List.mem_map.mp hr
  rw [tmulV_length, hx]

theorem span_e_top (n : Nat) : Submodule.span ℤ (Set.range (e n)) = ⊤ := by
  rw [eq_top_iff]
  intro x _
  rw [eq_sum_e x]
  exact Submodule.sum_mem _ (fun i _ => Submodule.smul_mem _ _ (Submodule.subset_span ⟨i, rfl⟩))

theorem Lat_prinRows {t : Table} {n : Nat} {x : List Int} (hx : x.length = n) :
    Lat n (prinRows t n x) = LinearMap.range (starB t n (vec n x)) := by
  rw [LinearMap.range_eq_map, ← span_e_top n, Submodule.map_span]
  unfold Lat
  congr 1
  ext u
  simp only [Set.mem_image, Set.mem_ofPred_eq, Set.mem_range]
  constructor
  · rintro ⟨r, hr, rfl⟩
    obtain ⟨i, hi, rfl⟩ := List.mem_map.mp hr
    have hi' : i < n := List.mem_range.mp hi
    exact ⟨e n ⟨i, hi'⟩, ⟨⟨i, hi'⟩, rfl⟩, by rw [starB_apply, vec_tmulV hx, ← vec_unit n ⟨i, hi'⟩]⟩
  · rintro ⟨_, ⟨i, rfl⟩, rfl⟩
    exact ⟨tmulV t x (NTV.Ideal.unit n i.val), List.mem_map.mpr ⟨i.val, List.mem_range.mpr i.isLt, rfl⟩,
      by rw [starB_apply, vec_tmulV hx, vec_unit]⟩

theorem principal_total {t : Table} {n : Nat} (T : TableRing t n) {x : List Int} (hx : x.length = n) :
    ∃ P, principal t x = .ok P ∧ Wid n P ∧ (∃ pv, IsHNF P n pv) ∧
      Lat n P = LinearMap.range (starB t n (vec n x)) ∧ IsOIdeal t n P := by
  obtain ⟨P, pv, h1, h2, h3, h4⟩ := ideal_hnfNew_total (Wid_prinRows (t := t) hx) T.pos
  have hL : Lat n P = LinearMap.range (starB t n (vec n x)) := by rw [h4, Lat_prinRows hx]
  refine ⟨P, by rw [principal_eq T.len hx, h1], h2, ⟨pv, h3⟩, hL, ?_⟩
  intro a v hv
  rw [hL] at hv ⊢
  obtain ⟨y, rfl⟩ := hv
  refine ⟨star t n a y, ?_⟩
  simp only [starB_apply]
  rw [← T.star_assoc, T.star_comm (vec n x) a, T.star_assoc]

theorem principal_spec {t : Table} {n : Nat} (T : TableRing t n) {x : List Int} {P : Mat} (hx : x.length = n)
    (h : principal t x = .ok P) :
    Wid n P ∧ (∃ pv, IsHNF P n pv) ∧ Lat n P = LinearMap.range (starB t n (vec n x)) ∧ IsOIdeal t n P :=
  of_total (principal_total T hx) h


theorem range_star_le_iff {t : Table} {n : Nat} (T : TableRing t n) {I : Mat} (hI : IsOIdeal t n I)
    (x : Fin n → ℤ) : LinearMap.range (starB t n x) ≤ Lat n I ↔ x ∈ Lat n I := by
  constructor
  · intro h
    have : x = starB t n x (e n ⟨0, T.pos⟩) := by rw [starB_apply, T.star_one]
    rw [this]
    exact h ⟨_, rfl⟩
  · rintro hx _ ⟨y, rfl⟩
    rw [starB_apply, T.star_comm]
    exact hI y x hx

theorem contains_spec {t : Table} {n : Nat} (T : TableRing t n) {I₀ I : Mat} (hI₀ : Wid n I₀)
    (hnf : NTV.Ideal.hnfNew I₀ = .ok I) (hI : IsOIdeal t n I) {x : List Int} (hx : x.length = n) :
    ∃ b, contains t I x = .ok b ∧ (b = true ↔ vec n x ∈ Lat n I) := by
  obtain ⟨hW, _, _⟩ := ideal_hnfNew_spec hI₀ T.pos hnf
  obtain ⟨P, hP, hPW, _, hPL, _⟩ := principal_total T hx
  obtain ⟨S, hS, hSW, _, hSL⟩ := add_total hW hPW T.pos
  refine ⟨S == I, by simp [contains, hP, hS, bind, Except.bind, pure, Except.pure], ?_⟩
  rw [beq_iff_eq, ← range_star_le_iff T hI, ← hPL]
  have hidem := ideal_hnfNew_idem hI₀ T.pos hnf
  constructor
  · intro h
    subst h
    rw [hSL]; exact le_sup_right
  · intro h
    have : NTV.Ideal.hnfNew (I ++ P) = NTV.Ideal.hnfNew I := by
      apply ideal_hnfNew_congr
      apply hnfNew_canonical (hW.append hPW) hW T.pos
      rw [Lat_append]; exact sup_eq_left.mpr h
    have h2 : add I P = .ok I := by unfold add; rw [this, hidem]
    rw [hS] at h2; cases h2; rfl


theorem mem_Lat_iff_sum {m : Nat} {A : Mat} (v : Fin m → ℤ) :
    v ∈ Lat m A ↔ ∃ c : ℕ → ℤ, ∀ col (hc : col < m), v ⟨col, hc⟩ = ∑ s ∈ range A.length, c s * ent A s col := by
  rw [mem_Lat_iff (n := A.length) rfl]
  constructor
  · rintro ⟨c, rfl⟩
    refine ⟨fun s => if h : s < A.length then c ⟨s, h⟩ else 0, ?_⟩
    intro col hc
    simp only [Matrix.vecMul, dotProduct, toM]
    rw [← Fin.sum_univ_eq_sum_range (fun s => (if h : s < A.length then c ⟨s, h⟩ else 0) * ent A s col)]
    apply Finset.sum_congr rfl
    intro s _
    simp
  · rintro ⟨c, hc⟩
    refine ⟨fun s => c s.val, ?_⟩
    funext col
    rw [hc col.val col.isLt]
    simp only [Matrix.vecMul, dotProduct, toM]
    rw [Fin.sum_univ_eq_sum_range (fun s => c s * ent A s col.val)]

theorem capZ_core {n : Nat} (hn : 0 < n) {I : Mat} {pv : List Nat} (hW : Wid n I) (hH : IsHNF I n pv)
    (hfull : I.length = n) :
    ∃ c, capZ I = .ok c ∧ 0 < c ∧ ∀ z : ℤ, z • e n ⟨0, hn⟩ ∈ Lat n I ↔ c ∣ z := by
  have hpvlen : pv.length = n := by rw [hH.len, hfull]
  have hid := pairwise_lt_eq_id pv n hpvlen hH.incr hH.lt
  have h0 : 0 < pv.length := by omega
  have hpv0 : pv[0] = 0 := hid 0 h0
  have hpos : 0 < ent I 0 0 := by have := hH.pos 0 h0; rwa [hpv0] at this
  have hlast : ∀ col, 0 < col → col < n → ent I 0 col = 0 := by
    intro col h1 h2; have := hH.last 0 h0 col (by rw [hpv0]; exact h1) h2; exact this
  obtain ⟨r0, rs, rfl⟩ : ∃ r0 rs, I = r0 :: rs := by
    cases I with
    | nil => simp at hfull; omega
    | cons r0 rs => exact ⟨r0, rs, rfl⟩
  have hr0 : r0.length = n := hW r0 List.mem_cons_self
  obtain ⟨x, xs, rfl⟩ : ∃ x xs, r0 = x :: xs := by
    cases r0 with
    | nil => simp at hr0; omega
    | cons x xs => exact ⟨x, xs, rfl⟩
  have hx : ent ((x :: xs) :: rs) 0 0 = x := rfl
  refine ⟨x, rfl, by rw [← hx]; exact hpos, ?_⟩
  intro z
  constructor
  · intro hz
    by_cases hz0 : z = 0
    · rw [hz0]; exact dvd_zero _
    obtain ⟨c, hc⟩ := (mem_Lat_iff_sum _).mp hz
    have hF := hH.toF
    have hlen : ((x :: xs) :: rs).length = pv.length := hH.len.symm
    obtain ⟨s0, hs0, hp, hv, _⟩ := NTV.HnfU.pivot_match hF
      (fun col => if h : col < n then (z • e n ⟨0, hn⟩) ⟨col, h⟩ else 0) c
      (by intro col hcol; simp only [hcol, ↓reduceDIte]; rw [hc col hcol, hlen])
      0 hn (by simp [e, hn, hz0])
      (by
        intro col h1 h2
        have : (⟨col, h2⟩ : Fin n) ≠ ⟨0, hn⟩ := by intro h; cases h; omega
        simp [e, h2, this])
    have hs00 : s0 = 0 := by rw [hid s0 hs0] at hp; exact hp
    subst hs00
    simp only [hn, ↓reduceDIte, e, Pi.smul_apply, Pi.single_eq_same, smul_eq_mul, mul_one] at hv
    rw [hx] at hv
    exact ⟨c 0, by rw [hv]; ring⟩
  · rintro ⟨q, rfl⟩
    have hrow : vec n (x :: xs) ∈ Lat n ((x :: xs) :: rs) := row_mem_Lat List.mem_cons_self
    have : (x * q) • e n ⟨0, hn⟩ = q • vec n (x :: xs) := by
      funext k
      by_cases hk : k = ⟨0, hn⟩
      · subst hk; simp [e, vec, mul_comm]
      · have hk0 : 0 < k.val := by
          rcases Nat.eq_zero_or_pos k.val with h | h
          · exact absurd (Fin.ext h) hk
          · exact h
        have := hlast k.val hk0 k.isLt
        simp only [ent, List.getD_eq_getElem?_getD, List.getElem?_cons_zero, Option.getD_some] at this
        simp [e, vec, hk, this]
    rw [this]
    exact Submodule.smul_mem _ _ hrow


theorem mul_add_distrib_core {t : Table} {n : Nat} {I J K S IJ IK : Mat} (ht : t.length = n) (hn : 0 < n)
    (hI : Wid n I) (hJ : Wid n J) (hK : Wid n K) (hS : add J K = .ok S) (hIJ : mul t I J = .ok IJ)
    (hIK : mul t I K = .ok IK) : mul t I S = add IJ IK := by
  obtain ⟨hSW, _, hSL⟩ := add_spec hJ hK hn hS
  obtain ⟨hIJW, _, hIJL⟩ := mul_spec ht hn hI hJ hIJ
  obtain ⟨hIKW, _, hIKL⟩ := mul_spec ht hn hI hK hIK
  rw [mul_eq ht hI hSW]
  unfold add
  apply ideal_hnfNew_congr
  apply hnfNew_canonical (Wid_prodRows hI) (hIJW.append hIKW) hn
  rw [Lat_prodRows hI, Lat_append, hSL, prodLat, Submodule.map₂_sup_right, hIJL, hIKL]

end NTV.IdealP
