import NTV.Proofs.Lemmas.IdealProofsA
/-! # Ideals, part D: `TableRing` can be checked on basis vectors, or on the structure constants of the table
(decidable conditions; the ring laws extend from the basis by linearity). -/
namespace NTV.IdealP
open NTV.Hnf NTV.Ord Finset

theorem tableRing_of_star {t : Table} {n : Nat} (pos : 0 < n) (len : t.length = n)
    (shape : ∀ r ∈ t, r.length = n ∧ ∀ s ∈ r, s.length = n)
    (hc : ∀ x y, star t n x y = star t n y x)
    (ha : ∀ x y z, star t n (star t n x y) z = star t n x (star t n y z))
    (h1 : ∀ x, star t n (e n ⟨0, pos⟩) x = x) : TableRing t n where
  pos := pos
  len := len
  shape := shape
  comm := fun x y hx hy => (tmul_eq_tmul_iff len hx hy hy hx).mpr (hc _ _)
  assoc := by
    intro x y z xy yz hx hy hz hxy hyz
    obtain ⟨lxy, vxy⟩ := tmul_ok_vec len hx hy hxy
    obtain ⟨lyz, vyz⟩ := tmul_ok_vec len hy hz hyz
    rw [tmul_eq_tmul_iff len lxy hz hx lyz, vxy, vyz, ha]
  one := by
    intro x hx
    rw [tmul_eq len (unit_length n 0) hx]
    congr 1
    apply vec_inj (n := n) (by rw [tmulV_length, unit_length]) hx
    rw [vec_tmulV (unit_length n 0), vec_unit n ⟨0, pos⟩, h1]

/-- the ring axioms on basis vectors, for the model function `tmul` (all quantifiers bounded: decidable) -/
def TableRingBasis (t : Table) (n : Nat) : Prop :=
  0 < n ∧ t.length = n ∧ (∀ r ∈ t, r.length = n ∧ ∀ s ∈ r, s.length = n) ∧
  (∀ i < n, ∀ j < n, tmul t (NTV.Ideal.unit n i) (NTV.Ideal.unit n j)
      = tmul t (NTV.Ideal.unit n j) (NTV.Ideal.unit n i)) ∧
  (∀ i < n, ∀ j < n, ∀ k < n,
    (tmul t (NTV.Ideal.unit n i) (NTV.Ideal.unit n j) >>= fun a => tmul t a (NTV.Ideal.unit n k))
      = (tmul t (NTV.Ideal.unit n j) (NTV.Ideal.unit n k) >>= fun b => tmul t (NTV.Ideal.unit n i) b)) ∧
  (∀ j < n, tmul t (NTV.Ideal.unit n 0) (NTV.Ideal.unit n j) = .ok (NTV.Ideal.unit n j))

instance (t : Table) (n : Nat) : Decidable (TableRingBasis t n) := by
  unfold TableRingBasis; infer_instance

theorem lin_ext {n : Nat} {M : Type*} [AddCommGroup M] {f g : (Fin n → ℤ) →ₗ[ℤ] M}
    (h : ∀ i, f (e n i) = g (e n i)) : f = g :=
  (Pi.basisFun ℤ (Fin n)).ext fun i => by rw [Pi.basisFun_apply]; exact h i

/-- both sides are linear in each of x, y, z: extend from the basis one argument at a time -/
theorem star_assoc_of_basis {t : Table} {n : Nat}
    (H : ∀ i j k : Fin n, star t n (star t n (e n i) (e n j)) (e n k) = star t n (e n i) (star t n (e n j) (e n k)))
    (x y z : Fin n → ℤ) : star t n (star t n x y) z = star t n x (star t n y z) := by
  have hx : ∀ j k x, star t n (star t n x (e n j)) (e n k) = star t n x (star t n (e n j) (e n k)) := fun j k =>
    LinearMap.congr_fun (lin_ext (f := (starR t n (e n k)).comp (starR t n (e n j)))
      (g := starR t n (star t n (e n j) (e n k))) fun i => H i j k)
  have hy : ∀ k y, star t n (star t n x y) (e n k) = star t n x (star t n y (e n k)) := fun k =>
    LinearMap.congr_fun (lin_ext (f := (starR t n (e n k)).comp (starB t n x))
      (g := (starB t n x).comp (starR t n (e n k))) fun j => hx j k x)
  exact LinearMap.congr_fun (lin_ext (f := starB t n (star t n x y)) (g := (starB t n x).comp (starB t n y))
    fun k => hy k y) z

theorem star_comm_of_basis {t : Table} {n : Nat}
    (H : ∀ i j : Fin n, star t n (e n i) (e n j) = star t n (e n j) (e n i))
    (x y : Fin n → ℤ) : star t n x y = star t n y x := by
  have h : ∀ i, star t n (e n i) y = star t n y (e n i) := fun i => by
    rw [star_sum_e_right, star_sum_e_left t n y]
    simp only [H]
  rw [star_sum_e_left, star_sum_e_right t n y x]
  simp only [h]

theorem one_star_of_basis {t : Table} {n : Nat} (pos : 0 < n)
    (H : ∀ j : Fin n, star t n (e n ⟨0, pos⟩) (e n j) = e n j) (x : Fin n → ℤ) :
    star t n (e n ⟨0, pos⟩) x = x :=
  LinearMap.congr_fun (lin_ext H : starB t n (e n ⟨0, pos⟩) = LinearMap.id) x

theorem TableRing.of_basis {t : Table} {n : Nat} (h : TableRingBasis t n) : TableRing t n := by
  obtain ⟨pos, len, shape, hc, ha, h1⟩ := h
  have hu : ∀ i, (NTV.Ideal.unit n i).length = n := unit_length n
  apply tableRing_of_star pos len shape
  · apply star_comm_of_basis
    intro i j
    have h := (tmul_eq_tmul_iff len (hu i) (hu j) (hu j) (hu i)).mp (hc i i.isLt j j.isLt)
    rwa [vec_unit, vec_unit] at h
  · apply star_assoc_of_basis
    intro i j k
    have h := ha i i.isLt j j.isLt k k.isLt
    have lij : (tmulV t (NTV.Ideal.unit n i) (NTV.Ideal.unit n j)).length = n := by rw [tmulV_length, hu]
    have ljk : (tmulV t (NTV.Ideal.unit n j) (NTV.Ideal.unit n k)).length = n := by rw [tmulV_length, hu]
    rw [tmul_eq len (hu i) (hu j), tmul_eq len (hu j) (hu k)] at h
    simp only [bind, Except.bind] at h
    have h := (tmul_eq_tmul_iff len lij (hu k) (hu i) ljk).mp h
    rwa [vec_tmulV (hu i), vec_tmulV (hu j), vec_unit, vec_unit, vec_unit] at h
  · apply one_star_of_basis pos
    intro j
    have h := h1 j j.isLt
    rw [tmul_eq len (hu 0) (hu j)] at h
    have h' := congrArg (vec n) (Except.ok.inj h)
    rwa [vec_tmulV (hu 0), vec_unit n ⟨0, pos⟩, vec_unit] at h'

theorem star_e_right (t : Table) (n : Nat) (x : Fin n → ℤ) (k m : Fin n) :
    star t n x (e n k) m = ∑ l, x l * tent t l k m := by
  simp only [star, e, Pi.single_apply, mul_ite, mul_one, mul_zero, ite_mul, zero_mul, sum_ite_eq', mem_univ,
    ↓reduceIte]

theorem star_e_left (t : Table) (n : Nat) (i : Fin n) (y : Fin n → ℤ) (m : Fin n) :
    star t n (e n i) y m = ∑ l, y l * tent t i l m := by
  simp only [star, e, Pi.single_apply, ite_mul, one_mul, zero_mul, sum_ite_irrel, sum_const_zero, sum_ite_eq',
    mem_univ, ↓reduceIte]

/-- the ring axioms on the structure constants `t[i][j][k]` (all quantifiers bounded: decidable, and cheaper to
evaluate than `TableRingBasis`, which runs `tmul` four times for every triple) -/
def TableRingConsts (t : Table) (n : Nat) : Prop :=
  0 < n ∧ t.length = n ∧ (∀ r ∈ t, r.length = n ∧ ∀ s ∈ r, s.length = n) ∧
  (∀ i j k : Fin n, tent t i j k = tent t j i k) ∧
  (∀ i j k m : Fin n, ∑ l : Fin n, tent t i j l * tent t l k m = ∑ l : Fin n, tent t j k l * tent t i l m) ∧
  (∀ j k : Fin n, tent t 0 j k = if k = j then 1 else 0)

instance (t : Table) (n : Nat) : Decidable (TableRingConsts t n) := by
  unfold TableRingConsts; infer_instance

theorem TableRing.of_consts {t : Table} {n : Nat} (h : TableRingConsts t n) : TableRing t n := by
  obtain ⟨pos, len, shape, hc, ha, h1⟩ := h
  apply tableRing_of_star pos len shape
  · exact star_comm_of_basis fun i j => funext fun k => by rw [star_e_e, star_e_e, hc]
  · refine star_assoc_of_basis fun i j k => funext fun m => ?_
    rw [star_e_right, star_e_left]
    simp only [star_e_e]
    exact ha i j k m
  · refine one_star_of_basis pos fun j => funext fun k => ?_
    rw [star_e_e]
    exact (h1 j k).trans (Pi.single_apply j 1 k).symm

end NTV.IdealP
