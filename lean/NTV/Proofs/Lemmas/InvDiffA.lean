import NTV.Model.Ideal
import NTV.Proofs.Lemmas.OrdSpan
import NTV.Proofs.Lemmas.TableProofs2
import NTV.Proofs.Lemmas.HnfDet
import NTV.Proofs.Lemmas.IdealNormA
/-! C16 (inverse different) — `MultTable::get_inv_diff` (list level).

For an `n × n × n` table the routine builds the integer trace matrix `Tr`, inverts it over ℚ, clears the
denominators by their lcm `d` and normalises `d · Tr⁻¹`. Here: the routine returns exactly when
`det Tr ≠ 0`; then `norm(numerator) · |det Tr| = dⁿ`, and the numerator has the row lattice of the integer
matrix `S = d · Tr⁻¹`, `S · Tr = d · 1`. -/
open Matrix
namespace NTV.InvDiff
open NTV.Ord
open NTV.Ideal (getInvDiff HNF)
open NTV.RowOps (toM Rect ent)
open NTV.IdealP (Wid Lat)

/-- `Tr[i][j] = trace(ω_i ω_j)` as `MultTable::trace` computes it from the coordinate vector `t[i][j]` -/
def trEnt (t : Table) (n i j : Nat) : Int :=
  ∑ k : Fin n, ∑ l : Fin n, tent t i j k * tent t l k l

def traceMatrix (t : Table) (n : Nat) : Matrix (Fin n) (Fin n) ℤ := fun i j => trEnt t n i j

/-- the rational list matrix `tr_mat` built by `get_inv_diff` -/
def trList (t : Table) (n : Nat) : QMat :=
  (List.range n).map (fun i => (List.range n).map (fun j => ((trEnt t n i j : Int) : Rat)))

def Shape (t : Table) (n : Nat) : Prop := t.length = n ∧ ∀ r ∈ t, r.length = n ∧ ∀ s ∈ r, s.length = n

theorem trList_rect (t : Table) (n : Nat) : Rect n n (trList t n) := by
  refine ⟨by simp [trList], ?_⟩
  intro r hr
  simp only [trList, List.mem_map, List.mem_range] at hr
  obtain ⟨i, _, rfl⟩ := hr
  simp

theorem toM_trList (t : Table) (n : Nat) :
    toM n n (trList t n) = (traceMatrix t n).map (Int.castRingHom ℚ) := by
  ext i j
  simp [toM, ent, trList, traceMatrix, List.getD_eq_getElem?_getD, i.isLt, j.isLt]

theorem det_trList (t : Table) (n : Nat) :
    (toM n n (trList t n)).det = (((traceMatrix t n).det : ℤ) : ℚ) := by
  rw [toM_trList]
  exact ((Int.castRingHom ℚ).map_det _).symm

theorem ttrace_entry (t : Table) (n : Nat) (hs : Shape t n) (i j : Nat) (hi : i < n) (hj : j < n) :
    ∃ (hi' : i < t.length) (hj' : j < (t[i]).length),
      ttrace t ((t[i])[j]) = .ok (trEnt t n i j) := by
  have hi' : i < t.length := by rw [hs.1]; exact hi
  have hrow := hs.2 _ (List.getElem_mem hi')
  have hj' : j < (t[i]).length := by rw [hrow.1]; exact hj
  have hv : ((t[i])[j]).length = n := hrow.2 _ (List.getElem_mem hj')
  refine ⟨hi', hj', ?_⟩
  rw [ttrace_eq t _ hs.1 (by omega)]
  congr 1
  unfold trEnt
  apply Finset.sum_congr rfl
  intro k _
  apply Finset.sum_congr rfl
  intro l _
  congr 1
  simp only [vecZ, List.getD_eq_getElem?_getD, tent, List.getElem?_eq_getElem hi', Option.getD_some,
    List.getElem?_eq_getElem hj']

theorem trMat_ok (t : Table) (n : Nat) (hs : Shape t n) :
    (List.range n).mapM (fun i => (List.range n).mapM (fun j => do
      let blk ← NTV.Ord.idx t i
      let v ← NTV.Ord.idx blk j
      let tr ← NTV.Ord.ttrace t v
      (pure (tr : Rat) : M Rat))) = .ok (trList t n) := by
  unfold trList
  apply mapM_ok
  intro i hi
  apply mapM_ok
  intro j hj
  have hi := List.mem_range.mp hi
  have hj := List.mem_range.mp hj
  obtain ⟨hi', hj', h⟩ := ttrace_entry t n hs i j hi hj
  rw [idx_ok t i hi']
  simp only [bind, Except.bind]
  rw [idx_ok _ j hj']
  simp only [h]
  rfl

/-- the integer matrix `int` of `get_inv_diff` is the matrix `scaled` of `hnf_reduce` -/
theorem map_eq_scaled (B : QMat) (n : Nat) (hB : Rect n n B) :
    B.map (fun r => r.map (fun e => toInteger (e * ((lcmDen B 1 : Int) : Rat)))) = scaled B n := by
  apply List.ext_getElem
  · simp [scaled, hB.1]
  intro i h1 h2
  have hi : i < B.length := by simpa using h1
  have hin : i < n := by rw [← hB.1]; exact hi
  have hrow : (B[i]).length = n := hB.2 _ (List.getElem_mem hi)
  simp only [List.getElem_map, scaled, List.getElem_range]
  apply List.ext_getElem
  · simp [hrow]
  intro j h3 h4
  have hj : j < (B[i]).length := by simpa using h3
  simp only [List.getElem_map, List.getElem_range]
  congr 2
  simp [ent, List.getD_eq_getElem?_getD, List.getElem?_eq_getElem hi, List.getElem?_eq_getElem hj]

/-- `get_inv_diff` once the first loop has built the trace matrix (it never panics on a cubic table) -/
theorem getInvDiff_eq (t : Table) (n : Nat) (hs : Shape t n) :
    getInvDiff t = (do
      let d ← match NTV.LinAlg.inv (trList t n) with
        | .ok d => pure d
        | .error e => if e == NTV.LinAlg.errNotInvertible then throw "panic unwrap" else throw e
      let h ← NTV.Ideal.hnfNew (d.map (fun r => r.map (fun e => toInteger (e * ((lcmDen d 1 : Int) : Rat)))))
      pure (lcmDen d 1, h)) := by
  have h := trMat_ok t n hs
  unfold getInvDiff
  rw [hs.1]
  simp only [bind, Except.bind, pure, Except.pure] at h ⊢
  rw [h]
  rfl

theorem getInvDiff_inv_err (t : Table) (n : Nat) (hs : Shape t n) (e : String)
    (hinv : NTV.LinAlg.inv (trList t n) = .error e) :
    getInvDiff t = if e == NTV.LinAlg.errNotInvertible then .error "panic unwrap" else .error e := by
  rw [getInvDiff_eq t n hs, hinv]
  by_cases he : e == NTV.LinAlg.errNotInvertible <;> simp [he, bind, Except.bind, throw, throwThe, MonadExceptOf.throw]

theorem getInvDiff_inv_ok (t : Table) (n : Nat) (hs : Shape t n) (d : QMat)
    (hinv : NTV.LinAlg.inv (trList t n) = .ok d) (h : HNF)
    (hh : NTV.Ideal.hnfNew (d.map (fun r => r.map (fun e =>
            toInteger (e * ((lcmDen d 1 : Int) : Rat))))) = .ok h) :
    getInvDiff t = .ok (lcmDen d 1, h) := by
  rw [getInvDiff_eq t n hs, hinv]
  simp only [bind, Except.bind, pure, Except.pure, hh]

/-- singular trace matrix: the `.unwrap()` of the inversion panics -/
theorem getInvDiff_singular (t : Table) (n : Nat) (hs : Shape t n) (hdet : (traceMatrix t n).det = 0) :
    getInvDiff t = .error "panic unwrap" := by
  have h0 : (toM n n (trList t n)).det = 0 := by rw [det_trList, hdet, Int.cast_zero]
  cases h : NTV.LinAlg.inv (trList t n) with
  | ok B =>
    have h1 := NTV.LinAlg.inv_ok _ B n (trList_rect t n) h
    have := congrArg Matrix.det h1
    rw [det_mul, h0, mul_zero, det_one] at this
    exact absurd this zero_ne_one
  | error e =>
    rw [getInvDiff_inv_err t n hs e h, (NTV.LinAlg.inv_err _ n (trList_rect t n) e h).1]
    rfl

theorem getInvDiff_nonsingular (t : Table) (n : Nat) (hs : Shape t n) (hn : 0 < n)
    (hdet : (traceMatrix t n).det ≠ 0) :
    ∃ (B : QMat) (H : HNF), NTV.LinAlg.inv (trList t n) = .ok B ∧ Rect n n B ∧
      toM n n B * (traceMatrix t n).map (Int.castRingHom ℚ) = 1 ∧
      getInvDiff t = .ok (lcmDen B 1, H) ∧ 0 < lcmDen B 1 ∧ H.length = n ∧ Wid n H ∧
      NTV.Ideal.norm H * |(traceMatrix t n).det| = lcmDen B 1 ^ n ∧
      NTV.Hnf.toM n n (scaled B n) * traceMatrix t n = lcmDen B 1 • (1 : Matrix (Fin n) (Fin n) ℤ) ∧
      Lat n H = Lat n (scaled B n) := by
  have hdq : (toM n n (trList t n)).det ≠ 0 := by
    rw [det_trList]; exact Int.cast_ne_zero.mpr hdet
  cases hinv : NTV.LinAlg.inv (trList t n) with
  | error e => exact absurd (NTV.LinAlg.inv_err _ n (trList_rect t n) e hinv).2 hdq
  | ok B =>
  have hBA := NTV.LinAlg.inv_ok _ B n (trList_rect t n) hinv
  rw [toM_trList] at hBA
  have hB : Rect n n B := NTV.LinAlg.inv_rect _ B n (trList_rect t n) hinv
  have hLpos : 0 < lcmDen B 1 := lcmDen_pos B 1 one_pos
  set S := scaled B n with hS
  have hSr := scaled_rect B n
  have hcast : (NTV.Hnf.toM n n S).map (Int.castRingHom ℚ) = ((lcmDen B 1 : Int) : Rat) • toM n n B := by
    ext i j
    simp only [Matrix.map_apply, Int.coe_castRingHom, Matrix.smul_apply, smul_eq_mul]
    exact scaled_cast B n hB i j
  -- `S = d · Tr⁻¹` over ℚ, so `S · Tr = d · 1` over ℤ
  have hST : NTV.Hnf.toM n n S * traceMatrix t n = lcmDen B 1 • (1 : Matrix (Fin n) (Fin n) ℤ) := by
    apply Matrix.map_injective (Int.cast_injective (α := ℚ))
    have : (NTV.Hnf.toM n n S * traceMatrix t n).map (Int.castRingHom ℚ)
        = (NTV.Hnf.toM n n S).map (Int.castRingHom ℚ) * (traceMatrix t n).map (Int.castRingHom ℚ) :=
      Matrix.map_mul
    rw [hcast, Matrix.smul_mul, hBA] at this
    show (NTV.Hnf.toM n n S * traceMatrix t n).map (Int.castRingHom ℚ) = _
    rw [this]
    ext i j
    simp only [Matrix.map_apply, Matrix.smul_apply, Matrix.one_apply, smul_eq_mul]
    split_ifs <;> simp
  have hprod : (NTV.Hnf.toM n n S).det * (traceMatrix t n).det = lcmDen B 1 ^ n := by
    have := congrArg Matrix.det hST
    rwa [det_mul, det_smul, det_one, mul_one, Fintype.card_fin] at this
  have hdetS0 : (NTV.Hnf.toM n n S).det ≠ 0 := by
    intro h0
    rw [h0, zero_mul] at hprod
    exact absurd hprod.symm (pow_ne_zero _ hLpos.ne')
  obtain ⟨H, pv, hnew, hWid, _, hLat⟩ := NTV.IdealP.ideal_hnfNew_total hSr.2 hn
  obtain ⟨hlen, hnorm⟩ := NTV.IdealP.hnfNew_square hSr hn hdetS0 (NTV.IdealP.ideal_hnfNew_ok.mp hnew)
  refine ⟨B, H, rfl, hB, hBA, ?_, hLpos, hlen, hWid, ?_, hST, hLat⟩
  · apply getInvDiff_inv_ok t n hs B hinv
    rw [map_eq_scaled B n hB, ← hS, hnew]
  · rw [hnorm, ← abs_mul, hprod]
    exact abs_of_pos (pow_pos hLpos n)

end NTV.InvDiff
