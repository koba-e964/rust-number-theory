import NTV.Proofs.Lemmas.NormResMat
import Mathlib.LinearAlgebra.Matrix.Charpoly.Eigs
import Mathlib.LinearAlgebra.Vandermonde
import Mathlib.Algebra.Order.BigOperators.Group.LocallyFinite
import Mathlib.Order.Interval.Finset.Fin
import Mathlib.Algebra.CharZero.Infinite
/-! C16 (inverse different), linear-algebra part: for a square matrix `M` over a field of characteristic
zero with characteristic polynomial `χ`, the Hankel determinant of the power traces
`det (tr M^{i+j})_{i,j<m}` is the discriminant of `χ` (no separability / irreducibility hypothesis). -/
open Polynomial Matrix Finset
namespace NTV.InvDiff

variable {L : Type*} [Field L] {m : ℕ}

theorem det_aeval_eq_prod_roots (M : Matrix (Fin m) (Fin m) L) (hs : M.charpoly.Splits) (H : L[X]) :
    (aeval M H).det = (M.charpoly.roots.map H.eval).prod := by
  rw [NTV.NormRes.det_aeval_eq_resultant, resultant_eq_prod_eval _ _ _ le_rfl hs,
    (charpoly_monic M).leadingCoeff, one_pow, one_mul]

/-- spectral mapping with multiplicities: the characteristic polynomial of `G(M)` -/
theorem charpoly_aeval_of_splits [Infinite L] (M : Matrix (Fin m) (Fin m) L) (hs : M.charpoly.Splits)
    (G : L[X]) :
    (aeval M G).charpoly = (M.charpoly.roots.map (fun α => X - C (G.eval α))).prod := by
  apply Polynomial.funext
  intro b
  rw [Matrix.eval_charpoly]
  have h1 : Matrix.scalar (Fin m) b - aeval M G = aeval M (C b - G) := by
    rw [map_sub, aeval_C]; rfl
  rw [h1, det_aeval_eq_prod_roots M hs, eval_multiset_prod, Multiset.map_map]
  congr 1
  apply Multiset.map_congr rfl
  intro α _
  simp only [eval_sub, eval_C, Function.comp_apply, eval_X]

theorem trace_aeval_of_splits [Infinite L] (M : Matrix (Fin m) (Fin m) L) (hs : M.charpoly.Splits)
    (G : L[X]) : (aeval M G).trace = (M.charpoly.roots.map G.eval).sum := by
  have hc := charpoly_aeval_of_splits M hs G
  have hsp : (aeval M G).charpoly.Splits := by
    rw [hc]
    apply Splits.multisetProd
    intro f hf
    obtain ⟨a, _, rfl⟩ := Multiset.mem_map.mp hf
    exact Splits.X_sub_C _
  have hm : M.charpoly.roots.map (fun α => X - C (G.eval α))
      = (M.charpoly.roots.map G.eval).map (fun a => X - C a) := by
    rw [Multiset.map_map]; rfl
  rw [trace_eq_sum_roots_charpoly_of_splits hsp, hc, hm, roots_multiset_prod_X_sub_C]

theorem neg_one_pow_mul_self (k : ℕ) : (-1 : L) ^ k * (-1) ^ k = 1 := by
  rw [← mul_pow, neg_mul_neg, one_mul, one_pow]

theorem charpoly_natDegree_fin (M : Matrix (Fin m) (Fin m) L) : M.charpoly.natDegree = m := by
  rw [charpoly_natDegree_eq_dim, Fintype.card_fin]

omit [Field L] in
theorem exists_fin_family (s : Multiset L) (hm : Multiset.card s = m) :
    ∃ r : Fin m → L, s = (univ : Finset (Fin m)).val.map r := by
  induction s using Quotient.inductionOn with
  | _ l =>
    have hl : l.length = m := by simpa using hm
    subst hl
    refine ⟨fun i => l.get i, ?_⟩
    rw [Fin.univ_val_map]
    simp only [Multiset.quot_mk_to_coe, List.get_eq_getElem, List.ofFn_getElem]

theorem hankel_eq_vandermonde (r : Fin m → L) :
    (Matrix.of fun i j : Fin m => ∑ l, r l ^ ((i : ℕ) + (j : ℕ))) = (vandermonde r)ᵀ * vandermonde r := by
  ext i j
  simp only [pow_add, of_apply, Matrix.mul_apply, transpose_apply, vandermonde_apply]

theorem sum_card_Ioi (m : ℕ) : ∑ i : Fin m, #(Ioi i) = m * (m - 1) / 2 := by
  simp only [Fin.card_Ioi]
  rw [Fin.sum_univ_eq_sum_range (fun i => m - 1 - i) m, Finset.sum_range_reflect (fun i => i) m,
    Finset.sum_range_id]

theorem prod_offdiag (r : Fin m → L) :
    ∏ i, ∏ j ∈ ({i}ᶜ : Finset (Fin m)), (r i - r j)
      = (-1) ^ (m * (m - 1) / 2) * (∏ i, ∏ j ∈ Ioi i, (r j - r i)) ^ 2 := by
  rw [← prod_prod_Ioi_mul_eq_prod_prod_off_diag (fun a b => r b - r a)]
  have h : ∀ i j : Fin m, (r i - r j) * (r j - r i) = (-1) * (r j - r i) ^ 2 := by intros; ring
  simp only [h, prod_mul_distrib, prod_const, prod_pow_eq_pow_sum, sum_card_Ioi, prod_pow]

theorem eval_derivative_prod (r : Fin m → L) (i : Fin m) :
    (derivative (∏ j, (X - C (r j)))).eval (r i) = ∏ j ∈ ({i}ᶜ : Finset (Fin m)), (r i - r j) := by
  rw [derivative_prod_finset]
  simp only [derivative_sub, derivative_X, derivative_C, sub_zero, mul_one]
  rw [eval_finsetSum, Finset.sum_eq_single i]
  · rw [eval_prod, compl_eq_univ_sdiff, sdiff_singleton_eq_erase]
    simp only [eval_sub, eval_X, eval_C]
  · intro b _ hb
    rw [eval_prod]
    apply Finset.prod_eq_zero (i := i) (mem_erase.mpr ⟨hb.symm, mem_univ _⟩)
    rw [eval_sub, eval_X, eval_C, sub_self]
  · intro h; exact absurd (mem_univ i) h

theorem hankel_det_of_splits [Infinite L] (M : Matrix (Fin m) (Fin m) L) (hs : M.charpoly.Splits) :
    (Matrix.of fun i j : Fin m => (M ^ ((i : ℕ) + (j : ℕ))).trace).det
      = (-1) ^ (m * (m - 1) / 2) * resultant M.charpoly (derivative M.charpoly) m (m - 1) := by
  have hdeg := charpoly_natDegree_fin M
  have hcard : Multiset.card M.charpoly.roots = m := by rw [← hs.natDegree_eq_card_roots, hdeg]
  obtain ⟨r, hr⟩ := exists_fin_family _ hcard
  have htr : ∀ e : ℕ, (M ^ e).trace = ∑ l, r l ^ e := by
    intro e
    have := trace_aeval_of_splits M hs (X ^ e)
    rw [aeval_X_pow, hr, Multiset.map_map] at this
    simp only [Function.comp_def, eval_pow, eval_X] at this
    rw [this]
    rfl
  have hχ : M.charpoly = ∏ j, (X - C (r j)) := by
    rw [hs.eq_prod_roots_of_monic (charpoly_monic M), hr, Multiset.map_map]
    rfl
  have hres : resultant M.charpoly (derivative M.charpoly) m (m - 1)
      = ∏ i, ∏ j ∈ ({i}ᶜ : Finset (Fin m)), (r i - r j) := by
    have h1 := resultant_eq_prod_eval M.charpoly (derivative M.charpoly) (m - 1)
      (by have := natDegree_derivative_le M.charpoly; rw [hdeg] at this; exact this) hs
    rw [hdeg, (charpoly_monic M).leadingCoeff, one_pow, one_mul, hr, Multiset.map_map] at h1
    rw [h1]
    show ∏ i, (derivative M.charpoly).eval (r i) = _
    apply Finset.prod_congr rfl
    intro i _
    rw [hχ, eval_derivative_prod]
  simp only [htr]
  rw [hankel_eq_vandermonde, det_mul, det_transpose, det_vandermonde, hres, prod_offdiag, ← mul_assoc,
    neg_one_pow_mul_self, one_mul, pow_two]

/-- the same when the characteristic polynomial splits in an extension `E` (stated for an abstract `E`: the
instances of a splitting field are slow to synthesise) -/
theorem hankel_det_of_splits_map {E : Type*} [Field E] [Infinite E] (φ : L →+* E) (M : Matrix (Fin m) (Fin m) L)
    (hs : (M.map φ).charpoly.Splits) :
    (Matrix.of fun i j : Fin m => (M ^ ((i : ℕ) + (j : ℕ))).trace).det
      = (-1) ^ (m * (m - 1) / 2) * resultant M.charpoly (derivative M.charpoly) m (m - 1) := by
  have h := hankel_det_of_splits (M.map φ) hs
  rw [Matrix.charpoly_map, Polynomial.derivative_map, resultant_map_map] at h
  apply φ.injective
  rw [RingHom.map_mul, RingHom.map_pow, RingHom.map_neg, RingHom.map_one, ← h, RingHom.map_det]
  refine congrArg Matrix.det ?_
  ext i j
  rw [RingHom.mapMatrix_apply, Matrix.map_apply, Matrix.of_apply, Matrix.of_apply, ← Matrix.map_pow]
  exact AddMonoidHom.map_trace φ.toAddMonoidHom _

variable {k : Type*} [Field k] [CharZero k]

theorem hankel_det_eq_discr (M : Matrix (Fin m) (Fin m) k) :
    (Matrix.of fun i j : Fin m => (M ^ ((i : ℕ) + (j : ℕ))).trace).det = M.charpoly.discr := by
  have hdeg := charpoly_natDegree_fin M
  rcases Nat.eq_zero_or_pos m with h0 | hpos
  · subst h0
    have : M.charpoly = C 1 := by
      rw [Matrix.charpoly, det_isEmpty, C_1]
    rw [this, discr_C, det_isEmpty]
  let E := M.charpoly.SplittingField
  have : Infinite E := Infinite.of_injective (algebraMap k E) (algebraMap k E).injective
  have hd : 0 < M.charpoly.degree := by
    rw [← natDegree_pos_iff_degree_pos, hdeg]; exact hpos
  have hr := resultant_deriv hd
  rw [hdeg, (charpoly_monic M).leadingCoeff, mul_one] at hr
  rw [hankel_det_of_splits_map (algebraMap k E) M (by rw [Matrix.charpoly_map]; exact SplittingField.splits _),
    hr, ← mul_assoc, neg_one_pow_mul_self, one_mul]

end NTV.InvDiff
