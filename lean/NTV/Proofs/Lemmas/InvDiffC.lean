import NTV.Proofs.Lemmas.InvDiffB
import NTV.Proofs.Lemmas.NormResAdj
import NTV.Proofs.Lemmas.NormResCtx
import Mathlib.RingTheory.Trace.Basic
/-! C16 (inverse different), algebra part.

* in the abstract setting of `NTV.TableAbs` (a family `Ω` spanning `K` over ℚ with an integral table `T`) the
  integer matrix `Σ_k Σ_l T i j k · T l k l` computed by `MultTable::trace` on the table entries is Mathlib's
  trace matrix `Algebra.traceMatrix ℚ Ω`;
* in `ℚ[X]/(F)`, `F ≠ 0`, the determinant of the trace matrix of the power basis `1, θ, …, θ^{n−1}` is the
  discriminant of the monic normalisation of `F`, i.e. `disc(F) / lc(F)^{2n−2}` (no irreducibility or
  separability hypothesis). -/
open Polynomial Matrix

namespace NTV.TableAbs

variable {K : Type*} [CommRing K] [Algebra ℚ K] {n : ℕ} [NeZero n]
variable {q : ℚ →+* K} {Ω : Fin n → K} {T : Fin n → Fin n → Fin n → ℤ}

def trZ (T : Fin n → Fin n → Fin n → ℤ) : Matrix (Fin n) (Fin n) ℤ :=
  fun i j => ∑ k, ∑ l, T i j k * T l k l

theorem Ctx.traceMatrix_eq (h : Ctx q Ω T) (hdim : Module.finrank ℚ K = n) :
    Algebra.traceMatrix ℚ Ω = (trZ T).map (Int.castRingHom ℚ) := by
  ext i j
  rw [Algebra.traceMatrix_apply, Algebra.traceForm_apply, h.table i j]
  change Algebra.trace ℚ K (psi q Ω (castV (T i j))) = _
  rw [h.algebra_trace hdim, ← h.trace_eq]
  simp [trZ]

end NTV.TableAbs

namespace NTV.InvDiff

theorem det_traceMatrix_powers {k : Type*} [Field k] [CharZero k] (F : k[X]) (hF : F ≠ 0) :
    (Algebra.traceMatrix k (fun i : Fin F.natDegree => (AdjoinRoot.root F) ^ (i : ℕ))).det
      = (F * C F.leadingCoeff⁻¹).discr := by
  set pb := AdjoinRoot.powerBasis hF with hpb
  have hM : (Algebra.leftMulMatrix pb.basis pb.gen).charpoly = F * C F.leadingCoeff⁻¹ := by
    rw [charpoly_leftMulMatrix, AdjoinRoot.minpoly_powerBasis_gen hF]
  have hgen : pb.gen = AdjoinRoot.root F := by rw [hpb, AdjoinRoot.powerBasis_gen]
  have key := hankel_det_eq_discr (Algebra.leftMulMatrix pb.basis pb.gen)
  rw [hM] at key
  rw [← key]
  refine congrArg Matrix.det ?_
  ext i j
  rw [Algebra.traceMatrix_apply, Algebra.traceForm_apply, ← pow_add,
    Algebra.trace_eq_matrix_trace pb.basis, map_pow, hgen]
  rfl

theorem neg_one_pow_ne_zero {S : Type*} [CommRing S] [IsDomain S] (n : ℕ) : ((-1 : S) ^ n) ≠ 0 :=
  (isUnit_one.neg.pow n).ne_zero

theorem discr_C_mul {k : Type*} [Field k] (a : k) (ha : a ≠ 0) (G : k[X]) (hG : 0 < G.natDegree) :
    (C a * G).discr = a ^ (2 * (G.natDegree - 1)) * G.discr := by
  have hdeg : (C a * G).natDegree = G.natDegree := natDegree_C_mul ha
  have hlc : (C a * G).leadingCoeff = a * G.leadingCoeff := by rw [leadingCoeff_mul, leadingCoeff_C]
  have h1 := resultant_deriv (f := C a * G) (by rw [← natDegree_pos_iff_degree_pos, hdeg]; exact hG)
  have h2 := resultant_deriv (f := G) (natDegree_pos_iff_degree_pos.mp hG)
  rw [hdeg, hlc, derivative_C_mul, resultant_C_mul_left, resultant_C_mul_right, h2] at h1
  have hl : G.leadingCoeff ≠ 0 := leadingCoeff_ne_zero.mpr (ne_zero_of_natDegree_gt hG)
  -- both resultant formulas carry the factor `± lc`; cancel it
  apply mul_left_cancel₀ (mul_ne_zero (neg_one_pow_ne_zero _) (mul_ne_zero ha hl))
  obtain ⟨d, hd⟩ := Nat.exists_eq_add_one_of_ne_zero hG.ne'
  rw [← h1, hd, Nat.add_sub_cancel]
  ring

/-- in `k[X]/(F)`: `det (Tr θ^{i+j}) · lc(F)^{2(n−1)} = disc(F)`, `n = deg F ≥ 1` -/
theorem det_traceMatrix_powers_mul {k : Type*} [Field k] [CharZero k] (F : k[X]) (hF : F ≠ 0)
    (hd : 0 < F.natDegree) :
    (Algebra.traceMatrix k (fun i : Fin F.natDegree => (AdjoinRoot.root F) ^ (i : ℕ))).det
      * F.leadingCoeff ^ (2 * (F.natDegree - 1)) = F.discr := by
  have hl0 : F.leadingCoeff ≠ 0 := leadingCoeff_ne_zero.mpr hF
  have hGdeg : (F * C F.leadingCoeff⁻¹).natDegree = F.natDegree := natDegree_mul_C (inv_ne_zero hl0)
  have hFG : C F.leadingCoeff * (F * C F.leadingCoeff⁻¹) = F := by
    rw [mul_comm F, ← mul_assoc, ← C_mul, mul_inv_cancel₀ hl0, C_1, one_mul]
  have hmul := discr_C_mul F.leadingCoeff hl0 (F * C F.leadingCoeff⁻¹) (by rw [hGdeg]; exact hd)
  rw [hFG, hGdeg] at hmul
  rw [det_traceMatrix_powers F hF, hmul, mul_comm]

theorem discr_map_of_injective {R S : Type*} [CommRing R] [CommRing S] [IsDomain S] (φ : R →+* S)
    (hφ : Function.Injective φ) (f : R[X]) (hf : 0 < f.natDegree) :
    (f.map φ).discr = φ f.discr := by
  have hdeg : (f.map φ).natDegree = f.natDegree := natDegree_map_eq_of_injective hφ f
  have hlc : (f.map φ).leadingCoeff = φ f.leadingCoeff := leadingCoeff_map_of_injective hφ f
  have h1 := resultant_deriv (f := f.map φ) (by rw [← natDegree_pos_iff_degree_pos, hdeg]; exact hf)
  have h2 := congrArg φ (resultant_deriv (f := f) (natDegree_pos_iff_degree_pos.mp hf))
  rw [hdeg, hlc, derivative_map, resultant_map_map, h2] at h1
  rw [RingHom.map_mul, RingHom.map_mul, RingHom.map_pow, RingHom.map_neg, RingHom.map_one] at h1
  have hl : φ f.leadingCoeff ≠ 0 := by
    rw [Ne, map_eq_zero_iff φ hφ]; exact leadingCoeff_ne_zero.mpr (ne_zero_of_natDegree_gt hf)
  exact (mul_left_cancel₀ (mul_ne_zero (neg_one_pow_ne_zero _) hl) h1).symm

end NTV.InvDiff
