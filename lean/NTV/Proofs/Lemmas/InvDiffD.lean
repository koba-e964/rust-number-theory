import NTV.Proofs.Lemmas.InvDiffA
import NTV.Proofs.Lemmas.InvDiffC
import NTV.Proofs.Lemmas.NormResFinal
import NTV.Proofs.Lemmas.IdealNormE
/-! C16 (inverse different), assembly for the table of an order: the trace matrix built by `get_inv_diff` is
`P · Tr_power · Pᵀ` (P the basis matrix, Tr_power the trace matrix of 1, θ, …, θ^{n−1} in ℚ[X]/(f)), and
`det Tr · lc(f)^{2(n−1)} = (det P)² · disc(f)`. Also: a coefficient list as a sum of monomials, `Setup.ne_nil`,
`Setup.lc_ne_zero`, and the shape of the table of `IsTable`. -/
open Polynomial Matrix
namespace NTV.Ord
open NTV.RowOps (toM Rect ent)
open NTV.PolyG
open NTV.Alg (Reduced modulus cls)
open NTV.TableAbs (psi castV castM reg Ctx)

variable {f : List Int} {basis : QMat} {n : Nat}

theorem toPoly_eq_sum_monomials (l : List Rat) (n : Nat) (hl : l.length ≤ n) :
    toPoly l = ∑ c : Fin n, C (l.getD c 0) * X ^ (c : ℕ) := by
  ext m
  rw [coeff_toPoly, Polynomial.finsetSum_coeff]
  simp only [coeff_C_mul_X_pow]
  rw [Fin.sum_univ_eq_sum_range (fun c => if m = c then l.getD c 0 else 0) n, Finset.sum_ite_eq]
  split
  · rfl
  · rename_i h
    rw [Finset.mem_range] at h
    exact getD_of_length_le l m (by omega)

/-- the classes of ω_0, …, ω_{n−1} in `AdjoinRoot (modulus f)` = ℚ[X]/(f) (`omegaK` with its type spelt as
`AdjoinRoot`) -/
noncomputable def omegaA (f : List Int) (basis : QMat) (n : Nat) : Fin n → AdjoinRoot (modulus f) :=
  omegaK f basis n

theorem Setup.omega_eq_mulVec (S : Setup f basis n) :
    omegaA f basis n
      = ((toM n n basis).map (algebraMap ℚ (AdjoinRoot (modulus f)))) *ᵥ
        (fun c : Fin n => (AdjoinRoot.root (modulus f)) ^ (c : ℕ)) := by
  funext i
  have hrow : (basis.getD i []).length ≤ n := le_of_eq (S.rect.row_length i i.2)
  show AdjoinRoot.mk (modulus f) (toPoly (basis.getD i [])) = _
  rw [toPoly_eq_sum_monomials _ n hrow]
  -- through the additive hom: the class search for `map_sum` on the ring hom into `AdjoinRoot` is slow
  refine (map_sum (AdjoinRoot.mk (modulus f)).toAddMonoidHom _ _).trans ?_
  simp only [Matrix.mulVec, dotProduct, Matrix.map_apply]
  apply Finset.sum_congr rfl
  intro c _
  show AdjoinRoot.mk (modulus f) (C _ * X ^ _) = _
  rw [RingHom.map_mul, RingHom.map_pow, AdjoinRoot.mk_X, AdjoinRoot.mk_C, AdjoinRoot.algebraMap_eq]
  rfl

theorem Setup.traceMatrix_eq (S : Setup f basis n) (t : Table) (ht : IsTable f basis n t) :
    Algebra.traceMatrix ℚ (omegaA f basis n)
      = (NTV.InvDiff.traceMatrix t n).map (Int.castRingHom ℚ) := by
  have : NeZero n := ⟨by have := S.pos; omega⟩
  have C' : Ctx (K := AdjoinRoot (modulus f)) (qK f) (omegaA f basis n) (tabT t n) := S.ctx t ht
  rw [C'.traceMatrix_eq S.finrank]
  rfl

theorem Setup.traceMatrix_rel (S : Setup f basis n) (t : Table) (ht : IsTable f basis n t) :
    (NTV.InvDiff.traceMatrix t n).map (Int.castRingHom ℚ)
      = toM n n basis * Algebra.traceMatrix ℚ (fun c : Fin n => (AdjoinRoot.root (modulus f)) ^ (c : ℕ))
        * (toM n n basis)ᵀ := by
  rw [← S.traceMatrix_eq t ht, S.omega_eq_mulVec, Algebra.traceMatrix_of_matrix_mulVec]

theorem Setup.ne_nil (S : Setup f basis n) : f ≠ [] := by
  intro e
  have := S.two_le
  simp [e] at this

theorem Setup.lc_ne_zero (S : Setup f basis n) : ((lc f : Int) : ℚ) ≠ 0 :=
  Int.cast_ne_zero.mpr (NTV.PolyG.lc_ne_zero f S.ne_nil S.canon)

theorem Setup.det_power_traceMatrix (S : Setup f basis n) :
    (Algebra.traceMatrix ℚ (fun c : Fin n => (AdjoinRoot.root (modulus f)) ^ (c : ℕ))).det
      * (((lc f : Int) : ℚ)) ^ (2 * (n - 1)) = (((toPoly f).discr : ℤ) : ℚ) := by
  obtain ⟨hdeg, hF⟩ := NTV.Alg.modulus_facts f S.canon S.two_le
  have hne := S.ne_nil
  have hn : (modulus f).natDegree = n := by rw [hdeg, S.len, Nat.add_sub_cancel]
  have hpos := S.pos
  have hlc : (modulus f).leadingCoeff = ((lc f : Int) : ℚ) := modulus_leadingCoeff f S.canon hne
  have hZ : (toPoly f).natDegree = n := by rw [(natDegree_toPoly f hne S.canon).1, S.len, Nat.add_sub_cancel]
  have hdisc : (modulus f).discr = (((toPoly f).discr : ℤ) : ℚ) := by
    rw [modulus_eq_map]
    exact NTV.InvDiff.discr_map_of_injective (Int.castRingHom ℚ) (RingHom.injective_int _) (toPoly f)
      (by omega)
  have h := NTV.InvDiff.det_traceMatrix_powers_mul (modulus f) hF (by omega)
  rw [hlc, hdisc] at h
  subst hn
  exact h

theorem Setup.det_traceMatrix_eq (S : Setup f basis n) (t : Table) (ht : IsTable f basis n t) :
    (((NTV.InvDiff.traceMatrix t n).det : ℤ) : ℚ) = (toM n n basis).det ^ 2 *
      (Algebra.traceMatrix ℚ (fun c : Fin n => (AdjoinRoot.root (modulus f)) ^ (c : ℕ))).det := by
  have h1 := congrArg Matrix.det (S.traceMatrix_rel t ht)
  rw [det_mul, det_mul, det_transpose] at h1
  have h2 : ((NTV.InvDiff.traceMatrix t n).map (Int.castRingHom ℚ)).det
      = (((NTV.InvDiff.traceMatrix t n).det : ℤ) : ℚ) := ((Int.castRingHom ℚ).map_det _).symm
  rw [← h2, h1]
  ring

theorem Setup.det_traceMatrix (S : Setup f basis n) (t : Table) (ht : IsTable f basis n t) :
    (((NTV.InvDiff.traceMatrix t n).det : ℤ) : ℚ) * (((lc f : Int) : ℚ)) ^ (2 * (n - 1))
      = (toM n n basis).det ^ 2 * (((toPoly f).discr : ℤ) : ℚ) := by
  rw [S.det_traceMatrix_eq t ht, ← S.det_power_traceMatrix]
  ring

theorem Setup.det_traceMatrix_eq_zero_iff (S : Setup f basis n) (t : Table) (ht : IsTable f basis n t) :
    (NTV.InvDiff.traceMatrix t n).det = 0 ↔ (toPoly f).discr = 0 := by
  have h := S.det_traceMatrix t ht
  constructor
  · intro h0
    rw [h0, Int.cast_zero, zero_mul] at h
    exact Int.cast_eq_zero.mp ((mul_eq_zero.mp h.symm).resolve_left (pow_ne_zero 2 S.det))
  · intro h0
    rw [h0, Int.cast_zero, mul_zero] at h
    exact Int.cast_eq_zero.mp ((mul_eq_zero.mp h).resolve_right (pow_ne_zero _ S.lc_ne_zero))

theorem isTable_shape (t : Table) (ht : IsTable f basis n t) : NTV.InvDiff.Shape t n :=
  ⟨ht.1, NTV.IdealP.shape_of_isTable ht⟩

end NTV.Ord
