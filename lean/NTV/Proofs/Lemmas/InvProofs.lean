import NTV.Model.Inv
import Mathlib.Tactic.Ring
import Mathlib.Tactic.LinearCombination
import Mathlib.Data.Int.GCD
namespace NTV

theorem extgcd_spec (a b : Int) :
    (extgcd a b).1 = (extgcd a b).2.1 * a + (extgcd a b).2.2 * b ∧
    (extgcd a b).1.natAbs = Int.gcd a b := by
  fun_induction extgcd a b with
  | case1 a => simp
  | case2 a b h q r g x y heq ih =>
    simp only [heq] at ih
    obtain ⟨ih1, ih2⟩ := ih
    simp only
    have hr : r = a - b * q := by simp [r, q, Int.tmod_def]
    constructor
    · rw [ih1, hr]; ring
    · rw [ih2, hr]
      have : a - b * q = a + b * (-q) := by ring
      rw [this, Int.gcd_comm b, Int.gcd_add_mul_left_left b a (-q)]

theorem zmod_spec (x m : Int) (hm : 0 < m) : 0 ≤ zmod x m ∧ zmod x m < m ∧ (m ∣ zmod x m - x) := by
  unfold zmod
  have h1 := Int.tmod_lt_of_pos x hm
  have h2 := Int.lt_tmod_of_pos x hm
  have h3 : m ∣ x.tmod m - x := Int.dvd_tmod_sub_self
  simp only
  split
  · rename_i hneg
    refine ⟨(neg_lt_iff_pos_add.mp h2).le, add_lt_of_neg_left m hneg, ?_⟩
    have : x.tmod m + m - x = (x.tmod m - x) + m := by ring
    rw [this]; exact Int.dvd_add h3 (Int.dvd_refl m)
  · rename_i hneg
    exact ⟨not_lt.mp hneg, h1, h3⟩

/-- C19 (modular inverse), model level, all integers a and all moduli m ≥ 1. -/
theorem inv_spec (a m : Int) (hm : 1 ≤ m) :
    (Int.gcd a m = 1 → ∃ x, inv a m = .ok x ∧ 0 ≤ x ∧ x < m ∧ m ∣ a * x - 1) ∧
    (Int.gcd a m ≠ 1 → inv a m = .error (Int.gcd a m)) := by
  obtain ⟨hb, hg⟩ := extgcd_spec a m
  unfold inv
  generalize extgcd a m = t at hb hg
  obtain ⟨g, x, y⟩ := t
  simp only at hb hg ⊢
  constructor
  · intro h1
    rw [h1] at hg
    simp only [hg, ne_eq, not_true_eq_false, ↓reduceIte]
    refine ⟨_, rfl, ?_⟩
    obtain ⟨z0, z1, z2⟩ := zmod_spec (x * g) m (lt_of_lt_of_le zero_lt_one hm)
    refine ⟨z0, z1, ?_⟩
    have hgg : g * g = 1 := by
      rcases Int.natAbs_eq g with h | h <;> rw [h, hg] <;> simp
    -- a·(x·g) − 1 = g·(x·a + y·m) − 1 − (y·g)·m = g² − 1 − (y·g)·m
    have : a * zmod (x * g) m - 1 = a * (zmod (x * g) m - x * g) + (-(y * g)) * m := by
      linear_combination (-g) * hb + hgg
    rw [this]
    exact Int.dvd_add (Dvd.dvd.mul_left z2 a) (Dvd.intro_left _ rfl)
  · intro h1
    have : g.natAbs ≠ 1 := by rw [hg]; exact h1
    simp [hg, h1]

end NTV
