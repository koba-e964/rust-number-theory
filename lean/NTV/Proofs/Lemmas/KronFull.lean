import NTV.Proofs.Lemmas.KronProofs
import Mathlib.Data.Nat.Factorization.Basic
/-! The Kronecker routine against Mathlib's Jacobi symbol (Cohen, Algorithm 1.4.10): the table is (·/2),
`removeTwos` strips the power of two, the main loop multiplies by J(a | b) using reciprocity (`recip`), and
`kronecker a (±2^v·b')` is the product of the sign, the (a/2)-power and J(a | b'). -/
open NumberTheorySymbols jacobiSym ZMod
namespace NTV.Kron

/-- (a/2): 0 for even a, 1 for a ≡ ±1 (mod 8), −1 for a ≡ ±3 (mod 8) -/
def kronTwo (a : Int) : Int := if a % 2 = 0 then 0 else if a % 8 = 1 ∨ a % 8 = 7 then 1 else -1

theorem table_eq (x : Int) : table x = kronTwo x := by
  unfold table kronTwo
  have h0 : 0 ≤ x % 8 := Int.emod_nonneg x (by norm_num)
  have h1 : x % 8 < 8 := Int.emod_lt_of_pos x (by norm_num)
  rw [← Int.emod_emod_of_dvd x (by norm_num : (2 : Int) ∣ 8)]
  generalize x % 8 = r at h0 h1 ⊢
  interval_cases r <;> rfl

theorem table_chi8 (b : Nat) : table (b : Int) = χ₈ (b : ℤ) := by
  rw [table_eq, ZMod.χ₈_int_eq_if_mod_eight]; rfl

theorem table_odd (x : Int) (h : x % 2 = 1) : table x = 1 ∨ table x = -1 := by
  rw [table_eq, kronTwo, if_neg (by rw [h]; decide)]
  split
  · exact .inl rfl
  · exact .inr rfl

theorem removeTwos_spec (t : Nat) : ∀ (fuel : Nat) (y : Int) (v0 : Nat), y % 2 = 1 → t ≤ fuel →
    removeTwos fuel (y * 2 ^ t) v0 = (y, v0 + t) := by
  induction t with
  | zero =>
    intro fuel y v0 hy _
    cases fuel with
    | zero => simp [removeTwos]
    | succ f => rw [pow_zero, mul_one, removeTwos, if_neg (by omega), add_zero]
  | succ t ih =>
    intro fuel y v0 hy hf
    cases fuel with
    | zero => omega
    | succ f =>
      have hy0 : y ≠ 0 := by rintro rfl; exact absurd hy (by decide)
      have heven : (y * 2 ^ (t + 1)) % 2 = 0 := by
        rw [pow_succ, ← mul_assoc]; exact Int.mul_emod_left _ _
      have hne : y * 2 ^ (t + 1) ≠ 0 := mul_ne_zero hy0 (pow_ne_zero _ two_ne_zero)
      have hdiv : (y * 2 ^ (t + 1)).tdiv 2 = y * 2 ^ t := by
        rw [pow_succ, ← mul_assoc]; exact Int.mul_tdiv_cancel _ two_ne_zero
      rw [removeTwos, if_pos ⟨heven, hne⟩, hdiv, ih f y (v0 + 1) hy (Nat.le_of_succ_le_succ hf),
        Nat.add_assoc, Nat.add_comm 1 t]

/-- the fuel the code's loops get, the absolute value, is enough: t < 2^t ≤ |y·2^t| -/
theorem removeTwos_natAbs (y : Int) (t : Nat) (hy : y % 2 = 1) :
    removeTwos (y * 2 ^ t).natAbs (y * 2 ^ t) 0 = (y, t) := by
  have hy0 : 0 < y.natAbs := Int.natAbs_pos.mpr (by rintro rfl; exact absurd hy (by decide))
  have h := removeTwos_spec t (y * 2 ^ t).natAbs y 0 hy (by
    rw [Int.natAbs_mul, Int.natAbs_pow]
    exact Nat.lt_two_pow_self.le.trans (Nat.le_mul_of_pos_left _ hy0))
  rwa [zero_add] at h

theorem decomp_exists (b : Int) (hb : b ≠ 0) :
    ∃ (s : Int) (v : Nat) (b' : Nat), (s = 1 ∨ s = -1) ∧ b' % 2 = 1 ∧ b = s * 2 ^ v * (b' : Int) := by
  obtain ⟨k, m, hm, hkm⟩ := Nat.exists_eq_two_pow_mul_odd (Int.natAbs_ne_zero.mpr hb)
  rcases Int.natAbs_eq b with h | h
  · exact ⟨1, k, m, .inl rfl, Nat.odd_iff.mp hm, by rw [h, hkm]; push_cast; ring⟩
  · exact ⟨-1, k, m, .inr rfl, Nat.odd_iff.mp hm, by rw [h, hkm]; push_cast; ring⟩

theorem unit_mul_odd (s : Int) (hs : s = 1 ∨ s = -1) (n : Nat) (hn : n % 2 = 1) :
    (s * (n : Int)) % 2 = 1 := by
  have h : (n : Int) % 2 = 1 := by exact_mod_cast hn
  rcases hs with rfl | rfl
  · rwa [one_mul]
  · rwa [neg_one_mul, Int.neg_emod_two]

theorem odd_decomp (x : Int) (hx : x ≠ 0) : ∃ (y : Int) (t : Nat), y % 2 = 1 ∧ x = y * 2 ^ t := by
  obtain ⟨s, v, b', hs, hb', rfl⟩ := decomp_exists x hx
  exact ⟨s * b', v, unit_mul_odd s hs b' hb', by ring⟩

theorem pm_one_pow (u : Int) (hu : u = 1 ∨ u = -1) (t : Nat) : u ^ t = if t % 2 = 1 then u else 1 := by
  rcases hu with rfl | rfl
  · rw [one_pow, ite_self]
  · rcases Nat.even_or_odd t with he | ho
    · rw [he.neg_one_pow, if_neg (by rw [Nat.even_iff.mp he]; decide)]
    · rw [ho.neg_one_pow, if_pos (Nat.odd_iff.mp ho)]

theorem ite_neg_eq_sign_mul (c : Prop) [Decidable c] (x : Int) :
    (if c then -x else x) = (if c then -1 else 1) * x := by
  split
  · rw [neg_one_mul]
  · rw [one_mul]

theorem ite_mul_eq_mul_ite (p : Prop) [Decidable p] (k u : Int) :
    (if p then k * u else k) = k * (if p then u else 1) := by
  split
  · rfl
  · rw [mul_one]

/-- steps 3–4 of Cohen 1.4.10: the loop multiplies k by the Jacobi symbol J(a | b), b odd -/
theorem kronLoop_spec : ∀ (fuel : Nat) (a : Int) (b : Nat) (k : Int), b % 2 = 1 → a.natAbs < fuel →
    kronLoop fuel a b k = k * J(a | b) := by
  intro fuel
  induction fuel with
  | zero => intro a b k _ h; omega
  | succ fuel ih =>
    intro a b k hb hf
    have hbodd : Odd b := Nat.odd_iff.mpr hb
    by_cases ha : a = 0
    · subst ha
      simp only [kronLoop, ↓reduceIte]
      by_cases hb1 : b = 1
      · rw [if_pos hb1, hb1, jacobiSym.one_right, mul_one]
      · rw [if_neg hb1, zero_left (lt_of_le_of_ne hbodd.pos (Ne.symm hb1)), mul_zero]
    · obtain ⟨a', t, ha', rfl⟩ := odd_decomp a ha
      rw [kronLoop, if_neg ha, removeTwos_natAbs a' t ha']
      dsimp only
      have hr : Odd a'.natAbs := Int.natAbs_odd.mpr (Int.odd_iff.mpr ha')
      -- the new numerator b mod |a'| is below |a'| ≤ |a|
      have hnew : ((b : Int).tmod (a'.natAbs : Int)).natAbs < fuel := by
        rw [Int.natAbs_tmod, Int.natAbs_natCast, Int.natAbs_natCast]
        rw [Int.natAbs_mul] at hf
        exact (Nat.mod_lt _ hr.pos).trans_le ((Nat.le_mul_of_pos_right _ (by positivity)).trans
          (Nat.le_of_lt_succ hf))
      have h2 : J(2 | b) = table (b : Int) := by rw [at_two hbodd, table_chi8]; rfl
      have hmod : J((b : Int).tmod (a'.natAbs : Int) | a'.natAbs) = J((b : Int) | a'.natAbs) := by
        rw [Int.tmod_eq_emod_of_nonneg (by positivity), ← jacobiSym.mod_left]
      rw [ih _ _ _ (Nat.odd_iff.mp hr) hnew, hmod, jacobiSym.mul_left, jacobiSym.pow_left, h2, recip a' b ha' hb,
        pm_one_pow _ (table_odd _ (by exact_mod_cast hb)) t]
      rw [ite_mul_eq_mul_ite, ite_neg_eq_sign_mul]
      ring

theorem unit_mul_natAbs (s : Int) (hs : s = 1 ∨ s = -1) (n : Nat) : (s * (n : Int)).natAbs = n := by
  rcases hs with rfl | rfl
  · rw [one_mul, Int.natAbs_natCast]
  · rw [neg_one_mul, Int.natAbs_neg, Int.natAbs_natCast]

theorem unit_mul_neg_iff (s : Int) (hs : s = 1 ∨ s = -1) (n : Nat) (hn : 0 < n) :
    s * (n : Int) < 0 ↔ s = -1 := by
  rcases hs with rfl | rfl
  · rw [one_mul]
    exact iff_of_false (not_lt.mpr (Int.natCast_nonneg n)) (by decide)
  · rw [neg_one_mul, neg_neg_iff_pos]
    exact iff_of_true (by exact_mod_cast hn) rfl

/-- C19 (Kronecker symbol), full: for every a and every b ≠ 0 written as b = s·2^v·b' (s = ±1, b' odd),
the model returns (a/s)·(a/2)^v·J(a | b') — the mathematical Kronecker symbol — where (a/−1) = −1 iff
a < 0, (a/2) is `kronTwo`, and J is Mathlib's Jacobi symbol. -/
theorem kronecker_eq (a : Int) (s : Int) (hs : s = 1 ∨ s = -1) (v : Nat) (b' : Nat) (hb' : b' % 2 = 1) :
    kronecker a (s * 2 ^ v * (b' : Int)) =
      (if s = -1 ∧ a < 0 then -1 else 1) * kronTwo a ^ v * J(a | b') := by
  have hsb : (s * (b' : Int)) % 2 = 1 := unit_mul_odd s hs b' hb'
  have hb : s * 2 ^ v * (b' : Int) = (s * (b' : Int)) * 2 ^ v := by ring
  have hbne : (s * (b' : Int)) * 2 ^ v ≠ 0 :=
    mul_ne_zero (fun h => by rw [h] at hsb; exact absurd hsb (by decide)) (pow_ne_zero _ two_ne_zero)
  have hbeven : ((s * (b' : Int)) * 2 ^ v) % 2 = 0 → v ≠ 0 := by
    rintro h rfl
    rw [pow_zero, mul_one, hsb] at h
    exact absurd h (by decide)
  rw [hb, kronecker, if_neg hbne]
  by_cases hboth : a % 2 = 0 ∧ ((s * (b' : Int)) * 2 ^ v) % 2 = 0
  · have : kronTwo a = 0 := if_pos hboth.1
    rw [if_pos hboth, this, zero_pow (hbeven hboth.2), mul_zero, zero_mul]
  · simp only [hboth, ↓reduceIte, removeTwos_natAbs _ v hsb, unit_mul_natAbs s hs,
      unit_mul_neg_iff s hs b' (Nat.odd_iff.mpr hb').pos]
    rw [kronLoop_spec _ _ _ _ hb' (Nat.lt_add_of_pos_right (by decide))]
    congr 1
    -- (a/2)^v: for v ≥ 1 the modulus is even, so a is odd and (a/2) = ±1
    have hpow : kronTwo a ^ v = if v % 2 = 1 then table a else 1 := by
      rcases v with _ | w
      · simp
      · have hodd : a % 2 = 1 := (Int.emod_two_eq_zero_or_one a).resolve_left fun h =>
          hboth ⟨h, by rw [pow_succ, ← mul_assoc]; exact Int.mul_emod_left _ _⟩
        rw [← table_eq, pm_one_pow _ (table_odd a hodd)]
    rw [hpow]
    exact ite_neg_eq_sign_mul _ _

end NTV.Kron
