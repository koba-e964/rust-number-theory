import NTV.Model.Kron
import Mathlib.NumberTheory.LegendreSymbol.JacobiSymbol
open NumberTheorySymbols jacobiSym
namespace NTV.Kron

theorem recip_nat (r b : Nat) (hr : r % 2 = 1) (hb : b % 2 = 1) :
    J(r | b) = (if r % 4 = 3 ∧ b % 4 = 3 then -1 else 1) * J(b | r) := by
  rw [← quadratic_reciprocity_if hr hb]
  split <;> simp

theorem neg_natCast_emod_four (r : Nat) : (-(r : Int)) % 4 = (-((r % 4 : Nat) : Int)) % 4 := by
  rw [Int.natCast_mod]
  exact ((Int.mod_modEq _ 4).neg).symm

/-- the first factor is χ₄(b) as `ZMod.χ₄_nat_eq_if_mod_four` spells it; both sides depend only on
r and b modulo 4 -/
theorem recip_sign_neg (r b : Nat) (hr : r % 2 = 1) (hb : b % 2 = 1) :
    (if b % 2 = 0 then 0 else if b % 4 = 1 then 1 else -1 : Int) *
      (if r % 4 = 3 ∧ b % 4 = 3 then -1 else 1) =
        if (-(r : Int)) % 4 = 3 ∧ b % 4 = 3 then -1 else 1 := by
  rw [neg_natCast_emod_four, hb]
  rcases Nat.odd_mod_four_iff.mp hr with h | h <;> rcases Nat.odd_mod_four_iff.mp hb with h' | h' <;>
    rw [h, h'] <;> decide

/-- reciprocity with a possibly negative odd numerator, in the form used by Cohen 1.4.10 step 4 -/
theorem recip (a' : Int) (b : Nat) (ha : a' % 2 = 1) (hb : b % 2 = 1) :
    J(a' | b) = (if a' % 4 = 3 ∧ b % 4 = 3 then -1 else 1) * J(b | a'.natAbs) := by
  obtain ⟨r, rfl | rfl⟩ := Int.eq_nat_or_neg a'
  · have e4 : ((r : Int) % 4 = 3) = (r % 4 = 3) := by norm_cast
    rw [Int.natAbs_natCast, recip_nat r b (by exact_mod_cast ha) hb]
    simp only [e4]
  · rw [Int.neg_emod_two] at ha
    have hr : r % 2 = 1 := by exact_mod_cast ha
    rw [Int.natAbs_neg, Int.natAbs_natCast, jacobiSym.neg _ (Nat.odd_iff.mpr hb),
      ZMod.χ₄_nat_eq_if_mod_four, recip_nat r b hr hb, ← mul_assoc, recip_sign_neg r b hr hb]

end NTV.Kron
