import Mathlib.RingTheory.AdjoinRoot
import Mathlib.LinearAlgebra.Matrix.Adjugate
import Mathlib.RingTheory.Ideal.Maps
import Mathlib.RingTheory.Ideal.Operations
import Mathlib.RingTheory.Ideal.Quotient.Operations
import Mathlib.Algebra.Polynomial.Div
import Mathlib.Data.ZMod.Basic
import Mathlib.Algebra.Field.ZMod
import Mathlib.Algebra.Polynomial.FieldDivision
import Mathlib.RingTheory.PrincipalIdealDomain
/-! # Kummer–Dedekind, part A: the abstract algebra (no list-level model).

`R` is a commutative ring which is, through `v`, the ℤ-module ℤⁿ (an order with a chosen ℤ-basis); `ϑ ∈ R`
is a root of the monic `F ∈ ℤ[X]` of degree `n`, the coordinates of `1, ϑ, …, ϑ^{n−1}` are the rows of the
integer matrix `M` (so `|det M| = (R : ℤ[ϑ])`), and the prime `p` does not divide `det M`.
Then `ℤ[X] → R/pR` is onto with kernel `(p, F)`, which gives a surjective ring homomorphism
`ρ : R → 𝔽_p[X]/(F̄)` with kernel `pR` and `ρ (h(ϑ)) = h̄`.
Second half: the ideals `Pof p ϑ g = (p, g(ϑ))` for a divisor `ḡ` of `F̄`; `κ : R → 𝔽_p[X]/(ḡ)` is onto with kernel
`(p, g(ϑ))` (`ker_kappa`, `quotEquiv`), so membership is divisibility modulo `p`, `(p, g(ϑ))` is maximal for irreducible
`ḡ`, and the indices are `[R : (p, g(ϑ))] = p^{deg ḡ}`, `[R : pR] = pⁿ` (`card_quot_*`). -/
open Polynomial Matrix

namespace NTV.KD

variable {R : Type*} [CommRing R] {n : ℕ}

/-- the standing hypotheses -/
structure Ctx (p : ℕ) (v : R ≃ₗ[ℤ] (Fin n → ℤ)) (ϑ : R) (F : ℤ[X]) (M : Matrix (Fin n) (Fin n) ℤ) : Prop where
  pos : 0 < n
  monic : F.Monic
  deg : F.natDegree = n
  root : aeval ϑ F = 0
  pow : ∀ c : Fin n, v (ϑ ^ (c : ℕ)) = M c
  cop : IsCoprime M.det (p : ℤ)

variable {p : ℕ} {v : R ≃ₗ[ℤ] (Fin n → ℤ)} {ϑ : R} {F : ℤ[X]} {M : Matrix (Fin n) (Fin n) ℤ}

theorem Ctx.v_sum (H : Ctx p v ϑ F M) (a : Fin n → ℤ) :
    v (∑ c : Fin n, a c • ϑ ^ (c : ℕ)) = a ᵥ* M := by
  rw [map_sum]
  funext j
  simp only [v.map_smul, H.pow, Finset.sum_apply, Pi.smul_apply, smul_eq_mul, Matrix.vecMul, dotProduct]

theorem Ctx.v_aeval (H : Ctx p v ϑ F M) (h : ℤ[X]) (hd : h.natDegree < n) :
    v (aeval ϑ h) = (fun c : Fin n => h.coeff c) ᵥ* M := by
  rw [aeval_eq_sum_range' hd, ← Fin.sum_univ_eq_sum_range (fun i => h.coeff i • ϑ ^ i) n]
  exact H.v_sum _

theorem Ctx.F_ne_one (H : Ctx p v ϑ F M) : F ≠ 1 := by
  intro h
  have := H.deg
  rw [h, natDegree_one] at this
  have := H.pos
  omega

theorem Ctx.aeval_mod (H : Ctx p v ϑ F M) (h : ℤ[X]) : aeval ϑ (h %ₘ F) = aeval ϑ h := by
  conv_rhs => rw [← modByMonic_add_div h F]
  rw [map_add, map_mul, H.root, zero_mul, add_zero]

theorem aeval_mem_of_map_eq_zero (ϑ : R) (k : ℤ[X]) (hk : k.map (Int.castRingHom (ZMod p)) = 0) :
    aeval ϑ k ∈ Ideal.span {(p : R)} := by
  rw [aeval_eq_sum_range]
  refine Ideal.sum_mem _ (fun i _ => ?_)
  have hc : (p : ℤ) ∣ k.coeff i := by
    have := congrArg (fun q => q.coeff i) hk
    simp only [coeff_map, eq_intCast, coeff_zero] at this
    exact (ZMod.intCast_zmod_eq_zero_iff_dvd _ _).mp this
  obtain ⟨m, hm⟩ := hc
  rw [hm, mul_smul]
  rw [Ideal.mem_span_singleton]
  refine ⟨m • ϑ ^ i, ?_⟩
  rw [natCast_zsmul, nsmul_eq_mul]

theorem Ctx.coeff_dvd_of_mem (H : Ctx p v ϑ F M) (h : ℤ[X]) (hm : aeval ϑ h ∈ Ideal.span {(p : R)}) (c : ℕ) :
    (p : ℤ) ∣ (h %ₘ F).coeff c := by
  by_cases hc : c < n
  swap
  · rw [coeff_eq_zero_of_natDegree_lt]
    · exact dvd_zero _
    · have := natDegree_modByMonic_lt h H.monic H.F_ne_one
      rw [H.deg] at this
      omega
  rw [← H.aeval_mod, Ideal.mem_span_singleton] at hm
  obtain ⟨y, hy⟩ := hm
  have hlt : (h %ₘ F).natDegree < n := by
    have := natDegree_modByMonic_lt h H.monic H.F_ne_one
    rwa [H.deg] at this
  have h1 := H.v_aeval (h %ₘ F) hlt
  rw [hy] at h1
  have h2 : v ((p : R) * y) = (p : ℤ) • v y := by
    rw [← v.map_smul, natCast_zsmul, nsmul_eq_mul]
  rw [h2] at h1
  have h3 := congrArg (fun w => w ᵥ* M.adjugate) h1
  simp only [Matrix.vecMul_vecMul, Matrix.mul_adjugate, Matrix.vecMul_smul, Matrix.vecMul_one,
    Matrix.smul_vecMul] at h3
  have h4 := congrFun h3 ⟨c, hc⟩
  simp only [Pi.smul_apply, smul_eq_mul] at h4
  have h5 : (p : ℤ) ∣ M.det * (h %ₘ F).coeff c := ⟨_, h4.symm⟩
  exact H.cop.symm.dvd_of_dvd_mul_left h5

theorem Ctx.exists_aeval (H : Ctx p v ϑ F M) (x : R) :
    ∃ h : ℤ[X], x - aeval ϑ h ∈ Ideal.span {(p : R)} := by
  -- `h0(ϑ) = det M • x` for the polynomial `h0` whose coefficients are `v x ᵥ* adj M`
  set a : Fin n → ℤ := v x ᵥ* M.adjugate with ha
  set h0 : ℤ[X] := ∑ c : Fin n, monomial (c : ℕ) (a c) with hh0
  have h1 : aeval ϑ h0 = M.det • x := by
    apply v.injective
    have h2 : aeval ϑ h0 = ∑ c : Fin n, a c • ϑ ^ (c : ℕ) := by
      rw [hh0, map_sum]
      exact Finset.sum_congr rfl fun c _ => by rw [aeval_monomial, algebraMap_int_eq, eq_intCast, zsmul_eq_mul]
    rw [h2, H.v_sum, v.map_smul, ha, Matrix.vecMul_vecMul, Matrix.adjugate_mul, Matrix.vecMul_smul,
      Matrix.vecMul_one]
  obtain ⟨u, k, huk⟩ := H.cop
  refine ⟨C u * h0, ?_⟩
  rw [map_mul, aeval_C, h1, Ideal.mem_span_singleton]
  refine ⟨k • x, ?_⟩
  have : (u * M.det + k * (p : ℤ)) • x = x := by rw [huk, one_smul]
  simp only [algebraMap_int_eq, eq_intCast, zsmul_eq_mul] at this ⊢
  simp only [Int.cast_add, Int.cast_mul, Int.cast_natCast] at this
  linear_combination (-1 : R) * this

/-- `𝔽_p[X]/(F̄)` -/
abbrev Amod (p : ℕ) (F : ℤ[X]) : Type := (ZMod p)[X] ⧸ Ideal.span {F.map (Int.castRingHom (ZMod p))}

/-- reduction of the coefficients modulo `p` -/
noncomputable abbrev red (p : ℕ) : ℤ[X] →+* (ZMod p)[X] := mapRingHom (Int.castRingHom (ZMod p))

/-- `ℤ[X] → 𝔽_p[X]/(F̄)` -/
noncomputable def piF (p : ℕ) (F : ℤ[X]) : ℤ[X] →+* Amod p F := (Ideal.Quotient.mk _).comp (red p)

/-- `ℤ[X] → R/pR`, `h ↦ h(ϑ)` -/
noncomputable def sigma (p : ℕ) (ϑ : R) : ℤ[X] →+* R ⧸ Ideal.span {(p : R)} :=
  (Ideal.Quotient.mk _).comp (aeval ϑ : ℤ[X] →ₐ[ℤ] R).toRingHom

theorem sigma_apply (ϑ : R) (h : ℤ[X]) : sigma p ϑ h = Ideal.Quotient.mk _ (aeval ϑ h) := rfl

theorem piF_apply (h : ℤ[X]) : piF p F h = Ideal.Quotient.mk _ (h.map (Int.castRingHom (ZMod p))) := rfl

theorem red_surjective (p : ℕ) : Function.Surjective (red p) :=
  Polynomial.map_surjective _ (ZMod.intCast_surjective)

theorem piF_surjective (p : ℕ) (F : ℤ[X]) : Function.Surjective (piF p F) :=
  Ideal.Quotient.mk_surjective.comp (red_surjective p)

theorem piF_eq_zero_iff (h : ℤ[X]) :
    piF p F h = 0 ↔ F.map (Int.castRingHom (ZMod p)) ∣ h.map (Int.castRingHom (ZMod p)) := by
  rw [piF_apply, Ideal.Quotient.eq_zero_iff_mem, Ideal.mem_span_singleton]

theorem Ctx.sigma_surjective (H : Ctx p v ϑ F M) : Function.Surjective (sigma p ϑ) := by
  intro y
  obtain ⟨x, rfl⟩ := Ideal.Quotient.mk_surjective y
  obtain ⟨h, hh⟩ := H.exists_aeval x
  refine ⟨h, ?_⟩
  rw [sigma_apply]
  symm
  rw [Ideal.Quotient.eq]
  exact hh

theorem Ctx.ker_sigma_le (H : Ctx p v ϑ F M) : RingHom.ker (sigma p ϑ) ≤ RingHom.ker (piF p F) := by
  intro h hh
  rw [RingHom.mem_ker, sigma_apply, Ideal.Quotient.eq_zero_iff_mem] at hh
  rw [RingHom.mem_ker, piF_eq_zero_iff]
  have h0 : (h %ₘ F).map (Int.castRingHom (ZMod p)) = 0 := by
    ext c
    rw [coeff_map, coeff_zero, eq_intCast]
    exact (ZMod.intCast_zmod_eq_zero_iff_dvd _ _).mpr (H.coeff_dvd_of_mem h hh c)
  conv_rhs => rw [← modByMonic_add_div h F]
  rw [Polynomial.map_add, h0, zero_add, Polynomial.map_mul]
  exact dvd_mul_right _ _

theorem Ctx.ker_piF_le (H : Ctx p v ϑ F M) : RingHom.ker (piF p F) ≤ RingHom.ker (sigma p ϑ) := by
  intro h hh
  rw [RingHom.mem_ker, piF_eq_zero_iff] at hh
  obtain ⟨q', hq'⟩ := hh
  obtain ⟨q, rfl⟩ := red_surjective p q'
  rw [RingHom.mem_ker, sigma_apply, Ideal.Quotient.eq_zero_iff_mem]
  have hk : (h - F * q).map (Int.castRingHom (ZMod p)) = 0 := by
    rw [Polynomial.map_sub, Polynomial.map_mul, hq']
    simp [red]
  have := aeval_mem_of_map_eq_zero (p := p) ϑ (h - F * q) hk
  rwa [map_sub, map_mul, H.root, zero_mul, sub_zero] at this

/-- **the reduction homomorphism** `ρ : R → 𝔽_p[X]/(F̄)` -/
noncomputable def Ctx.rho (H : Ctx p v ϑ F M) : R →+* Amod p F :=
  ((sigma p ϑ).liftOfSurjective H.sigma_surjective ⟨piF p F, H.ker_sigma_le⟩).comp (Ideal.Quotient.mk _)

theorem Ctx.rho_aeval (H : Ctx p v ϑ F M) (h : ℤ[X]) : H.rho (aeval ϑ h) = piF p F h := by
  have := RingHom.liftOfSurjective_comp_apply (sigma p ϑ) H.sigma_surjective ⟨piF p F, H.ker_sigma_le⟩ h
  exact this

theorem Ctx.rho_surjective (H : Ctx p v ϑ F M) : Function.Surjective H.rho := by
  intro a
  obtain ⟨h, rfl⟩ := piF_surjective p F a
  exact ⟨aeval ϑ h, H.rho_aeval h⟩

/-- `ρ` factors through `R/pR` -/
theorem Ctx.rho_eq_zero_of_mem (H : Ctx p v ϑ F M) {x : R} (hx : x ∈ Ideal.span {(p : R)}) : H.rho x = 0 := by
  show ((sigma p ϑ).liftOfSurjective H.sigma_surjective ⟨piF p F, H.ker_sigma_le⟩) (Ideal.Quotient.mk _ x) = 0
  rw [Ideal.Quotient.eq_zero_iff_mem.mpr hx, RingHom.map_zero]

theorem Ctx.ker_rho (H : Ctx p v ϑ F M) : RingHom.ker H.rho = Ideal.span {(p : R)} := by
  refine le_antisymm (fun x hx => ?_) fun x hx => H.rho_eq_zero_of_mem hx
  -- `x ≡ h(ϑ)` modulo `pR`, so `ρ (h(ϑ)) = 0`, hence `h(ϑ) ∈ pR` by `ker_piF_le`
  obtain ⟨h, hh⟩ := H.exists_aeval x
  have hr : piF p F h = 0 := by
    rw [← H.rho_aeval, ← sub_sub_cancel x (aeval ϑ h), H.rho.map_sub, RingHom.mem_ker.mp hx,
      H.rho_eq_zero_of_mem hh, sub_zero]
  have := H.ker_piF_le hr
  rw [RingHom.mem_ker, sigma_apply, Ideal.Quotient.eq_zero_iff_mem] at this
  have h2 := Ideal.add_mem _ hh this
  rwa [sub_add_cancel] at h2

/-- `(p, g(ϑ))` -/
def Pof (p : ℕ) (ϑ : R) (g : ℤ[X]) : Ideal R := Ideal.span {(p : R), aeval ϑ g}

theorem p_mem_Pof (ϑ : R) (g : ℤ[X]) : (p : R) ∈ Pof p ϑ g := Ideal.subset_span (by simp)

theorem aeval_mem_Pof (ϑ : R) (g : ℤ[X]) : aeval ϑ g ∈ Pof p ϑ g := Ideal.subset_span (by simp)

theorem span_p_le_Pof (ϑ : R) (g : ℤ[X]) : Ideal.span {(p : R)} ≤ Pof p ϑ g := by
  rw [Ideal.span_le, Set.singleton_subset_iff]; exact p_mem_Pof ϑ g

theorem Ctx.map_Pof (H : Ctx p v ϑ F M) (g : ℤ[X]) :
    Ideal.map H.rho (Pof p ϑ g) = Ideal.span {piF p F g} := by
  unfold Pof
  rw [Ideal.map_span]
  apply le_antisymm
  · rw [Ideal.span_le]
    rintro _ ⟨x, hx, rfl⟩
    rcases hx with rfl | hx
    · rw [H.rho_eq_zero_of_mem (Ideal.subset_span rfl)]; exact Ideal.zero_mem _
    · rw [Set.mem_singleton_iff] at hx
      subst hx
      rw [H.rho_aeval]; exact Ideal.subset_span rfl
  · rw [Ideal.span_le, Set.singleton_subset_iff]
    apply Ideal.subset_span
    exact ⟨aeval ϑ g, by simp, H.rho_aeval g⟩

theorem Ctx.comap_span (H : Ctx p v ϑ F M) (g : ℤ[X]) :
    Ideal.comap H.rho (Ideal.span {piF p F g}) = Pof p ϑ g := by
  rw [← H.map_Pof, Ideal.comap_map_of_surjective _ H.rho_surjective]
  apply le_antisymm
  · apply sup_le le_rfl
    have : Ideal.comap H.rho ⊥ = RingHom.ker H.rho := rfl
    rw [this, H.ker_rho]
    exact span_p_le_Pof ϑ g
  · exact le_sup_left

theorem span_le_of_dvd {q q' : (ZMod p)[X]} (h : q ∣ q') : Ideal.span {q'} ≤ Ideal.span {q} := by
  rw [Ideal.span_le, Set.singleton_subset_iff, SetLike.mem_coe, Ideal.mem_span_singleton]; exact h

/-- `R → 𝔽_p[X]/(ḡ)` for a divisor `ḡ` of `F̄` -/
noncomputable def Ctx.kappa (H : Ctx p v ϑ F M) (g : ℤ[X])
    (hg : g.map (Int.castRingHom (ZMod p)) ∣ F.map (Int.castRingHom (ZMod p))) :
    R →+* (ZMod p)[X] ⧸ Ideal.span {g.map (Int.castRingHom (ZMod p))} :=
  (Ideal.Quotient.factor (span_le_of_dvd hg)).comp H.rho

theorem Ctx.kappa_surjective (H : Ctx p v ϑ F M) (g : ℤ[X])
    (hg : g.map (Int.castRingHom (ZMod p)) ∣ F.map (Int.castRingHom (ZMod p))) :
    Function.Surjective (H.kappa g hg) :=
  (Ideal.Quotient.factor_surjective (span_le_of_dvd hg)).comp H.rho_surjective

theorem Ctx.ker_kappa (H : Ctx p v ϑ F M) (g : ℤ[X])
    (hg : g.map (Int.castRingHom (ZMod p)) ∣ F.map (Int.castRingHom (ZMod p))) :
    RingHom.ker (H.kappa g hg) = Pof p ϑ g := by
  ext x
  obtain ⟨q, hq⟩ := Ideal.Quotient.mk_surjective (H.rho x)
  rw [← H.comap_span, Ideal.mem_comap, RingHom.mem_ker]
  show Ideal.Quotient.factor (span_le_of_dvd hg) (H.rho x) = 0 ↔ _
  have e : Ideal.span {piF p F g} = Ideal.map (Ideal.Quotient.mk (Ideal.span {F.map (Int.castRingHom (ZMod p))}))
      (Ideal.span {g.map (Int.castRingHom (ZMod p))}) := by
    rw [Ideal.map_span, Set.image_singleton]; rfl
  rw [← hq, Ideal.Quotient.factor_mk, Ideal.Quotient.eq_zero_iff_mem, e,
    Ideal.mem_quotient_iff_mem (span_le_of_dvd hg)]

theorem Ctx.aeval_mem_Pof_iff (H : Ctx p v ϑ F M) (g : ℤ[X])
    (hg : g.map (Int.castRingHom (ZMod p)) ∣ F.map (Int.castRingHom (ZMod p))) (h : ℤ[X]) :
    aeval ϑ h ∈ Pof p ϑ g ↔ g.map (Int.castRingHom (ZMod p)) ∣ h.map (Int.castRingHom (ZMod p)) := by
  rw [← H.ker_kappa g hg, RingHom.mem_ker]
  show Ideal.Quotient.factor (span_le_of_dvd hg) (H.rho (aeval ϑ h)) = 0 ↔ _
  rw [H.rho_aeval, piF_apply, Ideal.Quotient.factor_mk, Ideal.Quotient.eq_zero_iff_mem, Ideal.mem_span_singleton]

theorem Ctx.aeval_mem_span_p_iff (H : Ctx p v ϑ F M) (h : ℤ[X]) :
    aeval ϑ h ∈ Ideal.span {(p : R)} ↔ F.map (Int.castRingHom (ZMod p)) ∣ h.map (Int.castRingHom (ZMod p)) := by
  rw [← H.ker_rho, RingHom.mem_ker, H.rho_aeval, piF_eq_zero_iff]

/-- `R/(p, g(ϑ)) ≅ 𝔽_p[X]/(ḡ)` -/
noncomputable def Ctx.quotEquiv (H : Ctx p v ϑ F M) (g : ℤ[X])
    (hg : g.map (Int.castRingHom (ZMod p)) ∣ F.map (Int.castRingHom (ZMod p))) :
    (R ⧸ Pof p ϑ g) ≃+* (ZMod p)[X] ⧸ Ideal.span {g.map (Int.castRingHom (ZMod p))} :=
  (Ideal.quotEquivOfEq (H.ker_kappa g hg).symm).trans
    (RingHom.quotientKerEquivOfSurjective (H.kappa_surjective g hg))

section prime
variable [hp : Fact p.Prime]

/-- `(p, g(ϑ))` is the kernel of a map onto the field `𝔽_p[X]/(ḡ)` -/
theorem Ctx.Pof_isMaximal (H : Ctx p v ϑ F M) (g : ℤ[X])
    (hg : g.map (Int.castRingHom (ZMod p)) ∣ F.map (Int.castRingHom (ZMod p)))
    (hirr : Irreducible (g.map (Int.castRingHom (ZMod p)))) : (Pof p ϑ g).IsMaximal := by
  have hmax : (Ideal.span {g.map (Int.castRingHom (ZMod p))}).IsMaximal :=
    PrincipalIdealRing.isMaximal_of_irreducible hirr
  let _ := Ideal.Quotient.field (Ideal.span {g.map (Int.castRingHom (ZMod p))})
  rw [← H.ker_kappa g hg]
  exact RingHom.ker_isMaximal_of_surjective _ (H.kappa_surjective g hg)

theorem card_quot_monic (p : ℕ) [Fact p.Prime] (q : (ZMod p)[X]) (hq : q.Monic) :
    Nat.card ((ZMod p)[X] ⧸ Ideal.span {q}) = p ^ q.natDegree := by
  have e := (AdjoinRoot.powerBasis' hq).basis.equivFun
  have h1 : Nat.card ((ZMod p)[X] ⧸ Ideal.span {q}) = Nat.card (AdjoinRoot q) := rfl
  rw [h1, Nat.card_congr e.toEquiv, Nat.card_fun, Nat.card_zmod, Nat.card_fin, AdjoinRoot.powerBasis'_dim]

theorem Ctx.card_quot_Pof (H : Ctx p v ϑ F M) (g : ℤ[X])
    (hg : g.map (Int.castRingHom (ZMod p)) ∣ F.map (Int.castRingHom (ZMod p)))
    (hm : (g.map (Int.castRingHom (ZMod p))).Monic) :
    Nat.card (R ⧸ Pof p ϑ g) = p ^ (g.map (Int.castRingHom (ZMod p))).natDegree := by
  rw [Nat.card_congr (H.quotEquiv g hg).toEquiv, card_quot_monic p _ hm]

theorem Ctx.card_quot_p (H : Ctx p v ϑ F M) :
    Nat.card (R ⧸ Ideal.span {(p : R)}) = p ^ n := by
  have e : (R ⧸ Ideal.span {(p : R)}) ≃+* Amod p F :=
    (Ideal.quotEquivOfEq H.ker_rho.symm).trans (RingHom.quotientKerEquivOfSurjective H.rho_surjective)
  have hm : (F.map (Int.castRingHom (ZMod p))).Monic := H.monic.map _
  rw [Nat.card_congr e.toEquiv, card_quot_monic p _ hm, H.monic.natDegree_map, H.deg]

end prime

end NTV.KD
