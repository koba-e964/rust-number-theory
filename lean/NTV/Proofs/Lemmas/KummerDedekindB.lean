import NTV.Proofs.Lemmas.KummerDedekindA
import Mathlib.RingTheory.Ideal.Norm.AbsNorm
/-! # Kummer–Dedekind, part B (abstract): comaximality of the ideals `(p, g_i(ϑ))`, the product
`∏ (p, g_i(ϑ))^{e_i}` against `pR`. The inclusion `⊆` always holds; equality holds exactly when `p` lies in every
`(p, g_i(ϑ))^{e_i}` — which is the case when all `e_i = 1`, when `R` is a Dedekind domain, or when Dedekind's
criterion holds at the ramified `g_i`. Last: an integrally closed domain that is finite free over ℤ is a Dedekind
domain (`isDedekindDomain_of_finite_int`). -/
open Polynomial Matrix

namespace NTV.KD

variable {R : Type*} [CommRing R] {n : ℕ}
variable {p : ℕ} {v : R ≃ₗ[ℤ] (Fin n → ℤ)} {ϑ : R} {F : ℤ[X]} {M : Matrix (Fin n) (Fin n) ℤ}

theorem Pof_sup_eq_top (ϑ : R) (g g' : ℤ[X])
    (hc : IsCoprime (g.map (Int.castRingHom (ZMod p))) (g'.map (Int.castRingHom (ZMod p)))) :
    Pof p ϑ g ⊔ Pof p ϑ g' = ⊤ := by
  obtain ⟨a', b', hab⟩ := hc
  obtain ⟨a, rfl⟩ := red_surjective p a'
  obtain ⟨b, rfl⟩ := red_surjective p b'
  have hk : (a * g + b * g' - 1).map (Int.castRingHom (ZMod p)) = 0 := by
    rw [Polynomial.map_sub, Polynomial.map_add, Polynomial.map_mul, Polynomial.map_mul, Polynomial.map_one]
    rw [sub_eq_zero]
    exact hab
  have hz := aeval_mem_of_map_eq_zero (p := p) ϑ _ hk
  rw [Ideal.eq_top_iff_one]
  have h1 : aeval ϑ (a * g + b * g') ∈ Pof p ϑ g ⊔ Pof p ϑ g' := by
    rw [map_add, map_mul, map_mul]
    exact Ideal.add_mem _ (Ideal.mem_sup_left (Ideal.mul_mem_left _ _ (aeval_mem_Pof ϑ g)))
      (Ideal.mem_sup_right (Ideal.mul_mem_left _ _ (aeval_mem_Pof ϑ g')))
  have h2 : aeval ϑ (a * g + b * g' - 1) ∈ Pof p ϑ g ⊔ Pof p ϑ g' :=
    Ideal.mem_sup_left (span_p_le_Pof ϑ g hz)
  have := Ideal.sub_mem _ h1 h2
  rwa [← map_sub, sub_sub_cancel, map_one] at this

variable {ι : Type*} [Fintype ι]

theorem Ctx.prod_le (H : Ctx p v ϑ F M) (g : ι → ℤ[X]) (e : ι → ℕ)
    (hprod : ∏ i, (g i).map (Int.castRingHom (ZMod p)) ^ e i = F.map (Int.castRingHom (ZMod p))) :
    ∏ i, Pof p ϑ (g i) ^ e i ≤ Ideal.span {(p : R)} := by
  rw [← H.ker_rho]
  have : RingHom.ker H.rho = Ideal.comap H.rho ⊥ := rfl
  rw [this, ← Ideal.map_le_iff_le_comap, le_bot_iff]
  rw [← Ideal.mapHom_apply, map_prod]
  simp only [map_pow, Ideal.mapHom_apply, H.map_Pof, Ideal.span_singleton_pow, Ideal.prod_span_singleton]
  rw [Ideal.span_singleton_eq_bot]
  simp only [← map_pow, ← map_prod]
  rw [piF_eq_zero_iff, Polynomial.map_prod]
  simp only [Polynomial.map_pow]
  rw [hprod]

theorem Ctx.prod_eq_iff (H : Ctx p v ϑ F M) (g : ι → ℤ[X]) (e : ι → ℕ)
    (hprod : ∏ i, (g i).map (Int.castRingHom (ZMod p)) ^ e i = F.map (Int.castRingHom (ZMod p)))
    (hcop : ∀ i j, i ≠ j →
      IsCoprime ((g i).map (Int.castRingHom (ZMod p))) ((g j).map (Int.castRingHom (ZMod p)))) :
    ∏ i, Pof p ϑ (g i) ^ e i = Ideal.span {(p : R)} ↔ ∀ i, (p : R) ∈ Pof p ϑ (g i) ^ e i := by
  classical
  constructor
  · intro h i
    have hp : (p : R) ∈ ∏ i, Pof p ϑ (g i) ^ e i := by rw [h]; exact Ideal.subset_span rfl
    exact Ideal.prod_le_inf (s := Finset.univ) (f := fun i => Pof p ϑ (g i) ^ e i) hp |>
      fun h' => (Finset.inf_le (Finset.mem_univ i) : (Finset.univ.inf fun i => Pof p ϑ (g i) ^ e i) ≤ _) h'
  · intro h
    apply le_antisymm (H.prod_le g e hprod)
    rw [Ideal.prod_eq_iInf_of_pairwise_isCoprime]
    · rw [Ideal.span_le, Set.singleton_subset_iff, SetLike.mem_coe]
      simp only [Ideal.mem_iInf]
      intro i _
      exact h i
    · intro i _ j _ hij
      show IsCoprime (Pof p ϑ (g i) ^ e i) (Pof p ϑ (g j) ^ e j)
      apply IsCoprime.pow
      rw [Ideal.isCoprime_iff_sup_eq]
      exact Pof_sup_eq_top ϑ _ _ (hcop i j hij)

/-- in particular for an unramified prime (all `e_i = 1`) -/
theorem Ctx.prod_eq_of_unramified (H : Ctx p v ϑ F M) (g : ι → ℤ[X]) (e : ι → ℕ)
    (hprod : ∏ i, (g i).map (Int.castRingHom (ZMod p)) ^ e i = F.map (Int.castRingHom (ZMod p)))
    (hcop : ∀ i j, i ≠ j →
      IsCoprime ((g i).map (Int.castRingHom (ZMod p))) ((g j).map (Int.castRingHom (ZMod p))))
    (he : ∀ i, e i = 1) :
    ∏ i, Pof p ϑ (g i) ^ e i = Ideal.span {(p : R)} := by
  rw [H.prod_eq_iff g e hprod hcop]
  intro i
  rw [he i, pow_one]
  exact p_mem_Pof ϑ _

section prime
variable [hp : Fact p.Prime]

theorem Ctx.p_mem_pow_of_criterion (H : Ctx p v ϑ F M) (g u h : ℤ[X]) (e : ℕ)
    (hF : F = g ^ e * u + C (p : ℤ) * h)
    (hg : g.map (Int.castRingHom (ZMod p)) ∣ F.map (Int.castRingHom (ZMod p)))
    (hirr : Irreducible (g.map (Int.castRingHom (ZMod p))))
    (hndvd : ¬ g.map (Int.castRingHom (ZMod p)) ∣ h.map (Int.castRingHom (ZMod p))) :
    (p : R) ∈ Pof p ϑ g ^ e := by
  have hmax := H.Pof_isMaximal g hg hirr
  have hH : aeval ϑ h ∉ Pof p ϑ g := fun hh => hndvd ((H.aeval_mem_Pof_iff g hg h).mp hh)
  have hrel : (p : R) * aeval ϑ h = -(aeval ϑ g ^ e * aeval ϑ u) := by
    have := H.root
    rw [hF, map_add, map_mul, map_mul, map_pow, aeval_C] at this
    simp only [algebraMap_int_eq, eq_intCast, Int.cast_natCast] at this
    linear_combination this
  have hpH : (p : R) * aeval ϑ h ∈ Pof p ϑ g ^ e := by
    rw [hrel]
    exact neg_mem (Ideal.mul_mem_right _ _ (Ideal.pow_mem_pow (aeval_mem_Pof ϑ g) e))
  have hsup : Ideal.span {aeval ϑ h} ⊔ Pof p ϑ g = ⊤ := by
    by_contra hne
    have hle : Pof p ϑ g ≤ Ideal.span {aeval ϑ h} ⊔ Pof p ϑ g := le_sup_right
    have := hmax.eq_of_le hne hle
    apply hH
    rw [this]
    exact Ideal.mem_sup_left (Ideal.subset_span rfl)
  have hc : IsCoprime (Ideal.span {aeval ϑ h}) (Pof p ϑ g ^ e) :=
    (Ideal.isCoprime_iff_sup_eq.mpr hsup).pow_right
  obtain ⟨i, hi, j, hj, hij⟩ := Ideal.isCoprime_iff_exists.mp hc
  obtain ⟨a, rfl⟩ := Ideal.mem_span_singleton'.mp hi
  have : (p : R) = a * ((p : R) * aeval ϑ h) + (p : R) * j := by
    linear_combination (p : R) * hij.symm
  rw [this]
  exact Ideal.add_mem _ (Ideal.mul_mem_left _ _ hpH) (Ideal.mul_mem_left _ _ hj)

end prime

section dedekind
variable [hp : Fact p.Prime] [IsDedekindDomain R]

/-- in a Dedekind domain (the maximal order) `∏ (p, g_i(ϑ))^{e_i} = pR`, by multiplicativity of the norm -/
theorem Ctx.prod_eq_of_dedekind (H : Ctx p v ϑ F M) (g : ι → ℤ[X]) (e : ι → ℕ)
    (hprod : ∏ i, (g i).map (Int.castRingHom (ZMod p)) ^ e i = F.map (Int.castRingHom (ZMod p)))
    (hm : ∀ i, ((g i).map (Int.castRingHom (ZMod p))).Monic) (he : ∀ i, e i ≠ 0) :
    ∏ i, Pof p ϑ (g i) ^ e i = Ideal.span {(p : R)} := by
  classical
  have : Module.Free ℤ R := Module.Free.of_equiv v.symm
  have hdvd : ∀ i, (g i).map (Int.castRingHom (ZMod p)) ∣ F.map (Int.castRingHom (ZMod p)) := by
    intro i
    rw [← hprod]
    exact (dvd_pow_self _ (he i)).trans (Finset.dvd_prod_of_mem _ (Finset.mem_univ i))
  have hN : ∀ i, Ideal.absNorm (Pof p ϑ (g i)) = p ^ ((g i).map (Int.castRingHom (ZMod p))).natDegree := by
    intro i
    rw [Ideal.absNorm_apply, Submodule.cardQuot_apply]
    exact H.card_quot_Pof (g i) (hdvd i) (hm i)
  have hNp : Ideal.absNorm (Ideal.span {(p : R)}) = p ^ n := by
    rw [Ideal.absNorm_apply, Submodule.cardQuot_apply]
    exact H.card_quot_p
  have hdeg : ∑ i, e i * ((g i).map (Int.castRingHom (ZMod p))).natDegree = n := by
    have h1 := congrArg natDegree hprod
    rw [H.monic.natDegree_map, H.deg, natDegree_prod_of_monic _ _ (fun i _ => (hm i).pow _)] at h1
    rw [← h1]
    exact Finset.sum_congr rfl (fun i _ => ((hm i).natDegree_pow _).symm)
  have hNprod : Ideal.absNorm (∏ i, Pof p ϑ (g i) ^ e i) = p ^ n := by
    rw [map_prod]
    simp only [map_pow, hN, ← pow_mul]
    rw [Finset.prod_pow_eq_pow_sum]
    congr 1
    rw [← hdeg]
    exact Finset.sum_congr rfl (fun i _ => mul_comm _ _)
  have hle := H.prod_le g e hprod
  obtain ⟨K, hK⟩ := Ideal.dvd_iff_le.mpr hle
  have h2 := congrArg Ideal.absNorm hK
  rw [map_mul, hNprod, hNp] at h2
  have hp0 : p ^ n ≠ 0 := pow_ne_zero _ hp.out.ne_zero
  have hK1 : Ideal.absNorm K = 1 := by
    have : p ^ n * 1 = p ^ n * Ideal.absNorm K := by rw [mul_one]; exact h2
    exact (Nat.eq_of_mul_eq_mul_left (Nat.pos_of_ne_zero hp0) this).symm
  rw [Ideal.absNorm_eq_one_iff] at hK1
  rw [hK, hK1, Ideal.mul_top]

end dedekind

/-- an integrally closed domain that is a finite free ℤ-module (the maximal order of a number field) is a
Dedekind domain -/
theorem isDedekindDomain_of_finite_int [IsDomain R] [IsIntegrallyClosed R] (v : R ≃ₗ[ℤ] (Fin n → ℤ)) :
    IsDedekindDomain R := by
  have hfin : Module.Finite ℤ R := Module.Finite.equiv v.symm
  have hint : Algebra.IsIntegral ℤ R := Algebra.IsIntegral.of_finite ℤ R
  have hnoeth : IsNoetherianRing R := IsNoetherianRing.of_finite ℤ R
  have hdim : Ring.DimensionLEOne R := Ring.DimensionLEOne.of_isIntegral (R := ℤ) R
  exact { }

end NTV.KD
