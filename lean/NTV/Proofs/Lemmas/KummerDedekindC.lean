import NTV.Proofs.Lemmas.DecompProofsB
import NTV.Proofs.Lemmas.KummerDedekindB
/-! # Kummer–Dedekind, part C: the commutative ring `Rt T = (ℤⁿ, +, ⋆)` of a multiplication table that
satisfies `TableRing`, and the dictionary ideals of `Rt T` ↔ lattices closed under `⋆` (`latOf`, `idealOfLat`);
the model's `mul` is the ideal product. Then `IsNF` (values of the normal-form constructor; equal lattices give equal
normal forms) and the model-side `unitIdeal`, `powM`, `prodM` (iterated `mul`) with their lattices.
`Rt T` is the second construction of this ring; the first is `NTV.IdealP.RT T` (IdealNormC), and
`NTV.MaxOrd.rtEquiv` (MaxOrderClosedC) identifies the two. -/
namespace NTV.KD
open NTV.IdealP NTV.Ord NTV.Hnf
-- `star` also exists at the root (`Star.star`); as an alias in this namespace the table product is found first, so that
-- the elaborator does not try (and fail) the other reading at every occurrence
export NTV.IdealP (star)

/-- ℤⁿ with the product of the table -/
def Rt {t : Table} {n : Nat} (_T : TableRing t n) : Type := Fin n → ℤ

variable {t : Table} {n : Nat} (T : TableRing t n)

theorem star_zero_left (t : Table) (n : Nat) (y : Fin n → ℤ) : star t n 0 y = 0 := by
  have := star_smul_left t n 0 0 y
  simpa using this

theorem star_zero_right (t : Table) (n : Nat) (x : Fin n → ℤ) : star t n x 0 = 0 := by
  have := star_smul_right t n 0 x 0
  simpa using this

instance instAddCommGroupRt : AddCommGroup (Rt T) := (Pi.addCommGroup : AddCommGroup (Fin n → ℤ))

noncomputable instance instCommRingRt : CommRing (Rt T) :=
  { instAddCommGroupRt T with
    mul := fun x y => star t n x y
    one := e n ⟨0, T.pos⟩
    left_distrib := fun a b c => star_add_right t n a b c
    right_distrib := fun a b c => star_add_left t n a b c
    zero_mul := fun a => star_zero_left t n a
    mul_zero := fun a => star_zero_right t n a
    mul_assoc := fun a b c => T.star_assoc a b c
    one_mul := fun a => T.one_star a
    mul_one := fun a => T.star_one a
    mul_comm := fun a b => T.star_comm a b }

/-- the underlying vector -/
def toVec : Rt T ≃ₗ[ℤ] (Fin n → ℤ) where
  toFun x := x
  invFun x := x
  map_add' _ _ := rfl
  map_smul' c x := by
    funext i
    show (c • x) i = c • (x i)
    rfl
  left_inv _ := rfl
  right_inv _ := rfl

/-- a vector as an element of the ring -/
def ofVec (x : Fin n → ℤ) : Rt T := x

@[simp] theorem toVec_ofVec (x : Fin n → ℤ) : toVec T (ofVec T x) = x := rfl
@[simp] theorem ofVec_toVec (x : Rt T) : ofVec T (toVec T x) = x := rfl

theorem toVec_mul (x y : Rt T) : toVec T (x * y) = star t n (toVec T x) (toVec T y) := rfl
theorem toVec_one : toVec T (1 : Rt T) = e n ⟨0, T.pos⟩ := rfl
theorem ofVec_star (x y : Fin n → ℤ) : ofVec T (star t n x y) = ofVec T x * ofVec T y := rfl
theorem ofVec_add (x y : Fin n → ℤ) : ofVec T (x + y) = ofVec T x + ofVec T y := rfl
theorem ofVec_zero : ofVec T (0 : Fin n → ℤ) = 0 := rfl
theorem ofVec_injective : Function.Injective (ofVec T) := fun _ _ h => h

theorem ofVec_smul (c : ℤ) (x : Fin n → ℤ) : ofVec T (c • x) = c • ofVec T x :=
  ((toVec T).symm.map_smul c x)

theorem natCast_eq (p : ℕ) : ((p : Rt T)) = ofVec T ((p : ℤ) • e n ⟨0, T.pos⟩) := by
  rw [ofVec_smul]
  show (p : Rt T) = (p : ℤ) • (1 : Rt T)
  rw [natCast_zsmul, nsmul_eq_mul, mul_one]

/-- the lattice of an ideal of `Rt T` -/
noncomputable def latOf (J : Ideal (Rt T)) : Submodule ℤ (Fin n → ℤ) :=
  (J.restrictScalars ℤ).map (toVec T).toLinearMap

theorem mem_latOf (J : Ideal (Rt T)) (x : Fin n → ℤ) : x ∈ latOf T J ↔ ofVec T x ∈ J := by
  unfold latOf
  rw [Submodule.mem_map]
  constructor
  · rintro ⟨y, hy, rfl⟩; exact hy
  · intro h; exact ⟨ofVec T x, h, rfl⟩

theorem latOf_le_iff (I J : Ideal (Rt T)) : latOf T I ≤ latOf T J ↔ I ≤ J := by
  constructor
  · intro h x hx
    have := h ((mem_latOf T I (toVec T x)).mpr hx)
    exact (mem_latOf T J _).mp this
  · intro h x hx
    exact (mem_latOf T J x).mpr (h ((mem_latOf T I x).mp hx))

theorem latOf_injective : Function.Injective (latOf T) := fun I J h =>
  le_antisymm ((latOf_le_iff T I J).mp h.le) ((latOf_le_iff T J I).mp h.ge)

theorem latOf_top : latOf T ⊤ = ⊤ := by
  ext x; simp [mem_latOf]

theorem latOf_sup (I J : Ideal (Rt T)) : latOf T (I ⊔ J) = latOf T I ⊔ latOf T J := by
  ext x
  rw [mem_latOf, Submodule.mem_sup, Submodule.mem_sup]
  constructor
  · rintro ⟨a, ha, b, hb, hab⟩
    exact ⟨toVec T a, (mem_latOf T I _).mpr ha, toVec T b, (mem_latOf T J _).mpr hb, hab⟩
  · rintro ⟨a, ha, b, hb, hab⟩
    exact ⟨ofVec T a, (mem_latOf T I _).mp ha, ofVec T b, (mem_latOf T J _).mp hb, hab⟩

/-- a lattice closed under `a ⋆ ·` as an ideal of `Rt T` -/
def idealOfLat (L : Submodule ℤ (Fin n → ℤ)) (hL : ∀ a : Fin n → ℤ, ∀ x ∈ L, star t n a x ∈ L) : Ideal (Rt T) where
  carrier := {x | toVec T x ∈ L}
  add_mem' := fun ha hb => L.add_mem ha hb
  zero_mem' := L.zero_mem
  smul_mem' := fun a x hx => hL a x hx

theorem latOf_idealOfLat (L : Submodule ℤ (Fin n → ℤ)) (hL : ∀ a : Fin n → ℤ, ∀ x ∈ L, star t n a x ∈ L) :
    latOf T (idealOfLat T L hL) = L := by
  ext x
  rw [mem_latOf]
  rfl

theorem latOf_isMaximal {J : Ideal (Rt T)} (hJ : J.IsMaximal) :
    latOf T J ≠ ⊤ ∧
    (∀ a b : Fin n → ℤ, star t n a b ∈ latOf T J → a ∈ latOf T J ∨ b ∈ latOf T J) ∧
    (∀ L : Submodule ℤ (Fin n → ℤ), (∀ a : Fin n → ℤ, ∀ x ∈ L, star t n a x ∈ L) →
      latOf T J ≤ L → L = latOf T J ∨ L = ⊤) := by
  refine ⟨fun h => hJ.ne_top (latOf_injective T (h.trans (latOf_top T).symm)), fun a b hab => ?_,
    fun L hLc hle => ?_⟩
  · rw [mem_latOf, ofVec_star] at hab
    rw [mem_latOf, mem_latOf]
    exact hJ.isPrime.mem_or_mem hab
  · rw [← latOf_idealOfLat T L hLc] at hle ⊢
    rw [latOf_le_iff] at hle
    by_cases htop : idealOfLat T L hLc = ⊤
    · right; rw [htop, latOf_top]
    · left; rw [hJ.eq_of_le htop hle]

/-- the ideal of `Rt T` carried by an ideal of the order given by generating rows -/
def idealOf (I : Mat) (oI : IsOIdeal t n I) : Ideal (Rt T) := idealOfLat T (Lat n I) oI

theorem latOf_idealOf (I : Mat) (oI : IsOIdeal t n I) : latOf T (idealOf T I oI) = Lat n I :=
  latOf_idealOfLat T _ oI

theorem latOf_mul (I J : Ideal (Rt T)) : latOf T (I * J) = prodLat t n (latOf T I) (latOf T J) := by
  apply le_antisymm
  · have : ∀ z ∈ I * J, toVec T z ∈ prodLat t n (latOf T I) (latOf T J) := fun z hz =>
      Submodule.mul_induction_on hz
        (fun a ha b hb => star_mem_prodLat ((mem_latOf T I _).mpr ha) ((mem_latOf T J _).mpr hb))
        fun a b ha hb => Submodule.add_mem _ ha hb
    exact fun x hx => this _ ((mem_latOf T _ x).mp hx)
  · refine prodLat_le.mpr fun a ha b hb => ?_
    rw [mem_latOf] at ha hb ⊢
    exact Ideal.mul_mem_mul ha hb

theorem latOf_span_singleton (x : Fin n → ℤ) :
    latOf T (Ideal.span {ofVec T x}) = LinearMap.range (starB t n x) := by
  ext y
  rw [mem_latOf, Ideal.mem_span_singleton', LinearMap.mem_range]
  constructor
  · rintro ⟨a, ha⟩
    refine ⟨toVec T a, ?_⟩
    rw [starB_apply, T.star_comm]
    exact ha
  · rintro ⟨a, rfl⟩
    refine ⟨ofVec T a, ?_⟩
    rw [starB_apply, T.star_comm]
    rfl

/-! ### the model's ideal operations -/

open NTV.Ideal (mul principal add)

/-- `P` is a value of the normal-form constructor on rows of width `n` (how every ideal arises) -/
def IsNF (n : Nat) (P : Mat) : Prop := ∃ X : Mat, Wid n X ∧ NTV.Ideal.hnfNew X = .ok P

theorem IsNF.wid {P : Mat} (h : IsNF n P) (hn : 0 < n) : Wid n P := by
  obtain ⟨X, hX, hP⟩ := h
  exact (ideal_hnfNew_spec hX hn hP).1

theorem IsNF.eq_of_lat_eq {P Z : Mat} (hP : IsNF n P) (hZ : IsNF n Z) (hn : 0 < n) (h : Lat n P = Lat n Z) :
    P = Z := by
  obtain ⟨X, hX, hXP⟩ := hP
  obtain ⟨Y, hY, hYZ⟩ := hZ
  have h1 := ideal_hnfNew_idem hX hn hXP
  have h2 := ideal_hnfNew_idem hY hn hYZ
  have hWP := (ideal_hnfNew_spec hX hn hXP).1
  have hWZ := (ideal_hnfNew_spec hY hn hYZ).1
  have := ideal_hnfNew_congr (hnfNew_canonical hWP hWZ hn h)
  rw [h1, h2] at this
  exact Except.ok.inj this

theorem isNF_of_mul {I J P : Mat} (ht : t.length = n) (hI : Wid n I) (hJ : Wid n J)
    (h : mul t I J = .ok P) : IsNF n P :=
  ⟨prodRows t I J, Wid_prodRows hI, by rw [← mul_eq ht hI hJ]; exact h⟩

theorem isNF_of_principal {x : List Int} {P : Mat} (ht : t.length = n) (hx : x.length = n)
    (h : principal t x = .ok P) : IsNF n P :=
  ⟨prinRows t n x, Wid_prinRows hx, by rw [← principal_eq ht hx]; exact h⟩

theorem isNF_of_add {I J P : Mat} (hI : Wid n I) (hJ : Wid n J) (h : add I J = .ok P) : IsNF n P :=
  ⟨I ++ J, hI.append hJ, h⟩

/-- the unit ideal `(1)` = `principal t (1, 0, …, 0)` -/
def unitIdeal (t : Table) : NTV.Ideal.M Mat := principal t (1 :: List.replicate (t.length - 1) 0)

/-- `I^e` by repeated multiplication from the unit ideal: `(1)`, `(1)·I`, `((1)·I)·I`, … -/
def powM (t : Table) (I : Mat) : Nat → NTV.Ideal.M Mat
  | 0 => unitIdeal t
  | k + 1 => do
    let J ← powM t I k
    mul t J I

/-- `∏ I_i^{e_i}` -/
def prodM (t : Table) : List (Mat × Nat) → NTV.Ideal.M Mat
  | [] => unitIdeal t
  | (I, e) :: rest => do
    let a ← powM t I e
    let b ← prodM t rest
    mul t a b

theorem unitIdeal_spec : ∃ U, unitIdeal t = .ok U ∧ IsNF n U ∧ Lat n U = latOf T ⊤ := by
  have hlen := NTV.DecompP.length_pelem T.pos 1
  obtain ⟨U, h1, _, _, h4, _⟩ := principal_total T hlen
  refine ⟨U, by unfold unitIdeal; rw [T.len]; exact h1, isNF_of_principal T.len hlen h1, ?_⟩
  rw [h4, latOf_top, NTV.DecompP.vec_pelem n T.pos 1, eq_top_iff]
  intro y _
  exact ⟨y, by rw [starB_apply, one_smul, T.one_star]⟩

theorem mul_model {I J : Mat} {A B : Ideal (Rt T)} (hI : Wid n I) (hJ : Wid n J)
    (hA : Lat n I = latOf T A) (hB : Lat n J = latOf T B) :
    ∃ P, mul t I J = .ok P ∧ IsNF n P ∧ Lat n P = latOf T (A * B) := by
  obtain ⟨P, h1, _, _, h4⟩ := mul_total T.len T.pos hI hJ
  exact ⟨P, h1, isNF_of_mul T.len hI hJ h1, by rw [h4, hA, hB, latOf_mul]⟩

theorem powM_spec {I : Mat} {A : Ideal (Rt T)} (hI : Wid n I) (hA : Lat n I = latOf T A) (k : Nat) :
    ∃ P, powM t I k = .ok P ∧ IsNF n P ∧ Lat n P = latOf T (A ^ k) := by
  induction k with
  | zero =>
    obtain ⟨U, h1, h2, h3⟩ := unitIdeal_spec T
    exact ⟨U, h1, h2, by rw [h3, pow_zero, Ideal.one_eq_top]⟩
  | succ k ih =>
    obtain ⟨J, h1, h2, h3⟩ := ih
    obtain ⟨P, h4, h5, h6⟩ := mul_model T (h2.wid T.pos) hI h3 hA
    refine ⟨P, ?_, h5, by rw [h6, pow_succ]⟩
    simp only [powM, h1, bind, Except.bind]
    exact h4

theorem prodM_spec (l : List (Mat × Nat)) (A : Mat → Ideal (Rt T))
    (h : ∀ x ∈ l, Wid n x.1 ∧ Lat n x.1 = latOf T (A x.1)) :
    ∃ P, prodM t l = .ok P ∧ IsNF n P ∧ Lat n P = latOf T ((l.map (fun x => A x.1 ^ x.2)).prod) := by
  induction l with
  | nil =>
    obtain ⟨U, h1, h2, h3⟩ := unitIdeal_spec T
    exact ⟨U, h1, h2, by rw [h3]; simp⟩
  | cons x rest ih =>
    obtain ⟨b, hb1, hb2, hb3⟩ := ih (fun y hy => h y (by simp [hy]))
    obtain ⟨hxW, hxL⟩ := h x (by simp)
    obtain ⟨a, ha1, ha2, ha3⟩ := powM_spec T hxW hxL x.2
    obtain ⟨P, h4, h5, h6⟩ := mul_model T (ha2.wid T.pos) (hb2.wid T.pos) ha3 hb3
    refine ⟨P, ?_, h5, by rw [h6]; simp⟩
    obtain ⟨I, e⟩ := x
    simp only [prodM, ha1, hb1, bind, Except.bind]
    exact h4

end NTV.KD
