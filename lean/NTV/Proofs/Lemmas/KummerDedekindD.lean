import NTV.Proofs.Lemmas.KummerDedekindC
import NTV.Proofs.Lemmas.NormResFinal
import NTV.Proofs.Lemmas.IdealProofsD
import NTV.Proofs.Lemmas.Round2RingB
import NTV.Proofs.Lemmas.IdealNormE
/-! # Kummer–Dedekind, part D: the order of a basis matrix `B` with table `t` as the ring `Rt T`,
embedded in `ℚ[X]/(f)`; the element `ϑ` (the class of `x`) and the hypotheses `NTV.KD.Ctx` of the abstract
development, from `ℤ[θ] ⊆ O` (`Cm · B = 1` for an integer matrix `Cm`) and `p ∤ det Cm`. -/
namespace NTV.KD
open NTV.IdealP NTV.Ord NTV.Hnf Polynomial Matrix
open NTV.Alg (modulus cls cls_eq_iff)
open NTV.RowOps (toM Rect ent)
open NTV.PolyG (toPoly coeff_toPoly Canon)

variable {f : List Int} {B : QMat} {n : Nat} {t : Table}

/-- `x ↦ Σ_i x_i ω_i ∈ ℚ[X]/(f)` on integer vectors (`NTV.R2Abs.el` for the basis ω) -/
noncomputable def psiZ (f : List Int) (B : QMat) (n : Nat) (x : Fin n → ℤ) : ℚ[X] ⧸ Ideal.span {modulus f} :=
  NTV.R2Abs.el (qK f) (omegaK f B n) x

section withCtx
variable (S : Setup f B n) (ht : IsTable f B n t)
include S ht

omit ht in
theorem omega0_eq_one (h0 : B.getD 0 [] = 1 :: List.replicate (n - 1) 0) :
    omegaK f B n ⟨0, S.pos⟩ = 1 := by
  unfold omegaK
  show cls f (toPoly (B.getD 0 [])) = 1
  rw [h0, toPoly_unit_row]; simp

/-- the embedding of the order into `ℚ[X]/(f)` as a ring homomorphism -/
noncomputable def psiHom (T : TableRing t n) (h0 : B.getD 0 [] = 1 :: List.replicate (n - 1) 0) :
    Rt T →+* ℚ[X] ⧸ Ideal.span {modulus f} where
  toFun x := psiZ f B n (toVec T x)
  map_one' := (NTV.R2Abs.el_single _).trans (omega0_eq_one S h0)
  map_mul' _ _ := ((S.ctx t ht).el_mul _ _).symm
  map_zero' := NTV.R2Abs.el_zero
  map_add' _ _ := NTV.R2Abs.el_add _ _

theorem psiHom_apply (T : TableRing t n) (h0 : B.getD 0 [] = 1 :: List.replicate (n - 1) 0) (x : Rt T) :
    psiHom S ht T h0 x = psiZ f B n (toVec T x) := rfl

theorem psiHom_injective (T : TableRing t n) (h0 : B.getD 0 [] = 1 :: List.replicate (n - 1) 0) :
    Function.Injective (psiHom S ht T h0) :=
  fun _ _ h => (toVec T).injective ((S.ctx t ht).el_inj _ _ h)

end withCtx

/-- the coordinate vector of `h(θ)` (`deg h < n`) in the basis ω, given the coordinates `Cm` of the powers of θ -/
def coordOf (Cm : Matrix (Fin n) (Fin n) ℤ) (h : ℤ[X]) : Fin n → ℤ := (fun c : Fin n => h.coeff c) ᵥ* Cm

theorem cV_vecMul (Cm : Matrix (Fin n) (Fin n) ℤ) (w : Fin n → ℤ) :
    NTV.TableAbs.castV (w ᵥ* Cm) = NTV.TableAbs.castV w ᵥ* Cm.map (Int.castRingHom ℚ) := by
  funext i
  simp only [NTV.TableAbs.castV, Matrix.vecMul, dotProduct, Matrix.map_apply, Int.cast_sum, Int.cast_mul, eq_intCast]

theorem psiZ_coordOf (hB : Rect n n B) (Cm : Matrix (Fin n) (Fin n) ℤ)
    (hC : Cm.map (Int.castRingHom ℚ) * toM n n B = 1) (h : ℤ[X]) (hd : h.natDegree < n) :
    psiZ f B n (coordOf Cm h) = cls f (h.map (Int.castRingHom ℚ)) := by
  unfold psiZ NTV.R2Abs.el
  rw [psi_eq_cls]
  congr 1
  set l : List Rat := (List.range n).map (fun c => ((h.coeff c : ℤ) : ℚ)) with hl
  have hlp : toPoly l = h.map (Int.castRingHom ℚ) := by
    ext c
    rw [coeff_toPoly, coeff_map, hl]
    by_cases hc : c < n
    · simp [List.getD_eq_getElem?_getD, hc]
    · rw [coeff_eq_zero_of_natDegree_lt (by omega)]
      simp [List.getD_eq_getElem?_getD, hc]
  rw [← hlp]
  symm
  apply toPoly_comb hB _ l (by simp [hl])
  intro c hc
  have key : NTV.TableAbs.castV (coordOf Cm h) ᵥ* toM n n B = NTV.TableAbs.castV (fun c : Fin n => h.coeff c) := by
    unfold coordOf
    rw [cV_vecMul, Matrix.vecMul_vecMul, hC, Matrix.vecMul_one]
  have := congrFun key ⟨c, hc⟩
  simp only [Matrix.vecMul, dotProduct] at this
  rw [hl]
  simp only [List.getD_eq_getElem?_getD, List.getElem?_map, List.getElem?_range hc, Option.map_some,
    Option.getD_some]
  rw [show ((h.coeff c : ℤ) : ℚ) = NTV.TableAbs.castV (fun c : Fin n => h.coeff c) ⟨c, hc⟩ from rfl, ← this]
  rfl

theorem cls_map_mod (h : ℤ[X]) :
    cls f ((h %ₘ toPoly f).map (Int.castRingHom ℚ)) = cls f (h.map (Int.castRingHom ℚ)) := by
  rw [cls_eq_iff, NTV.Ord.modulus_eq_map]
  have e : h.map (Int.castRingHom ℚ) = (h %ₘ toPoly f).map (Int.castRingHom ℚ) +
      (toPoly f).map (Int.castRingHom ℚ) * (h /ₘ toPoly f).map (Int.castRingHom ℚ) := by
    conv_lhs => rw [← modByMonic_add_div h (toPoly f)]
    rw [Polynomial.map_add, Polynomial.map_mul]
  rw [e, sub_add_cancel_left]
  exact (dvd_mul_right _ _).neg_right

theorem psiZ_coordOf_mod (hB : Rect n n B) (Cm : Matrix (Fin n) (Fin n) ℤ)
    (hC : Cm.map (Int.castRingHom ℚ) * toM n n B = 1) (hm : (toPoly f).Monic)
    (hdeg : (toPoly f).natDegree = n) (hn : 0 < n) (h : ℤ[X]) :
    psiZ f B n (coordOf Cm (h %ₘ toPoly f)) = cls f (h.map (Int.castRingHom ℚ)) := by
  have hne : toPoly f ≠ 1 := by
    intro e; rw [e, natDegree_one] at hdeg; omega
  have hlt : (h %ₘ toPoly f).natDegree < n := by
    have := natDegree_modByMonic_lt h hm hne
    rwa [hdeg] at this
  rw [psiZ_coordOf hB Cm hC _ hlt, cls_map_mod]

theorem coordOf_zero (Cm : Matrix (Fin n) (Fin n) ℤ) : coordOf Cm 0 = 0 := by
  unfold coordOf
  simp only [coeff_zero]
  exact Matrix.zero_vecMul Cm

theorem coordOf_X_pow (Cm : Matrix (Fin n) (Fin n) ℤ) (c : Fin n) : coordOf Cm (X ^ (c : ℕ)) = Cm c := by
  unfold coordOf
  have : (fun i : Fin n => (X ^ (c : ℕ) : ℤ[X]).coeff i) = Pi.single c 1 := by
    funext i
    rw [coeff_X_pow, Pi.single_apply]
    simp only [Fin.ext_iff]
  rw [this, Matrix.single_one_vecMul]
  rfl

section theta
variable (S : Setup f B n) (ht : IsTable f B n t) (T : TableRing t n)
  (h0 : B.getD 0 [] = 1 :: List.replicate (n - 1) 0)
  (Cm : Matrix (Fin n) (Fin n) ℤ) (hC : Cm.map (Int.castRingHom ℚ) * toM n n B = 1)
  (hm : (toPoly f).Monic) (hdeg : (toPoly f).natDegree = n)

/-- the class of `x`, as an element of the order -/
noncomputable def thetaOf (T : TableRing t n) (Cm : Matrix (Fin n) (Fin n) ℤ) (f : List Int) : Rt T :=
  ofVec T (coordOf Cm (X %ₘ toPoly f))

include S ht h0 hC hm hdeg

theorem psiHom_theta : psiHom S ht T h0 (thetaOf T Cm f) = cls f X := by
  rw [psiHom_apply]
  show psiZ f B n (coordOf Cm (X %ₘ toPoly f)) = _
  rw [psiZ_coordOf_mod S.rect Cm hC hm hdeg S.pos X, Polynomial.map_X]

theorem psiHom_aeval (h : ℤ[X]) :
    psiHom S ht T h0 (aeval (thetaOf T Cm f) h) = cls f (h.map (Int.castRingHom ℚ)) := by
  rw [aeval_def, Polynomial.hom_eval₂, psiHom_theta S ht T h0 Cm hC hm hdeg]
  have : h.map (Int.castRingHom ℚ) = h.eval₂ (C.comp (Int.castRingHom ℚ)) X := rfl
  rw [this, Polynomial.hom_eval₂]
  congr 1
  exact RingHom.ext_int _ _

theorem aeval_theta (h : ℤ[X]) :
    aeval (thetaOf T Cm f) h = ofVec T (coordOf Cm (h %ₘ toPoly f)) := by
  apply psiHom_injective S ht T h0
  rw [psiHom_aeval S ht T h0 Cm hC hm hdeg, psiHom_apply]
  exact (psiZ_coordOf_mod S.rect Cm hC hm hdeg S.pos h).symm

theorem kdCtx (p : ℕ) (hcop : IsCoprime Cm.det (p : ℤ)) :
    Ctx p (toVec T) (thetaOf T Cm f) (toPoly f) Cm where
  pos := S.pos
  monic := hm
  deg := hdeg
  root := by
    rw [aeval_theta S ht T h0 Cm hC hm hdeg, modByMonic_self hm, coordOf_zero]; rfl
  pow := by
    intro c
    have h1 : thetaOf T Cm f ^ (c : ℕ) = aeval (thetaOf T Cm f) (X ^ (c : ℕ) : ℤ[X]) := by
      rw [map_pow, aeval_X]
    rw [h1, aeval_theta S ht T h0 Cm hC hm hdeg]
    have h2 : (X ^ (c : ℕ) : ℤ[X]) %ₘ toPoly f = X ^ (c : ℕ) := by
      rw [modByMonic_eq_self_iff hm, degree_X_pow, degree_eq_natDegree hm.ne_zero, hdeg]
      exact_mod_cast c.isLt
    rw [h2, coordOf_X_pow]
    rfl
  cop := hcop

end theta

end NTV.KD
