import NTV.Proofs.Lemmas.KummerDedekindD
import NTV.Proofs.Lemmas.DecompProofsA
import NTV.Proofs.Lemmas.DecompProofsC
/-! # Kummer–Dedekind, part E: the ideals returned by the closure of `decompose` are the ideals
`(p, g(ϑ))` of the ring `Rt T`; a successful run of `decompose` in the vocabulary of the abstract development. -/
namespace NTV.KD
open NTV.IdealP NTV.Ord NTV.Hnf NTV.DecompP Polynomial Matrix
open NTV.Alg (modulus cls cls_eq_iff)
open NTV.RowOps (toM Rect ent)
open NTV.PolyG (toPoly coeff_toPoly Canon lc degU)
open NTV.PolyMod (mp Good Factors factorizeModP)
open NTV.Ideal (primeAbove decompose wordOf)

variable {f : List Int} {B : QMat} {n : Nat} {t : Table}

section one
variable (S : Setup f B n) (ht : IsTable f B n t) (T : TableRing t n)
  (h0 : B.getD 0 [] = 1 :: List.replicate (n - 1) 0)
  (Cm : Matrix (Fin n) (Fin n) ℤ) (hC : Cm.map (Int.castRingHom ℚ) * toM n n B = 1)
  (hm : (toPoly f).Monic) (hdeg : (toPoly f).natDegree = n)
include S ht h0 hC hm hdeg

theorem ofVec_eq_aeval_of_elt (a : List Int) (G : ℤ[X])
    (h : cls f (toPoly (elt B a)) = cls f (G.map (Int.castRingHom ℚ))) :
    ofVec T (vec n a) = aeval (thetaOf T Cm f) G := by
  apply psiHom_injective S ht T h0
  rw [psiHom_aeval S ht T h0 Cm hC hm hdeg, ← h, psiHom_apply]
  unfold elt
  rw [S.cls_comb, vecQ_map_cast]
  rfl

theorem lat_primeAbove (p : ℕ) [hp : Fact p.Prime] (hcop : IsCoprime Cm.det (p : ℤ)) {g : List Int} {m : Nat}
    (sh : NTV.PolyMod.Shape p (g, m)) (hdvd : mp p g ∣ mp p f)
    {P : Mat} {m' : Nat} (h : primeAbove f B t (p : Int) g m = .ok (P, m')) :
    Lat n P = latOf T (Pof p (thetaOf T Cm f) (toPoly g)) ∧ IsNF n P := by
  have H := kdCtx S ht T h0 Cm hC hm hdeg p hcop
  have hf : degU f = n := NTV.PolyG.degU_of_length S.len
  obtain ⟨elem, A, Z, h1, hlen, h2, h3, h4, _, wA, wZ, _, _, lA, lZ, lP, _, _⟩ :=
    primeAbove_lattice_core T hf h
  refine ⟨?_, isNF_of_add wA wZ h4⟩
  have hgne : g ≠ [] := List.ne_nil_of_length_pos (by have h2 : 2 ≤ g.length := sh.2.2.1; omega)
  obtain ⟨r1, r2, r3⟩ := ratOf_canon g sh.1.2
  have hZ : Lat n Z = latOf T (Ideal.span {(p : Rt T)}) := by
    rw [lZ, natCast_eq, latOf_span_singleton]
  have hA : Lat n A = latOf T (Ideal.span {ofVec T (vec n elem)}) := by
    rw [lA, latOf_span_singleton]
  rw [lP, hA, hZ, ← latOf_sup]
  congr 1
  have hspan : Pof p (thetaOf T Cm f) (toPoly g) =
      Ideal.span {aeval (thetaOf T Cm f) (toPoly g)} ⊔ Ideal.span {(p : Rt T)} := by
    unfold Pof
    rw [Ideal.span_insert, sup_comm]
  rw [hspan]
  by_cases hlt : degU (ratOf g) < n
  · -- deg g < n: `elem` is the coordinate vector of g(θ)
    obtain ⟨_, _, helt⟩ := (elemSpec_ok hf S.rect h1).1 hlt
    have := ofVec_eq_aeval_of_elt S ht T h0 Cm hC hm hdeg elem (toPoly g) (by rw [helt, r3])
    rw [this]
  · -- deg g = n: g ≡ f modulo p, the zero vector is used, P = (p)
    rw [(elemSpec_ok hf S.rect h1).2 (by omega), vec_replicate_zero, ofVec_zero]
    have hGmem : aeval (thetaOf T Cm f) (toPoly g) ∈ Ideal.span {(p : Rt T)} := by
      rw [H.aeval_mem_span_p_iff]
      -- `ḡ` is a monic divisor of the monic `f̄` of the same degree
      have hle : (mp p f).natDegree ≤ (mp p g).natDegree := by
        rw [← NTV.PolyMod.degU_eq_natDegree p g sh.1 hgne, ← r2]
        unfold mp; rw [hm.natDegree_map, hdeg]; omega
      exact (eq_of_monic_of_dvd_of_natDegree_le (NTV.PolyMod.Shape.monic p sh) (hm.map _) hdvd hle).dvd
    rw [Ideal.span_singleton_eq_bot.mpr rfl, bot_sup_eq,
      sup_eq_right.mpr ((Ideal.span_singleton_le_iff_mem _).mpr hGmem)]

end one

section order
variable {Cm : Matrix (Fin n) (Fin n) ℤ}

theorem det_ne_zero_of_inverse (hC : Cm.map (Int.castRingHom ℚ) * toM n n B = 1) : (toM n n B).det ≠ 0 := by
  intro h
  have := congrArg Matrix.det hC
  rw [Matrix.det_mul, h, mul_zero, Matrix.det_one] at this
  exact zero_ne_one this

theorem index_of_inverse (hB : Rect n n B) (hC : Cm.map (Int.castRingHom ℚ) * toM n n B = 1) :
    index B (identityQ n) = .ok Cm.det := by
  apply NTV.C15.index_is_det_of_change_of_basis B (identityQ n) n hB (identityQ_rect n)
    (det_ne_zero_of_inverse hC) Cm
  rw [identityQ_toM]
  exact hC.symm

theorem setup_of (hn : 1 ≤ n) (hfl : f.length = n + 1) (hmonic : lc f = 1) (hB : Rect n n B)
    (hC : Cm.map (Int.castRingHom ℚ) * toM n n B = 1) : Setup f B n :=
  ⟨NTV.C15.canon_of_monic f hmonic, hfl, hn, hB, det_ne_zero_of_inverse hC⟩

end order

/-- the standing hypotheses of the Kummer–Dedekind theorems: `f` monic of degree `n ≥ 1`; `B` the `n × n` basis
matrix of an order containing ℤ[θ] (`Cm · B = 1` with `Cm` integral: row `c` of `Cm` holds the coordinates of
`θ^c`) whose first basis vector is 1; `t` its multiplication table; `p` prime; the run of `decompose` on the
draw stream `s` returned `res`. -/
structure Run (f : List Int) (n : Nat) (B : QMat) (t : Table) (Cm : Matrix (Fin n) (Fin n) ℤ) (p : Nat)
    (s : NTV.Draw.Stream) (res : List (Mat × Nat)) : Prop where
  hn : 1 ≤ n
  hfl : f.length = n + 1
  hmonic : lc f = 1
  hB : Rect n n B
  hC : Cm.map (Int.castRingHom ℚ) * toM n n B = 1
  ht : IsTable f B n t
  h0 : B.getD 0 [] = 1 :: List.replicate (n - 1) 0
  hp : p.Prime
  hlen : 2 ^ 64 ≤ p → f.length < 2 ^ 64
  ok : decompose f B t (p : Int) s = .ok res

namespace Run
variable {Cm : Matrix (Fin n) (Fin n) ℤ} {p : Nat} {s : NTV.Draw.Stream} {res : List (Mat × Nat)}

theorem monic (R : Run f n B t Cm p s res) : (toPoly f).Monic := (monic_toPoly R.hfl R.hmonic).1

theorem natDegree (R : Run f n B t Cm p s res) : (toPoly f).natDegree = n := (monic_toPoly R.hfl R.hmonic).2

theorem setup (R : Run f n B t Cm p s res) : Setup f B n := setup_of R.hn R.hfl R.hmonic R.hB R.hC

theorem tableRing (R : Run f n B t Cm p s res) : TableRing t n :=
  tableRing_of_isTable R.setup R.ht R.h0

theorem factors (R : Run f n B t Cm p s res) :
    ∃ fs : Factors, factorizeModP f (p : Int) (wordOf p) s = .ok fs := by
  obtain ⟨_, _, fs, _, _, _, _, _, hfs, _⟩ := decompose_ok R.ok
  exact ⟨fs, hfs⟩

/-- the index guard of `decompose`, passed by a successful run, as coprimality -/
theorem coprime (R : Run f n B t Cm p s res) : IsCoprime Cm.det (p : ℤ) := by
  obtain ⟨_, _, _, _, idx, _, hidx, hmod⟩ := decompose_run f n R.hn R.hfl R.hmonic B t p s res R.ok
  rw [index_of_inverse R.hB R.hC] at hidx
  cases hidx
  rw [Int.isCoprime_iff_gcd_eq_one]
  have h1 : Int.gcd Cm.det (p : ℤ) = Nat.gcd Cm.det.natAbs p := rfl
  rw [h1, Nat.gcd_comm]
  exact (Nat.Prime.coprime_iff_not_dvd R.hp).mpr fun hd => hmod (Int.natCast_dvd.mpr hd)

theorem ctx (R : Run f n B t Cm p s res) :
    Ctx p (toVec R.tableRing) (thetaOf R.tableRing Cm f) (toPoly f) Cm :=
  kdCtx R.setup R.ht R.tableRing R.h0 Cm R.hC R.monic R.natDegree p R.coprime

variable {fs : Factors}

/-- **what a successful run went through**, in the vocabulary of C08: the returned pairs position by position,
and the facts on the modular factors `(g_i, e_i)` -/
theorem core (R : Run f n B t Cm p s res) (hfs : factorizeModP f (p : Int) (wordOf p) s = .ok fs) :
    res.length = fs.length ∧
      (∀ i (h1 : i < fs.length) (h2 : i < res.length),
        res[i].2 = fs[i].2 ∧ primeAbove f B t (p : Int) fs[i].1 fs[i].2 = .ok (res[i].1, res[i].2)) ∧
      (∀ x ∈ fs, NTV.PolyMod.Shape p x ∧ Irreducible (mp p x.1)) ∧ (fs.map Prod.fst).Nodup ∧
      mp p f = NTV.PolyMod.fprod p fs := by
  have hp : Fact p.Prime := ⟨R.hp⟩
  obtain ⟨fs', hfs', hl, hpt, _⟩ := decompose_run f n R.hn R.hfl R.hmonic B t p s res R.ok
  obtain rfl : fs' = fs := Except.ok.inj (hfs'.symm.trans hfs)
  obtain ⟨c1, c2, _⟩ := NTV.PolyMod.factorizeModP_spec p f (wordOf p) s fs' (wordOf_or_le R.hlen) hfs
  obtain ⟨d1, d2⟩ := NTV.PolyMod.factorizeModP_irreducible_nodup p f (wordOf p) s fs' (wordOf_or_le R.hlen) hfs
  have hmm : (mp p f).Monic := R.monic.map _
  rw [hmm.leadingCoeff, map_one, one_mul] at c1
  exact ⟨hl, hpt, fun x hx => ⟨c2 x hx, d1 x hx⟩, d2, c1⟩

theorem length_eq (R : Run f n B t Cm p s res) (hfs : factorizeModP f (p : Int) (wordOf p) s = .ok fs) :
    res.length = fs.length :=
  (R.core hfs).1

/-- what the run knows of one modular factor `x = (g, e)` and the pair `y = (P, e)` returned for it: `ḡ` is a
monic irreducible divisor of `f̄`, and `P` is the normal form of the ideal `(p, g(ϑ))` of `Rt T` -/
structure Above (R : Run f n B t Cm p s res) (x : List Int × Nat) (y : Mat × Nat) : Prop where
  mult : y.2 = x.2
  shape : NTV.PolyMod.Shape p x
  irr : Irreducible (mp p x.1)
  dvd : mp p x.1 ∣ mp p f
  ok : primeAbove f B t (p : Int) x.1 x.2 = .ok y
  lat : Lat n y.1 = latOf R.tableRing (Pof p (thetaOf R.tableRing Cm f) (toPoly x.1))
  nf : IsNF n y.1

/-- **the run in the vocabulary of the abstract development**: the i-th returned pair belongs to the i-th
modular factor; the `ḡ_i` are pairwise coprime, with `∏ ḡ_i^{e_i} = f̄`. -/
theorem kd (R : Run f n B t Cm p s res) (hfs : factorizeModP f (p : Int) (wordOf p) s = .ok fs) :
    (∀ i : Fin fs.length, R.Above (fs.get i) (res.get (i.cast (R.length_eq hfs).symm))) ∧
      (∀ i j : Fin fs.length, i ≠ j → IsCoprime (mp p (fs.get i).1) (mp p (fs.get j).1)) ∧
      ∏ i : Fin fs.length, mp p (fs.get i).1 ^ (fs.get i).2 = mp p f := by
  have hp : Fact p.Prime := ⟨R.hp⟩
  obtain ⟨hl, hpt, hsh, hnd, hprod⟩ := R.core hfs
  refine ⟨fun i => ?_, fun i j hij => ?_, ?_⟩
  · obtain ⟨sh, hirr⟩ := hsh _ (fs.get_mem i)
    obtain ⟨hm, hpa⟩ := hpt i.1 i.2 (by rw [hl]; exact i.2)
    have hdvd : mp p (fs.get i).1 ∣ mp p f := by
      rw [hprod]
      exact (dvd_pow_self _ (Nat.ne_of_gt sh.2.2.2)).trans
        (List.dvd_prod (List.mem_map.mpr ⟨_, fs.get_mem i, rfl⟩))
    obtain ⟨hL, hNF⟩ := lat_primeAbove R.setup R.ht R.tableRing R.h0 Cm R.hC R.monic R.natDegree p R.coprime
      sh hdvd hpa
    exact ⟨hm, sh, hirr, hdvd, hpa, hL, hNF⟩
  · -- coprime, since distinct: `mp` is injective on the normalised lists and the `g_i` are pairwise distinct
    obtain ⟨shi, hirri⟩ := hsh _ (fs.get_mem i)
    obtain ⟨shj, hirrj⟩ := hsh _ (fs.get_mem j)
    rw [hirri.coprime_iff_not_dvd]
    intro hd
    have heq := eq_of_monic_of_associated (NTV.PolyMod.Shape.monic p shi) (NTV.PolyMod.Shape.monic p shj)
      (hirri.associated_of_dvd hirrj hd)
    have h1 := NTV.PolyMod.mp_inj p _ _ shi.1 shj.1 heq
    have h2 := List.inj_on_of_nodup_map hnd (fs.get_mem i) (fs.get_mem j) h1
    exact hij ((List.Nodup.of_map _ hnd).get_inj_iff.mp h2)
  · rw [hprod]
    exact Fin.prod_univ_fun_getElem fs (fun x => mp p x.1 ^ x.2)

end Run

end NTV.KD
