import NTV.Proofs.Lemmas.KummerDedekindE
import NTV.Proofs.Lemmas.IdealNormA
/-! # Kummer–Dedekind, part F: `Ideal::norm` of a full-rank normal form is the index of its lattice
(`NTV.IdealP.norm_eq_card`); the index of an ideal of `Rt T` is the index of its lattice (`card_quot_latOf`);
`p·Rt T` is `pℤⁿ` (`mem_span_p_iff`, `latOf_span_p`). -/
namespace NTV.KD
open NTV.IdealP NTV.Hnf Matrix Finset

theorem IsNF.norm_eq_card {n : Nat} {P : Mat} (hP : IsNF n P) (hn : 0 < n) (hfull : P.length = n) :
    NTV.Ideal.norm P = (Nat.card ((Fin n → ℤ) ⧸ Lat n P) : ℤ) := by
  obtain ⟨X, hX, hXP⟩ := hP
  obtain ⟨hW, ⟨pv, hH⟩, _⟩ := ideal_hnfNew_spec hX hn hXP
  exact (NTV.IdealP.norm_eq_card hn hW hH hfull).2

variable {t : NTV.Ord.Table} {n : Nat} (T : TableRing t n)

theorem card_quot_latOf (J : Ideal (Rt T)) :
    Nat.card ((Fin n → ℤ) ⧸ latOf T J) = Nat.card (Rt T ⧸ J) := by
  have e1 : (Rt T ⧸ J.restrictScalars ℤ) ≃ₗ[ℤ] (Fin n → ℤ) ⧸ latOf T J :=
    Submodule.Quotient.equiv (J.restrictScalars ℤ) (latOf T J) (toVec T) rfl
  have e2 : (Rt T ⧸ J.restrictScalars ℤ) ≃ₗ[ℤ] Rt T ⧸ J := Submodule.Quotient.restrictScalarsEquiv ℤ J
  rw [← Nat.card_congr e1.toEquiv, Nat.card_congr e2.toEquiv]

theorem mem_span_p_iff (p : ℕ) (x : Rt T) :
    x ∈ Ideal.span {(p : Rt T)} ↔ ∃ y : Fin n → ℤ, toVec T x = (p : ℤ) • y := by
  rw [Ideal.mem_span_singleton]
  constructor
  · rintro ⟨y, rfl⟩
    refine ⟨toVec T y, ?_⟩
    rw [← (toVec T).map_smul, natCast_zsmul, nsmul_eq_mul]
  · rintro ⟨y, hy⟩
    refine ⟨ofVec T y, ?_⟩
    apply (toVec T).injective
    rw [hy, ← nsmul_eq_mul, ← natCast_zsmul, (toVec T).map_smul]
    rfl

theorem latOf_span_p (p : ℕ) (v : Fin n → ℤ) :
    v ∈ latOf T (Ideal.span {(p : Rt T)}) ↔ ∃ y : Fin n → ℤ, v = (p : ℤ) • y := by
  rw [mem_latOf, mem_span_p_iff]
  rfl

end NTV.KD
