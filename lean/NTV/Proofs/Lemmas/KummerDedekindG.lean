import NTV.Proofs.Lemmas.KummerDedekindF
/-! # Kummer–Dedekind, part G: a successful run of `decompose` in the language of lattices (`Lat`, `star`, `vec`) and
of the model functions (`norm`, `capZ`, `mul`, `principal`): what holds of one factor and its ideal (`Run.Above`),
the two clauses stated position by position (`Run.quotient`: residue rings, norms, P_i ∩ ℤ; `Run.distinct`: pairwise
comaximality), and the lattices of the model's product `∏ P_i^{e_i}`. The labels (D2), (D4) are those of C17. -/
namespace NTV.KD
open NTV.IdealP NTV.Ord NTV.Hnf NTV.DecompP Polynomial Matrix
open NTV.Alg (modulus cls cls_eq_iff)
open NTV.RowOps (toM Rect ent)
open NTV.PolyG (toPoly coeff_toPoly Canon lc degU)
open NTV.PolyMod (mp Good Factors factorizeModP)
open NTV.Ideal (primeAbove decompose wordOf capZ principal)

/-- `Σ_k a_k ω_k = H(θ)` in ℚ[x]/(f): the element of the order with coordinate vector `a` is the value at θ of
the integer polynomial `H` (`NTV.Ord.elt B a` is the stored expression of `Σ a_k ω_k`, a rational polynomial
of degree < n) -/
def EltIs (f : List Int) (B : QMat) (a : List Int) (H : ℤ[X]) : Prop :=
  modulus f ∣ toPoly (elt B a) - H.map (Int.castRingHom ℚ)

variable {f : List Int} {B : QMat} {n : Nat} {t : Table}
variable {Cm : Matrix (Fin n) (Fin n) ℤ} {p : Nat} {s : NTV.Draw.Stream} {res : List (Mat × Nat)}

/-- the ideal of `Rt T` whose lattice is `Lat n P` (arbitrary if there is none): `prodM_spec` wants the ideals as a
function of the matrices, and `product_core` is its only user -/
noncomputable def idealOfMat (T : TableRing t n) (P : Mat) : Ideal (Rt T) :=
  Classical.epsilon (fun J => latOf T J = Lat n P)

theorem idealOfMat_eq (T : TableRing t n) {P : Mat} {J : Ideal (Rt T)} (h : Lat n P = latOf T J) :
    idealOfMat T P = J := by
  apply latOf_injective T
  have := Classical.epsilon_spec (p := fun J => latOf T J = Lat n P) ⟨J, h.symm⟩
  rw [← h]
  exact this

namespace Run

theorem ofVec_of_eltIs (R : Run f n B t Cm p s res) (a : List Int) (H : ℤ[X]) (h : EltIs f B a H) :
    ofVec R.tableRing (vec n a) = aeval (thetaOf R.tableRing Cm f) H :=
  ofVec_eq_aeval_of_elt R.setup R.ht R.tableRing R.h0 Cm R.hC R.monic R.natDegree a H ((cls_eq_iff f _ _).mpr h)

theorem exists_eltIs (R : Run f n B t Cm p s res) (H : ℤ[X]) :
    ∃ a : List Int, a.length = n ∧ EltIs f B a H ∧
      ofVec R.tableRing (vec n a) = aeval (thetaOf R.tableRing Cm f) H := by
  refine ⟨List.ofFn (coordOf Cm (H %ₘ toPoly f)), by simp, ?_, ?_⟩
  · unfold EltIs
    rw [← cls_eq_iff]
    unfold elt
    rw [R.setup.cls_comb, vecQ_map_cast]
    have : vecZ (List.ofFn (coordOf Cm (H %ₘ toPoly f))) n = coordOf Cm (H %ₘ toPoly f) :=
      vec_ofFn _
    rw [this]
    exact psiZ_coordOf_mod R.hB Cm R.hC R.monic R.natDegree R.hn H
  · rw [vec_ofFn, aeval_theta R.setup R.ht R.tableRing R.h0 Cm R.hC R.monic R.natDegree]

namespace Above
variable {R : Run f n B t Cm p s res} {x x' : List Int × Nat} {y y' : Mat × Nat}

theorem isMaximal (A : R.Above x y) : (Pof p (thetaOf R.tableRing Cm f) (toPoly x.1)).IsMaximal :=
  have : Fact p.Prime := ⟨R.hp⟩
  R.ctx.Pof_isMaximal _ A.dvd A.irr

theorem prime (A : R.Above x y) :
    Lat n y.1 ≠ ⊤ ∧
    (∀ a b : Fin n → ℤ, star t n a b ∈ Lat n y.1 → a ∈ Lat n y.1 ∨ b ∈ Lat n y.1) ∧
    (∀ L : Submodule ℤ (Fin n → ℤ), (∀ a : Fin n → ℤ, ∀ x ∈ L, star t n a x ∈ L) →
      Lat n y.1 ≤ L → L = Lat n y.1 ∨ L = ⊤) := by
  rw [A.lat]
  exact latOf_isMaximal R.tableRing A.isMaximal

theorem quotient (A : R.Above x y) :
    (∀ (a : List Int) (H : ℤ[X]), EltIs f B a H →
      (vec n a ∈ Lat n y.1 ↔
        (toPoly x.1).map (Int.castRingHom (ZMod p)) ∣ H.map (Int.castRingHom (ZMod p)))) ∧
    NTV.Ideal.norm y.1 = (p : ℤ) ^ degU x.1 ∧
    Lat n y.1 ≠ ⊤ ∧
    capZ y.1 = .ok (p : ℤ) ∧
    (∀ z : ℤ, z • e n ⟨0, R.hn⟩ ∈ Lat n y.1 ↔ (p : ℤ) ∣ z) ∧
    y.1.length = n := by
  have : Fact p.Prime := ⟨R.hp⟩
  have hne := A.prime.1
  obtain ⟨hfull, c, hc1, hc2, hc3, hc4⟩ := capZ_above R.tableRing (NTV.PolyG.degU_of_length R.hfl) p R.hp A.ok
  obtain rfl : c = p := hc2.resolve_right fun h => hne (hc3.mp h)
  refine ⟨fun a H ha => ?_, ?_, hne, hc1, hc4, hfull⟩
  · rw [A.lat, mem_latOf, R.ofVec_of_eltIs a H ha]
    exact R.ctx.aeval_mem_Pof_iff _ A.dvd H
  · -- the norm is the index of the lattice, which is the cardinal of `Rt T / (p, g(ϑ)) ≅ 𝔽_p[x]/(ḡ)`
    have hd : degU x.1 = ((toPoly x.1).map (Int.castRingHom (ZMod p))).natDegree :=
      NTV.PolyMod.degU_eq_natDegree p x.1 A.shape.1 (List.ne_nil_of_length_pos (by have := A.shape.2.2.1; omega))
    rw [A.nf.norm_eq_card R.hn hfull, A.lat, card_quot_latOf,
      R.ctx.card_quot_Pof _ A.dvd (NTV.PolyMod.Shape.monic p A.shape), ← hd, Nat.cast_pow]

theorem sup_eq_top (A : R.Above x y) (A' : R.Above x' y') (hc : IsCoprime (mp p x.1) (mp p x'.1)) :
    Lat n y.1 ⊔ Lat n y'.1 = ⊤ := by
  rw [A.lat, A'.lat, ← latOf_sup, Pof_sup_eq_top _ _ _ hc, latOf_top]

end Above

variable {fs : Factors}

/-- **(D2) residue ring and norm.** For the i-th returned pair `(P_i, e_i)` and the i-th modular factor
`g_i`: `H(θ) ∈ P_i ⇔ ḡ_i ∣ H̄` (so O/P_i ≅ 𝔽_p[x]/(ḡ_i)); `Ideal::norm P_i = p^{deg g_i}`; `P_i` is a proper
ideal of full rank and `cap_z P_i = p`. -/
theorem quotient (R : Run f n B t Cm p s res) :
    ∃ fs : Factors, factorizeModP f (p : Int) (wordOf p) s = .ok fs ∧ ∃ hl : res.length = fs.length,
      ∀ i : Fin fs.length,
        (∀ (a : List Int) (H : ℤ[X]), EltIs f B a H →
          (vec n a ∈ Lat n (res[i.1]'(by rw [hl]; exact i.2)).1 ↔
            (toPoly fs[i.1].1).map (Int.castRingHom (ZMod p)) ∣ H.map (Int.castRingHom (ZMod p)))) ∧
        NTV.Ideal.norm (res[i.1]'(by rw [hl]; exact i.2)).1 = (p : ℤ) ^ degU fs[i.1].1 ∧
        Lat n (res[i.1]'(by rw [hl]; exact i.2)).1 ≠ ⊤ ∧
        capZ (res[i.1]'(by rw [hl]; exact i.2)).1 = .ok (p : ℤ) ∧
        (∀ z : ℤ, z • e n ⟨0, R.hn⟩ ∈ Lat n (res[i.1]'(by rw [hl]; exact i.2)).1 ↔ (p : ℤ) ∣ z) ∧
        (res[i.1]'(by rw [hl]; exact i.2)).1.length = n := by
  obtain ⟨fs, hfs⟩ := R.factors
  exact ⟨fs, hfs, R.length_eq hfs, fun i => ((R.kd hfs).1 i).quotient⟩

/-- **(D4) the returned ideals are pairwise comaximal, hence pairwise distinct** (as lattices and as the
normal forms returned) -/
theorem distinct (R : Run f n B t Cm p s res) (i j : Nat) (hi : i < res.length) (hj : j < res.length)
    (hij : i ≠ j) :
    Lat n res[i].1 ⊔ Lat n res[j].1 = ⊤ ∧ res[i].1 ≠ res[j].1 := by
  obtain ⟨fs, hfs⟩ := R.factors
  obtain ⟨hA, hcop, _⟩ := R.kd hfs
  have hl := R.length_eq hfs
  have hsup : Lat n res[i].1 ⊔ Lat n res[j].1 = ⊤ :=
    (hA ⟨i, hl ▸ hi⟩).sup_eq_top (hA ⟨j, hl ▸ hj⟩) (hcop _ _ fun h => hij (Fin.mk.inj h))
  refine ⟨hsup, fun heq => ?_⟩
  rw [heq, sup_idem] at hsup
  exact (hA ⟨j, hl ▸ hj⟩).prime.1 hsup

theorem product_core (R : Run f n B t Cm p s res) (hfs : factorizeModP f (p : Int) (wordOf p) s = .ok fs) :
    ∃ Q Z : Mat, prodM t res = .ok Q ∧ principal t ((p : ℤ) :: List.replicate (n - 1) 0) = .ok Z ∧
      IsNF n Q ∧ IsNF n Z ∧ Lat n Z = latOf R.tableRing (Ideal.span {(p : Rt R.tableRing)}) ∧
      Lat n Q = latOf R.tableRing
        (∏ i : Fin fs.length, Pof p (thetaOf R.tableRing Cm f) (toPoly (fs.get i).1) ^ (fs.get i).2) ∧
      ∀ i : Fin fs.length, ∃ Qi : Mat,
        powM t (res.get (i.cast (R.length_eq hfs).symm)).1 (res.get (i.cast (R.length_eq hfs).symm)).2 = .ok Qi ∧
        Lat n Qi = latOf R.tableRing (Pof p (thetaOf R.tableRing Cm f) (toPoly (fs.get i).1) ^ (fs.get i).2) := by
  have hA := (R.kd hfs).1
  have hl := R.length_eq hfs
  set T := R.tableRing with hT
  have hW : ∀ x ∈ res, Wid n x.1 ∧ Lat n x.1 = latOf T (idealOfMat T x.1) := by
    intro x hx
    obtain ⟨i, rfl⟩ := List.mem_iff_get.mp hx
    have A : R.Above _ (res.get i) := hA (i.cast hl)
    exact ⟨A.nf.wid T.pos, by rw [idealOfMat_eq T A.lat]; exact A.lat⟩
  obtain ⟨Q, hQ1, hQ2, hQ3⟩ := prodM_spec T res (idealOfMat T) hW
  have hplen := length_pelem T.pos (p : ℤ)
  obtain ⟨Z, hZ1, _, _, hZ4, _⟩ := principal_total T hplen
  refine ⟨Q, Z, hQ1, hZ1, hQ2, isNF_of_principal T.len hplen hZ1, ?_, ?_, fun i => ?_⟩
  · rw [hZ4, vec_pelem n T.pos, natCast_eq, latOf_span_singleton]
  · rw [hQ3]
    congr 1
    rw [← Fin.prod_univ_fun_getElem res (fun x => idealOfMat T x.1 ^ x.2)]
    refine Fintype.prod_equiv (finCongr hl) _ _ fun i => ?_
    have A : R.Above _ (res.get i) := hA (i.cast hl)
    exact (congrArg₂ (· ^ ·) (idealOfMat_eq T A.lat) A.mult : _)
  · have A := hA i
    obtain ⟨Qi, h1, _, h3⟩ := powM_spec T (A.nf.wid T.pos) A.lat (res.get (i.cast hl.symm)).2
    exact ⟨Qi, h1, by rw [h3, A.mult]⟩

theorem product_of_eq (R : Run f n B t Cm p s res) (hfs : factorizeModP f (p : Int) (wordOf p) s = .ok fs)
    (h : ∏ i : Fin fs.length, Pof p (thetaOf R.tableRing Cm f) (toPoly (fs.get i).1) ^ (fs.get i).2 =
      Ideal.span {(p : Rt R.tableRing)}) :
    ∃ Z : Mat, prodM t res = .ok Z ∧ principal t ((p : ℤ) :: List.replicate (n - 1) 0) = .ok Z := by
  obtain ⟨Q, Z, hQ, hZ, nQ, nZ, lZ, lQ, _⟩ := R.product_core hfs
  obtain rfl : Q = Z := nQ.eq_of_lat_eq nZ R.tableRing.pos (by rw [lQ, lZ, h])
  exact ⟨Q, hQ, hZ⟩

theorem product_of_mem (R : Run f n B t Cm p s res)
    (h : ∀ fs : Factors, factorizeModP f (p : Int) (wordOf p) s = .ok fs → ∀ x ∈ fs, ∀ y ∈ res, R.Above x y →
      (p : Rt R.tableRing) ∈ Pof p (thetaOf R.tableRing Cm f) (toPoly x.1) ^ x.2) :
    ∃ Z : Mat, prodM t res = .ok Z ∧ principal t ((p : ℤ) :: List.replicate (n - 1) 0) = .ok Z := by
  obtain ⟨fs, hfs⟩ := R.factors
  obtain ⟨hA, hcop, hprod⟩ := R.kd hfs
  exact R.product_of_eq hfs ((R.ctx.prod_eq_iff _ _ hprod hcop).mpr
    fun i => h fs hfs _ (fs.get_mem i) _ (res.get_mem _) (hA i))

end Run

end NTV.KD
