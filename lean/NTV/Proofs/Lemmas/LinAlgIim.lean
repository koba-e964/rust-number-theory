import NTV.Proofs.Lemmas.LinAlgProofs
/-! The model of `subspace::iim` (Cohen 2.3.5 transposed). The loop only applies column operations, the
same to `M` and to `B`; these keep every linear relation between the rows of `M` and a row of `B`
(`RelG.reindex`, `RelG.subCol` of LinAlgProofs) and can be undone, so the invariant `II` carries the relations both ways
between the input and the current state; the rest is read off the triangular shape of the current `M`. -/
open Matrix
namespace NTV.LinAlg
open NTV.RowOps (toM Rect)

theorem ent_oob_col {n m : Nat} {a : QMat} (hr : Rect n m a) (r c : Nat) (hc : m ≤ c) : ent a r c = 0 := by
  by_cases h : r < n
  · unfold ent NTV.RowOps.ent
    rw [List.getD_eq_getElem?_getD, List.getElem?_eq_none (by rw [hr.row_length r h]; exact hc)]
    rfl
  · exact ent_oob_row hr r c (Nat.le_of_not_lt h)

theorem getD_mapIdx (row : QRow) (g : Nat → ℚ → ℚ) (c : Nat) (hc : c < row.length) :
    (row.mapIdx g).getD c 0 = g c (row.getD c 0) :=
  NTV.RowOps.getD_mapIdx_of_lt row g c hc 0 0

theorem ent_mapIdx {n m : Nat} {a : QMat} (hr : Rect n m a) (f : Nat → QRow → QRow) (r c : Nat) (h : r < n) :
    ent (a.mapIdx f) r c = (f r (a.getD r [])).getD c 0 :=
  NTV.RowOps.ent_mapIdx hr f r c h

/-- with multipliers that vanish up to column `j` the update is uniform in the column -/
theorem getD_iimElimRow (cv row : QRow) (j k : Nat) (hk : k < row.length) (hcv : ¬ j < k → cv.getD k 0 = 0) :
    (iimElimRow cv j row).getD k 0 = row.getD k 0 - cv.getD k 0 * row.getD j 0 := by
  unfold iimElimRow
  rw [getD_mapIdx _ _ _ hk]
  by_cases h : j < k
  · exact if_pos h
  · rw [hcv h, zero_mul, sub_zero]
    exact if_neg h

theorem length_iimElimRow (cv row : QRow) (j : Nat) : (iimElimRow cv j row).length = row.length :=
  List.length_mapIdx

def ext0 {k : Nat} (x : Fin k → ℚ) (l : Nat) : ℚ := if h : l < k then x ⟨l, h⟩ else 0

theorem sum_ext0 {k n : Nat} (x : Fin k → ℚ) (f : Nat → ℚ) (hkn : k ≤ n) :
    ∑ l ∈ Finset.range n, ext0 x l * f l = ∑ l : Fin k, x l * f l := by
  rw [← Finset.sum_subset (Finset.range_subset_range.mpr hkn) (fun l _ hl => by
    rw [ext0, dif_neg (fun q => hl (Finset.mem_range.mpr q)), zero_mul]), Finset.sum_range]
  exact Finset.sum_congr rfl fun l _ => by rw [ext0, dif_pos l.2]

/-- state before iteration `j` of the elimination loop of `iim` -/
structure II (n m r : Nat) (M0 B0 : QMat) (j : Nat) (M B : QMat) : Prop where
  rm : Rect n m M
  rb : Rect r m B
  tri : ∀ l k, l < j → l < k → ent M l k = 0
  diag : ∀ l, l < j → ent M l l ≠ 0
  back : ∀ i x t, i < r → RelG n m M B i x t → RelG n m M0 B0 i x t
  fwd : ∀ i x t, i < r → RelG n m M0 B0 i x t → RelG n m M B i x t

variable {n m r : Nat} {M0 B0 : QMat}

theorem II.swap {j : Nat} {M B : QMat} (h : II n m r M0 B0 j M B) (i : Nat) (hji : j < i) (hi : i < m) :
    II n m r M0 B0 j (swapCols M i j) (swapCols B i j) := by
  have hj : j < m := hji.trans hi
  have eM := ent_swapCols_perm h.rm i j hi hj
  have eB := ent_swapCols_perm h.rb i j hi hj
  have hσ : ∀ c, c < m → Equiv.swap j i c < m := fun c hc => swap_cases (P := (· < m)) j i c hj hi hc
  refine ⟨Rect.swapCols h.rm _ _, Rect.swapCols h.rb _ _, ?_, ?_, ?_, ?_⟩
  · intro l k hl hlk
    rw [eM]
    exact h.tri l _ hl (swap_cases (P := (l < ·)) j i k hl (hl.trans hji) hlk)
  · intro l hl
    rw [eM, Equiv.swap_apply_of_ne_of_ne (Nat.ne_of_lt hl) (Nat.ne_of_lt (hl.trans hji))]
    exact h.diag l hl
  -- the swap is an involution, so the old matrices are the swapped new ones
  · intro i' x t hi' hrel
    refine h.back i' x t hi' (hrel.reindex _ hσ (fun l c _ _ => ?_) (fun c _ => ?_))
    · rw [eM, Equiv.swap_apply_self]
    · rw [eB, Equiv.swap_apply_self]
  · intro i' x t hi' hrel
    exact (h.fwd i' x t hi' hrel).reindex _ hσ (fun l c _ _ => eM l c) (fun c _ => eB i' c)

theorem getD_iimCoefs {j : Nat} {M : QMat} (hm : Rect n m M) (hj : j < n) (k : Nat) (hk : k < m) :
    (iimCoefs j M).getD k 0 = if j < k then (ent M j j)⁻¹ * ent M j k else 0 := by
  unfold iimCoefs
  simp only
  rw [getD_mapIdx _ _ _ (by rw [hm.row_length j hj]; exact hk)]
  rfl

/-- entries of `M` after the elimination, uniformly in the row (uses the triangular shape above) and
in the column (the multiplier `c[k]` is `0` for `k ≤ j`) -/
theorem ent_iimElimM {j : Nat} {M : QMat} (hm : Rect n m M) (hj : j < n)
    (tri : ∀ l k, l < j → l < k → ent M l k = 0) (hp : ent M j j ≠ 0) (l k : Nat) (hl : l < n) (hk : k < m) :
    ent (iimElimM j (iimCoefs j M) M) l k = ent M l k - (iimCoefs j M).getD k 0 * ent M l j := by
  have hlen : k < (M.getD l []).length := by rw [hm.row_length l hl]; exact hk
  have hc := getD_iimCoefs hm hj k hk
  unfold iimElimM
  rw [ent_mapIdx hm _ l k hl]
  rcases Nat.lt_trichotomy l j with h1 | h1 | h1
  · rw [if_pos h1, tri l j h1 h1, mul_zero, sub_zero]
    rfl
  · subst h1
    rw [if_neg (lt_irrefl l), if_pos rfl, getD_mapIdx _ _ _ hlen, hc]
    by_cases h3 : l < k
    · rw [if_pos h3, if_pos h3, mul_right_comm, inv_mul_cancel₀ hp, one_mul]
      exact (sub_self _).symm
    · rw [if_neg h3, if_neg h3, zero_mul, sub_zero]
      rfl
  · rw [if_neg (lt_asymm h1), if_neg (Nat.ne_of_gt h1), getD_iimElimRow _ _ _ _ hlen (fun h => by rw [hc, if_neg h])]
    rfl

theorem ent_iimElimB {j : Nat} {M B : QMat} (hm : Rect n m M) (hb : Rect r m B) (hj : j < n)
    (i k : Nat) (hi : i < r) (hk : k < m) :
    ent (B.map (iimElimRow (iimCoefs j M) j)) i k = ent B i k - (iimCoefs j M).getD k 0 * ent B i j := by
  rw [ent_map _ _ (by simp [iimElimRow]), getD_iimElimRow _ _ _ _ (by rw [hb.row_length i hi]; exact hk)
    (fun h => by rw [getD_iimCoefs hm hj k hk, if_neg h])]
  rfl

theorem II.elim {j : Nat} {M B : QMat} (h : II n m r M0 B0 j M B) (hj : j < n) (hjm : j < m)
    (hp : ent M j j ≠ 0) :
    II n m r M0 B0 (j + 1) (iimElimM j (iimCoefs j M) M) (B.map (iimElimRow (iimCoefs j M) j)) := by
  have eM := ent_iimElimM h.rm hj h.tri hp
  have eB := ent_iimElimB h.rm h.rb hj
  have ec := getD_iimCoefs h.rm hj
  have rm' : Rect n m (iimElimM j (iimCoefs j M) M) := h.rm.mapIdx _ fun i row hrow => by
    rw [apply_ite List.length, apply_ite List.length, List.length_mapIdx, length_iimElimRow, ite_self, ite_self]
    exact hrow
  refine ⟨rm', Rect.map h.rb _ (fun row hrow => by rw [length_iimElimRow]; exact hrow), ?_, ?_, ?_, ?_⟩
  · intro l k hl hlk
    by_cases hkm : k < m
    · rw [eM l k (Nat.lt_of_lt_of_le hl hj) hkm]
      rcases Nat.lt_succ_iff_lt_or_eq.mp hl with hl' | rfl
      · rw [h.tri l k hl' hlk, h.tri l j hl' hl', mul_zero, sub_zero]
      · rw [ec k hkm, if_pos hlk, mul_right_comm, inv_mul_cancel₀ hp, one_mul, sub_self]
    · exact ent_oob_col rm' l k (Nat.le_of_not_lt hkm)
  · intro l hl
    have hlj : ¬ j < l := Nat.not_lt.mpr (Nat.le_of_lt_succ hl)
    rw [eM l l (Nat.lt_of_lt_of_le hl hj) (Nat.lt_of_lt_of_le hl hjm), ec l (Nat.lt_of_lt_of_le hl hjm),
      if_neg hlj, zero_mul, sub_zero]
    rcases Nat.lt_succ_iff_lt_or_eq.mp hl with hl' | rfl
    · exact h.diag l hl'
    · exact hp
  -- column `j` itself is not changed, so adding the same multiples of it undoes the step
  · intro i x t hi hrel
    refine h.back i x t hi (hrel.subCol j hjm (fun c => -(iimCoefs j M).getD c 0) ?_ ?_)
    · intro l c hl hc
      rw [eM l c hl hc, eM l j hl hjm, ec j hjm, if_neg (lt_irrefl j), zero_mul, sub_zero, neg_mul,
        sub_neg_eq_add, sub_add_cancel]
    · intro c hc
      rw [eB i c hi hc, eB i j hi hjm, ec j hjm, if_neg (lt_irrefl j), zero_mul, sub_zero, neg_mul,
        sub_neg_eq_add, sub_add_cancel]
  · intro i x t hi hrel
    exact (h.fwd i x t hi hrel).subCol j hjm _ eM (fun c hc => eB i c hi hc)

theorem II.step {j : Nat} {M B M' B' : QMat} (h : II n m r M0 B0 j M B) (hj : j < n)
    (hs : iimStep m j M B = some (M', B')) : j < m ∧ II n m r M0 B0 (j + 1) M' B' := by
  unfold iimStep at hs
  split at hs
  · cases hs
  · rename_i i hf
    obtain ⟨f1, f2, f3⟩ := findFrom_some hf
    have hpiv : ent M j i ≠ 0 := bne_iff_ne.mp f3
    cases hs
    refine ⟨lt_of_le_of_lt f1 f2, ?_⟩
    by_cases hji : j < i
    · rw [if_pos hji, if_pos hji]
      refine (h.swap i hji f2).elim hj (hji.trans f2) ?_
      rw [ent_swapCols_perm h.rm i j f2 (hji.trans f2), Equiv.swap_apply_left]
      exact hpiv
    · rw [if_neg hji, if_neg hji]
      cases Nat.le_antisymm f1 (Nat.le_of_not_lt hji)
      exact h.elim hj f2 hpiv

theorem II.init {M B : QMat} (hm : Rect n m M) (hb : Rect r m B) : II n m r M B 0 M B :=
  ⟨hm, hb, fun _ _ hl _ => absurd hl (Nat.not_lt_zero _), fun _ hl => absurd hl (Nat.not_lt_zero _),
    fun _ _ _ _ h => h, fun _ _ _ _ h => h⟩

theorem relG_zero {M B : QMat} {i : Nat} {y : Nat → ℚ} :
    RelG n m M B i y 0 ↔ ∀ c, c < m → ∑ l ∈ Finset.range n, y l * ent M l c = 0 :=
  forall₂_congr fun _ _ => by rw [zero_mul]

def RowsDep (n m : Nat) (M : QMat) : Prop :=
  ∃ y : Nat → ℚ, (∃ l, l < n ∧ y l ≠ 0) ∧ ∀ c, c < m → ∑ l ∈ Finset.range n, y l * ent M l c = 0

theorem RowsDep.vecMul {n m : Nat} {M : QMat} (h : RowsDep n m M) : ∃ y : Fin n → ℚ, y ≠ 0 ∧ y ᵥ* toM n m M = 0 := by
  obtain ⟨y, ⟨l, hl, hyl⟩, hrel⟩ := h
  exact ⟨fun k => y k, fun h0 => hyl (congrFun h0 ⟨l, hl⟩), funext fun c =>
    (Fin.sum_univ_eq_sum_range (fun l => y l * ent M l c) n).trans (hrel c c.2)⟩

/-- no pivot in row `j`: the rows `0..j` of the current matrix live in the first `j` columns, so
they are dependent; the relation pulls back to the input -/
theorem II.dependent {j : Nat} {M B : QMat} (h : II n m r M0 B0 j M B) (hj : j < n) (hr : 0 < r)
    (hs : iimStep m j M B = none) :
    ∃ y : Nat → ℚ, (∃ l, l < n ∧ y l ≠ 0) ∧ ∀ c, c < m → ∑ l ∈ Finset.range n, y l * ent M0 l c = 0 := by
  unfold iimStep at hs
  split at hs
  · rename_i hf
    have hzero : ∀ l c, l ≤ j → j ≤ c → ent M l c = 0 := by
      intro l c hl hc
      rcases Nat.eq_or_lt_of_le hl with rfl | hl'
      · by_cases hcm : c < m
        · exact bne_eq_false_iff_eq.mp (findFrom_none hf c hc hcm)
        · exact ent_oob_col h.rm l c (Nat.le_of_not_lt hcm)
      · exact h.tri l c hl' (Nat.lt_of_lt_of_le hl' hc)
    let S : Matrix (Fin (j + 1)) (Fin (j + 1)) ℚ := fun a b => ent M a b
    have hdet : S.det = 0 :=
      Matrix.det_eq_zero_of_column_eq_zero ⟨j, Nat.lt_succ_self j⟩ fun a =>
        hzero a j (Nat.le_of_lt_succ a.2) (le_refl j)
    obtain ⟨v, hv0, hv⟩ := Matrix.exists_vecMul_eq_zero_iff.mpr hdet
    obtain ⟨a, ha⟩ := Function.ne_iff.mp hv0
    refine ⟨ext0 v, ⟨a, lt_of_lt_of_le a.2 hj, by rw [ext0, dif_pos a.2]; exact ha⟩,
      relG_zero.mp (h.back 0 _ 0 hr (relG_zero.mpr fun c hc => ?_))⟩
    rw [sum_ext0 v (fun l => ent M l c) hj]
    by_cases hcj : c < j + 1
    · exact congrFun hv ⟨c, hcj⟩
    · exact Finset.sum_eq_zero fun l _ => by
        rw [hzero l c (Nat.le_of_lt_succ l.2) (Nat.le_of_succ_le (Nat.le_of_not_lt hcj)), mul_zero]
  · cases hs

/-- `n` successful iterations need `n` pivot columns; a failing one exhibits a dependence -/
theorem iimLoop_spec (steps j : Nat) (M B : QMat) (hn : j + steps = n) (hjm : j ≤ m) (hr : 0 < r)
    (h : II n m r M0 B0 j M B) :
    match iimLoop m steps j M B with
    | some (M', B') => n ≤ m ∧ II n m r M0 B0 n M' B'
    | none => RowsDep n m M0 := by
  induction steps generalizing j M B with
  | zero =>
    subst hn
    exact ⟨hjm, h⟩
  | succ k ih =>
    have hj : j < n := hn ▸ Nat.lt_add_of_pos_right (Nat.succ_pos k)
    unfold iimLoop
    cases hst : iimStep m j M B with
    | none => exact h.dependent hj hr hst
    | some p =>
      obtain ⟨hjm', h'⟩ := h.step hj hst
      exact ih (j + 1) p.1 p.2 ((Nat.succ_add_eq_add_succ j k).trans hn) hjm' h'

theorem foldl_sub_range' (f : Nat → ℚ) (a len : Nat) (b0 : ℚ) :
    (List.range' a len).foldl (fun t j => t - f j) b0 = b0 - ∑ j ∈ Finset.Ico a (a + len), f j := by
  induction len generalizing a b0 with
  | zero => rw [Nat.add_zero, Finset.Ico_self, Finset.sum_empty, sub_zero]; rfl
  | succ k ih =>
    rw [List.range'_succ, List.foldl_cons, ih, Nat.add_right_comm, Nat.add_assoc,
      Finset.sum_eq_sum_Ico_succ_bot (Nat.lt_add_of_pos_right (Nat.succ_pos k)), sub_sub]

/-- the equation solved for `x[i]` in step 6 -/
def BackEq (n : Nat) (M : QMat) (brow x : QRow) (i : Nat) : Prop :=
  x.getD i 0 * ent M i i + ∑ j ∈ Finset.Ico (i + 1) n, ent M j i * x.getD j 0 = brow.getD i 0

theorem BackEq.congr {n : Nat} {M : QMat} {brow x x' : QRow} {i : Nat} (h : BackEq n M brow x i)
    (hx : ∀ j, i ≤ j → x'.getD j 0 = x.getD j 0) : BackEq n M brow x' i := by
  have hs : ∑ j ∈ Finset.Ico (i + 1) n, ent M j i * x'.getD j 0
      = ∑ j ∈ Finset.Ico (i + 1) n, ent M j i * x.getD j 0 :=
    Finset.sum_congr rfl fun j hj => by rw [hx j (Nat.le_of_succ_le (Finset.mem_Ico.mp hj).1)]
  unfold BackEq
  rw [hx i (le_refl i), hs]
  exact h

theorem BackEq.set {n : Nat} {M : QMat} {brow x : QRow} {k : Nat} (hk : k < x.length) (hd : ent M k k ≠ 0)
    (i : Nat) (hki : k ≤ i) (h : k < i → BackEq n M brow x i) :
    BackEq n M brow
      (x.set k ((brow.getD k 0 - ∑ j ∈ Finset.Ico (k + 1) n, ent M j k * x.getD j 0) / ent M k k)) i := by
  rcases Nat.eq_or_lt_of_le hki with rfl | hlt
  · have hs : ∀ v, ∑ j ∈ Finset.Ico (k + 1) n, ent M j k * (x.set k v).getD j 0
        = ∑ j ∈ Finset.Ico (k + 1) n, ent M j k * x.getD j 0 := fun v =>
      Finset.sum_congr rfl fun j hj => by
        rw [NTV.RowOps.getD_set, if_neg fun q => Nat.ne_of_lt (Finset.mem_Ico.mp hj).1 q.1.symm]
    unfold BackEq
    rw [hs, NTV.RowOps.getD_set, if_pos ⟨rfl, hk⟩, div_mul_cancel₀ _ hd, sub_add_cancel]
  · exact (h hlt).congr fun j hj => by
      rw [NTV.RowOps.getD_set, if_neg fun q => Nat.ne_of_lt (Nat.lt_of_lt_of_le hlt hj) q.1.symm]

theorem back_fold (n : Nat) (M : QMat) (brow : QRow) (hd : ∀ i, i < n → ent M i i ≠ 0) (k : Nat) (hk : k ≤ n)
    (x0 : QRow) (hlen : x0.length = n) (h0 : ∀ i, k ≤ i → i < n → BackEq n M brow x0 i) (i : Nat) (hi : i < n) :
    BackEq n M brow ((List.range k).reverse.foldl (fun (x : QRow) i =>
      let tmp := (List.range' (i + 1) (n - (i + 1))).foldl
        (fun tmp j => tmp - ent M j i * x.getD j 0) (brow.getD i 0)
      x.set i (tmp / ent M i i)) x0) i := by
  induction k generalizing x0 with
  | zero => exact h0 i (Nat.zero_le i) hi
  | succ k ih =>
    rw [List.range_succ, List.reverse_append, List.reverse_singleton, List.singleton_append, List.foldl_cons]
    apply ih (Nat.le_of_succ_le hk) _ (by rw [List.length_set]; exact hlen)
    intro i' hki hin
    rw [foldl_sub_range' (fun j => ent M j k * x0.getD j 0), Nat.add_sub_cancel' hk]
    exact BackEq.set (by rw [hlen]; exact hk) (hd k hk) i' hki fun h => h0 i' h hin

theorem back_rel (n : Nat) (M : QMat) (brow : QRow) (hd : ∀ i, i < n → ent M i i ≠ 0)
    (tri : ∀ l k, l < n → l < k → ent M l k = 0) (c : Nat) (hc : c < n) :
    ∑ l ∈ Finset.range n, (iimBackRow n M brow).getD l 0 * ent M l c = brow.getD c 0 := by
  have hz : ∑ l ∈ Finset.Ico 0 c, (iimBackRow n M brow).getD l 0 * ent M l c = 0 :=
    Finset.sum_eq_zero fun l hl => by
      have := (Finset.mem_Ico.mp hl).2
      rw [tri l c (this.trans hc) this, mul_zero]
  have hb : BackEq n M brow (iimBackRow n M brow) c :=
    back_fold n M brow hd n (le_refl n) (List.replicate n 0) List.length_replicate
      (fun _ h1 h2 => absurd h2 (Nat.not_lt.mpr h1)) c hc
  rw [← hb, Finset.range_eq_Ico,
    ← Finset.sum_Ico_consecutive _ (Nat.zero_le c) (le_of_lt hc), Finset.sum_eq_sum_Ico_succ_bot hc, hz, zero_add]
  exact congrArg _ (Finset.sum_congr rfl fun l _ => mul_comm _ _)

theorem iimCheck_iff (n m : Nat) (M B X : QMat) : iimCheck n m M B X = true ↔
    ∀ k, n ≤ k → k < m → ∀ i, i < X.length → ∑ j ∈ Finset.range n, ent X i j * ent M j k = ent B i k := by
  simp only [iimCheck, List.all_eq_true, mem_range'_sub, List.mem_range, beq_iff_eq, foldl_sum_range, and_imp]

theorem II.answer {M B : QMat} (h : II n m r M0 B0 n M B)
    (hc : iimCheck n m M B (B.map (iimBackRow n M)) = true) (i : Nat) (hi : i < r) :
    RelG n m M0 B0 i (fun l => ent (B.map (iimBackRow n M)) i l) 1 := by
  apply h.back i _ 1 hi
  intro c hcm
  rw [one_mul]
  have hiB : i < B.length := by rw [h.rb.1]; exact hi
  by_cases hcn : c < n
  · refine (Finset.sum_congr rfl fun l _ => ?_).trans (back_rel n M (B.getD i []) h.diag h.tri c hcn)
    beta_reduce
    rw [ent_map_lt B _ i l hiB]
  · exact (iimCheck_iff n m M B _).mp hc c (Nat.le_of_not_lt hcn) hcm i (by rw [List.length_map]; exact hiB)

theorem iim_unfold (M V : QMat) (n m r : Nat) (hM : Rect n m M) (hV : Rect r m V) (hn : 0 < n) (hr : 0 < r) :
    iim M V = match iimLoop m n 0 M V with
      | none => .error errLinearlyDependent
      | some (M', B') =>
        if iimCheck n m M' B' (B'.map (iimBackRow n M')) then .ok (B'.map (iimBackRow n M'))
        else .error errNotInImage := by
  cases M with
  | nil => exact absurd hM.1 (Nat.ne_of_lt hn)
  | cons m0 mt =>
    cases V with
    | nil => exact absurd hV.1 (Nat.ne_of_lt hr)
    | cons v0 vt =>
      unfold iim
      simp only [hM.2 m0 List.mem_cons_self, hV.2 v0 List.mem_cons_self, hM.1, isRect_of_rect hM, isRect_of_rect hV,
        ne_eq, not_true_eq_false, if_false, Bool.and_self, Bool.not_true, Bool.false_eq_true]
      cases iimLoop m n 0 (m0 :: mt) (v0 :: vt) <;> rfl

/-- **inverse image, success**: `X * M = V` -/
theorem iim_ok (M V X : QMat) (n m r : Nat) (hM : Rect n m M) (hV : Rect r m V) (hn : 0 < n) (hr : 0 < r)
    (h : iim M V = .ok X) : toM r n X * toM n m M = toM r m V := by
  rw [iim_unfold M V n m r hM hV hn hr] at h
  split at h
  · cases h
  · rename_i M' B' hloop
    have hfin := iimLoop_spec n 0 M V (Nat.zero_add n) (Nat.zero_le m) hr (II.init hM hV)
    rw [hloop] at hfin
    split at h
    · rename_i hchk
      cases h
      ext i c
      exact (Fin.sum_univ_eq_sum_range (fun l => ent (B'.map (iimBackRow n M')) i l * ent M l c) n).trans
        ((hfin.2.answer hchk i i.2 c c.2).trans (one_mul _))
    · cases h

/-- on rectangular arguments the only errors are the two declared ones -/
theorem iim_errors (M V : QMat) (n m r : Nat) (hM : Rect n m M) (hV : Rect r m V) (hn : 0 < n) (hr : 0 < r)
    (e : String) (h : iim M V = .error e) : e = errLinearlyDependent ∨ e = errNotInImage := by
  rw [iim_unfold M V n m r hM hV hn hr] at h
  split at h
  · exact Or.inl (Except.error.inj h).symm
  · split at h
    · cases h
    · exact Or.inr (Except.error.inj h).symm

theorem II.independent {M B : QMat} (h : II n m r M0 B0 n M B) (hnm : n ≤ m) (hr : 0 < r) (y : Nat → ℚ)
    (hy : ∀ c, c < m → ∑ l ∈ Finset.range n, y l * ent M0 l c = 0) : ∀ l, l < n → y l = 0 := by
  have hrel := relG_zero.mp (h.fwd 0 y 0 hr (relG_zero.mpr hy))
  -- downward induction on `l`: in column `l` of the triangular matrix only row `l` is left
  have key : ∀ k l, n ≤ l + k → l < n → y l = 0 := by
    intro k
    induction k with
    | zero => exact fun l h1 h2 => absurd h2 (Nat.not_lt.mpr h1)
    | succ k ih =>
      intro l h1 h2
      have := hrel l (Nat.lt_of_lt_of_le h2 hnm)
      rw [Finset.sum_eq_single_of_mem l (Finset.mem_range.mpr h2)] at this
      · exact (mul_eq_zero.mp this).resolve_right (h.diag l h2)
      · intro l' hl' hne
        have hl'n := Finset.mem_range.mp hl'
        rcases Nat.lt_or_gt_of_ne hne with q | q
        · rw [h.tri l' l hl'n q, mul_zero]
        · rw [ih l' (h1.trans ((Nat.succ_add_eq_add_succ l k).symm.le.trans (Nat.add_le_add_right q k))) hl'n,
            zero_mul]
  exact fun l hl => key n l (Nat.le_add_left n l) hl

/-- in the columns `k ≥ n` the triangular `M` is zero, and so is then every combination of its rows -/
theorem II.check_of_span {M B : QMat} (h : II n m r M0 B0 n M B)
    (hspan : ∀ i, i < r → ∃ x : Nat → ℚ, RelG n m M0 B0 i x 1) :
    iimCheck n m M B (B.map (iimBackRow n M)) = true := by
  refine (iimCheck_iff n m M B _).mpr fun k hk1 hk2 i hi => ?_
  have hi' : i < r := by rw [List.length_map, h.rb.1] at hi; exact hi
  have hz : ∀ (f : Nat → ℚ), ∑ j ∈ Finset.range n, f j * ent M j k = 0 := fun f =>
    Finset.sum_eq_zero fun j hj => by
      rw [h.tri j k (Finset.mem_range.mp hj) (lt_of_lt_of_le (Finset.mem_range.mp hj) hk1), mul_zero]
  obtain ⟨x, hx⟩ := hspan i hi'
  rw [hz, ← one_mul (ent B i k), ← h.fwd i x 1 hi' hx k hk2, hz]

end NTV.LinAlg
