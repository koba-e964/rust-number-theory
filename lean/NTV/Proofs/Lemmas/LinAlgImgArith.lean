import NTV.Model.LinAlg
import Mathlib.FieldTheory.Finite.Basic
/-! Arithmetic of `image_mod_p` over `ZMod p`: the truncated remainder is the identity modulo `p`,
and `p - modinv x p` is `-x⁻¹`. -/
namespace NTV.LinAlg

theorem cast_tmod (p : Nat) (a : Int) : ((Int.tmod a p : Int) : ZMod p) = (a : ZMod p) := by
  rw [Int.tmod_def, Int.cast_sub, Int.cast_mul, Int.cast_natCast, ZMod.natCast_self, zero_mul, sub_zero]

theorem tmod_reduced (p : Nat) (hp : 0 < p) (a : Int) (h : (p : Int) ∣ Int.tmod a p) : Int.tmod a p = 0 :=
  have hp' : (0 : Int) < p := Int.natCast_pos.mpr hp
  Int.eq_zero_of_abs_lt_dvd h (abs_lt.mpr ⟨Int.lt_tmod_of_pos a hp', Int.tmod_lt_of_pos a hp'⟩)

theorem modpowLoop_succ (q : Int) (fuel : Nat) (e prod cur : Int) :
    modpowLoop q (fuel + 1) e prod cur = if e > 0 then
      modpowLoop q fuel (Int.fdiv e 2) (if e % 2 != 0 then Int.tmod (prod * cur) q else prod)
        (Int.tmod (cur * cur) q) else prod := rfl

theorem cast_modpowLoop (p : Nat) (fuel : Nat) : ∀ (e : Nat) (prod cur : Int), e < fuel →
    ((modpowLoop p fuel e prod cur : Int) : ZMod p) = (prod : ZMod p) * (cur : ZMod p) ^ e := by
  induction fuel with
  | zero => intro e _ _ h; exact absurd h (Nat.not_lt_zero e)
  | succ fuel ih =>
    intro e prod cur hf
    rw [modpowLoop_succ]
    rcases Nat.eq_zero_or_pos e with rfl | he
    · rw [if_neg (by decide), pow_zero, mul_one]
    · -- one round takes `prod * cur ^ e` to `(prod * cur ^ (e % 2)) * (cur ^ 2) ^ (e / 2)`
      have hprod : (((if (e : Int) % 2 != 0 then Int.tmod (prod * cur) p else prod : Int)) : ZMod p)
          = prod * (cur : ZMod p) ^ (e % 2) := by
        rw [show (e : Int) % 2 = ((e % 2 : Nat) : Int) from (Int.natCast_mod e 2).symm]
        rcases Nat.mod_two_eq_zero_or_one e with h | h
        · rw [h, if_neg (by decide), pow_zero, mul_one]
        · rw [h, if_pos (by decide), pow_one, cast_tmod, Int.cast_mul]
      have hlt : e / 2 < fuel := Nat.lt_of_lt_of_le (Nat.div_lt_self he (by decide)) (Nat.le_of_lt_succ hf)
      rw [if_pos (Int.natCast_pos.mpr he), show Int.fdiv (e : Int) 2 = ((e / 2 : Nat) : Int) from
          (Int.fdiv_eq_ediv_of_nonneg _ (by decide)).trans (Int.natCast_div e 2).symm,
        ih (e / 2) _ _ hlt, hprod, cast_tmod, Int.cast_mul, ← pow_two, ← pow_mul, mul_assoc,
        ← pow_add, Nat.mod_add_div]

theorem cast_modpow (p : Nat) (x : Int) (e : Nat) :
    ((modpow x e p : Int) : ZMod p) = (x : ZMod p) ^ e := by
  rw [modpow, Int.toNat_natCast, cast_modpowLoop p _ e 1 x (Nat.lt_succ_self e), Int.cast_one, one_mul]

/-- `dd = p - modinv(x, p)` is the multiplier of the elimination step in `image_mod_p`; by Fermat it
is `-x⁻¹` modulo `p` -/
theorem cast_dd_mul (p : Nat) (hp : p.Prime) (x : Int) (hx : ((x : Int) : ZMod p) ≠ 0) :
    (((p : Int) - modinv x p : Int) : ZMod p) * (x : ZMod p) = -1 := by
  have : Fact p.Prime := ⟨hp⟩
  have h1 := ZMod.pow_card_sub_one_eq_one hx
  rw [show p - 1 = (p - 2) + 1 from (Nat.sub_add_cancel (Nat.le_sub_one_of_lt hp.one_lt)).symm, pow_succ] at h1
  rw [modinv, show ((p : Int) - 2) = ((p - 2 : Nat) : Int) from (Int.natCast_sub hp.two_le).symm,
    Int.cast_sub, cast_modpow, Int.cast_natCast, ZMod.natCast_self, zero_sub, neg_mul, h1]

end NTV.LinAlg
