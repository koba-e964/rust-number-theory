import NTV.Proofs.Lemmas.LinAlgImgInv
/-! The loop of `image_mod_p`, the final state, and the specification of the model `imageModP`. -/
open Matrix
namespace NTV.LinAlg
open NTV.RowOps (toM Rect)

theorem image_step {p n m k : Nat} (hp : p.Prime) {M : IMat} {st : ImgSt} (H : Prop) (hk : k < n)
    (hA : InvA n m k st) (hB : H → InvB p n m k M st) :
    ∃ st', imageStep n m p st k = .ok st' ∧ InvA n m (k + 1) st' ∧ (H → InvB p n m (k + 1) M st') := by
  cases hf : findFrom 0 m (fun j => (st.mat.getD k []).getD j 0 != 0 && st.c.getD j 0 == 0) with
  | none =>
    exact ⟨_, imageStep_none hf, hA.skip, fun hh => (hB hh).skip hk hf⟩
  | some j =>
    have hp0 : (p : Int) ≠ 0 := Int.natCast_ne_zero.mpr hp.pos.ne'
    obtain ⟨_, hj, hpj⟩ := findFrom_some hf
    rw [Bool.and_eq_true, bne_iff_ne, beq_iff_eq] at hpj
    -- the pivot entry is reduced and not `0`, so it is invertible modulo `p`
    exact ⟨_, imageStep_some hp0 hf, hA.pivot _ j _ hj hpj.2, fun hh => (hB hh).pivot hp.pos hA hk hj hpj.2
      (cast_dd_mul p hp _ fun h0 =>
        hpj.1 ((hB hh).red k le_rfl hk j hj ((ZMod.intCast_zmod_eq_zero_iff_dvd _ _).mp h0)))⟩

theorem image_fold {p n m : Nat} (hp : p.Prime) {M : IMat} (H : Prop) (st0 : ImgSt)
    (hA : InvA n m 0 st0) (hB : H → InvB p n m 0 M st0) : ∀ k, k ≤ n →
    ∃ st, (List.range k).foldlM (imageStep n m p) st0 = .ok st ∧ InvA n m k st ∧ (H → InvB p n m k M st) := by
  intro k
  induction k with
  | zero => intro _; exact ⟨st0, rfl, hA, hB⟩
  | succ k ih =>
    intro hk
    obtain ⟨st, e1, a1, b1⟩ := ih (Nat.le_of_succ_le hk)
    obtain ⟨st', e2, a2, b2⟩ := image_step hp H hk a1 b1
    refine ⟨st', ?_, a2, b2⟩
    rw [List.range_succ, List.foldlM_append, e1]
    show (imageStep n m p st k >>= fun s => pure s) = _
    rw [e2]
    rfl

theorem mem_c_getD {c : List Nat} {m : Nat} (hc : c.length = m) (x : Nat) (hx : x ∈ c) :
    ∃ i < m, c.getD i 0 = x := by
  obtain ⟨i, hi, rfl⟩ := List.mem_iff_getElem.mp hx
  exact ⟨i, hc ▸ hi, (List.getElem_eq_getD (h := hi) 0).symm⟩

theorem final_indep {p n m : Nat} {M : IMat} {st : ImgSt} (hA : InvA n m n st) (hB : InvB p n m n M st)
    (z : Fin n → ZMod p) (hz : ∀ s : Fin n, (s.val + 1) ∉ st.c → z s = 0)
    (h0 : z ᵥ* cmM p n m M = 0) : z = 0 := by
  funext s0
  by_cases hs : s0.val + 1 ∈ st.c
  · obtain ⟨i, hi, hci⟩ := mem_c_getD hA.clen _ hs
    -- column `i` of the final matrix is `-1` in row `s0` and `0` in every other recorded row
    have hsum : ∑ s : Fin n, z s * cm p st.mat s i = 0 := congrFun ((hB.rel z).mp h0) ⟨i, hi⟩
    rw [Fintype.sum_eq_single s0 (fun s hne => ?_)] at hsum
    · have hpv := hB.piv i hi (hci ▸ Nat.succ_ne_zero _) i hi
      rw [hci, Nat.add_sub_cancel, if_pos rfl] at hpv
      rwa [hpv, mul_neg_one, neg_eq_zero] at hsum
    · by_cases hs' : s.val + 1 ∈ st.c
      · obtain ⟨i', hi', hci'⟩ := mem_c_getD hA.clen _ hs'
        have hpv := hB.piv i' hi' (hci' ▸ Nat.succ_ne_zero _) i hi
        rw [hci', Nat.add_sub_cancel, if_neg ?_] at hpv
        · rw [hpv, mul_zero]
        · rintro rfl
          exact hne (Fin.ext (Nat.succ_injective (hci'.symm.trans hci)))
      · rw [hz s hs', zero_mul]
  · exact hz s0 hs

theorem final_span {p n m : Nat} {M : IMat} {st : ImgSt} (hA : InvA n m n st) (hB : InvB p n m n M st)
    (s0 : Fin n) : ∃ z : Fin n → ZMod p, (∀ s : Fin n, (s.val + 1) ∉ st.c → z s = 0) ∧
      z ᵥ* cmM p n m M = cmM p n m M s0 := by
  have hlt : ∀ i' : Fin m, st.c.getD i' 0 - 1 < n := fun i' =>
    (Nat.eq_zero_or_pos (st.c.getD i' 0)).elim (fun h => by rw [h]; exact s0.pos)
      fun h => Nat.sub_one_lt_of_le h (hA.cle _ (getD_mem _ i' (hA.clen.symm ▸ i'.2)))
  -- entry `i'` of row `s0` of the final matrix, put at its place, is a multiple of the row recorded for
  -- column `i'` (which is `-e_i'`), and `0` when nothing is recorded
  have hrow : ∀ i' : Fin m, (-cmM p n m st.mat s0 i') • cmM p n m st.mat ⟨_, hlt i'⟩
      = Pi.single i' (cmM p n m st.mat s0 i') := by
    intro i'
    by_cases hc : st.c.getD i' 0 = 0
    · rw [show cmM p n m st.mat s0 i' = 0 from hB.zero s0 s0.2 i' i'.2 hc, neg_zero, zero_smul, Pi.single_zero]
    · funext i
      rw [Pi.smul_apply, show cmM p n m st.mat ⟨_, hlt i'⟩ i = _ from hB.piv i' i'.2 hc i i.2, smul_eq_mul,
        Pi.single_apply]
      by_cases h : i = i'
      · rw [if_pos h, if_pos (congrArg Fin.val h), neg_mul_neg, mul_one]
      · rw [if_neg h, if_neg (fun e => h (Fin.ext e)), mul_zero]
  let z : Fin n → ZMod p := ∑ i' : Fin m, Pi.single ⟨_, hlt i'⟩ (-cmM p n m st.mat s0 i')
  have hz : z ᵥ* cmM p n m st.mat = cmM p n m st.mat s0 := by
    rw [sum_vecMul, Finset.sum_congr rfl fun i' _ => (single_vecMul ..).trans (hrow i'), Finset.univ_sum_single]
  refine ⟨z, fun s hs => (Finset.sum_apply _ _ _).trans (Finset.sum_eq_zero fun i' _ => ?_), ?_⟩
  · by_cases hc : st.c.getD i' 0 = 0
    · rw [show cmM p n m st.mat s0 i' = 0 from hB.zero s0 s0.2 i' i'.2 hc, neg_zero, Pi.single_zero]
      rfl
    · refine Pi.single_eq_of_ne (fun e => hs ?_) _
      rw [congrArg Fin.val e, Nat.sub_add_cancel (Nat.pos_of_ne_zero hc)]
      exact getD_mem _ i' (hA.clen.symm ▸ i'.2)
  · -- `rel` carries the relation `e_s0 - z` from the final matrix to `M`
    have h := (hB.rel (Pi.single s0 1 - z)).mpr (by rw [sub_vecMul, single_one_vecMul, hz]; exact sub_self _)
    rwa [sub_vecMul, single_one_vecMul, sub_eq_zero, eq_comm] at h

theorem imageModP_eq {p : Int} {M : IMat} {n m : Nat} (hM : Rect n m M) (hn : 0 < n) (st : ImgSt)
    (hfold : (List.range n).foldlM (imageStep n m p) { mat := M, c := List.replicate m 0, r := 0 } = .ok st)
    (hcount : (st.c.filter (· != 0)).length = n - st.r) :
    imageModP M p = .ok ((st.c.filter (· != 0)).map (fun ci => M.getD (ci - 1) [])) := by
  obtain ⟨r0, t, rfl⟩ := List.exists_cons_of_length_pos (hM.1 ▸ hn)
  have hrect := isRect_of_rect hM
  have hlen := hM.1
  subst hlen
  have hr0 := hM.2 r0 List.mem_cons_self
  subst hr0
  unfold imageModP
  simp only [hrect, Bool.not_true, Bool.false_eq_true, if_false]
  rw [hfold]
  simp only
  rw [if_neg (not_not.mpr hcount)]

theorem mem_map_pred_filter (c : List Nat) (s : Nat) : s ∈ (c.filter (· != 0)).map (· - 1) ↔ s + 1 ∈ c := by
  rw [List.mem_map]
  constructor
  · rintro ⟨x, hx, rfl⟩
    obtain ⟨hx1, hx2⟩ := List.mem_filter.mp hx
    rwa [Nat.sub_add_cancel (Nat.pos_of_ne_zero (bne_iff_ne.mp hx2))]
  · exact fun hs => ⟨s + 1, List.mem_filter.mpr ⟨hs, rfl⟩, rfl⟩

def rowSel (idx : List Nat) (n : Nat) (hlt : ∀ i ∈ idx, i < n) (t : Fin idx.length) : Fin n :=
  ⟨idx.get t, hlt _ (List.get_mem idx t)⟩

theorem rowSel_injective {idx : List Nat} {n : Nat} (hlt : ∀ i ∈ idx, i < n) (hnd : idx.Nodup) :
    Function.Injective (rowSel idx n hlt) :=
  fun _ _ h => List.nodup_iff_injective_get.mp hnd (congrArg Fin.val h)

theorem mem_range_rowSel {idx : List Nat} {n : Nat} (hlt : ∀ i ∈ idx, i < n) (s : Fin n) :
    s ∈ Set.range (rowSel idx n hlt) ↔ s.val ∈ idx :=
  ⟨fun ⟨t, ht⟩ => ht ▸ List.get_mem idx t, fun hin =>
    let ⟨t, ht⟩ := List.mem_iff_get.mp hin
    ⟨t, Fin.ext ht⟩⟩

theorem sub_vecMul {F : Type} [CommRing F] {n m : Nat} (A : Matrix (Fin n) (Fin m) F) {idx : List Nat}
    (hlt : ∀ i ∈ idx, i < n) (hnd : idx.Nodup) (z : Fin n → F) (hz : ∀ s : Fin n, s.val ∉ idx → z s = 0) :
    (fun t => z (rowSel idx n hlt t)) ᵥ* A.submatrix (rowSel idx n hlt) id = z ᵥ* A := by
  ext i
  simp only [vecMul, dotProduct, submatrix_apply, id]
  apply Finset.sum_of_injOn _ (rowSel_injective hlt hnd).injOn (fun _ _ => Finset.mem_coe.mpr (Finset.mem_univ _))
  · intro s _ hs
    rw [hz s fun hin => let ⟨t, ht⟩ := (mem_range_rowSel hlt s).mpr hin
      hs ⟨t, Finset.mem_coe.mpr (Finset.mem_univ _), ht⟩, zero_mul]
  · intro _ _; rfl

theorem sub_indep {F : Type} [CommRing F] {n m : Nat} (A : Matrix (Fin n) (Fin m) F) {idx : List Nat}
    (hlt : ∀ i ∈ idx, i < n) (hnd : idx.Nodup)
    (h : ∀ z : Fin n → F, (∀ s : Fin n, s.val ∉ idx → z s = 0) → z ᵥ* A = 0 → z = 0)
    (y : Fin idx.length → F) (hy : y ᵥ* A.submatrix (rowSel idx n hlt) id = 0) : y = 0 := by
  -- `y` extended by `0` to all rows
  have he := rowSel_injective hlt hnd
  have hze : (fun t => Function.extend (rowSel idx n hlt) y (0 : Fin n → F) (rowSel idx n hlt t)) = y :=
    funext fun t => he.extend_apply y _ t
  have hz : ∀ s : Fin n, s.val ∉ idx → Function.extend (rowSel idx n hlt) y (0 : Fin n → F) s = 0 := fun s hs =>
    Function.extend_apply' y _ s fun hin => hs ((mem_range_rowSel hlt s).mp hin)
  have h3 := h _ hz ((sub_vecMul A hlt hnd _ hz).symm.trans (hze.symm ▸ hy))
  rw [← hze, h3]
  rfl

theorem toM_map_getD (M : IMat) (idx : List Nat) {n m : Nat} (hlt : ∀ i ∈ idx, i < n) :
    toM idx.length m (idx.map (fun i => M.getD i [])) = (toM n m M).submatrix (rowSel idx n hlt) id := by
  ext t i
  have h : (idx.map (fun i => M.getD i [])).getD t [] = M.getD (idx.get t) [] := by
    rw [List.getD_eq_getElem?_getD, List.getElem?_map, List.getElem?_eq_getElem t.2]
    rfl
  exact congrArg (·.getD i 0) h

theorem imageModP_spec (p : Nat) (hp : p.Prime) (M : IMat) (n m : Nat) (hM : Rect n m M) (hn : 0 < n) :
    ∃ idx : List Nat, (∀ i ∈ idx, i < n) ∧ idx.Nodup ∧
      imageModP M p = .ok (idx.map (fun i => M.getD i [])) ∧
      ((∀ row ∈ M, ∀ x ∈ row, (p : Int) ∣ x → x = 0) →
        (∀ y : Fin idx.length → ZMod p,
          y ᵥ* (toM idx.length m (idx.map (fun i => M.getD i []))).map (Int.cast : ℤ → ZMod p) = 0 → y = 0) ∧
        (∀ s : Fin n, ∃ x : Fin idx.length → ZMod p,
          x ᵥ* (toM idx.length m (idx.map (fun i => M.getD i []))).map (Int.cast : ℤ → ZMod p)
            = (toM n m M).map (Int.cast : ℤ → ZMod p) s)) := by
  obtain ⟨st, hfold, hA, hB⟩ := image_fold hp (∀ row ∈ M, ∀ x ∈ row, (p : Int) ∣ x → x = 0)
    { mat := M, c := List.replicate m 0, r := 0 } (InvA.init hM) (fun h => InvB.init hM h) n le_rfl
  have hmem := mem_map_pred_filter st.c
  have hlt : ∀ i ∈ (st.c.filter (· != 0)).map (· - 1), i < n := fun i hi => hA.cle _ ((hmem i).mp hi)
  have hpos : ∀ x ∈ st.c.filter (· != 0), 0 < x := fun x hx =>
    Nat.pos_of_ne_zero (bne_iff_ne.mp (List.mem_filter.mp hx).2)
  have hnd : ((st.c.filter (· != 0)).map (· - 1)).Nodup :=
    hA.nodup.map_on fun x hx y hy hxy => Nat.pred_inj (hpos x hx) (hpos y hy) hxy
  refine ⟨_, hlt, hnd, ?_, fun hred => ?_⟩
  · rw [imageModP_eq hM hn st hfold (Nat.eq_sub_of_add_eq hA.count), List.map_map]
    rfl
  · rw [toM_map_getD M _ hlt, ← Matrix.submatrix_map]
    refine ⟨sub_indep _ hlt hnd fun z hz h0 =>
      final_indep hA (hB hred) z (fun s hs => hz s (mt (hmem s).mp hs)) h0, fun s0 => ?_⟩
    obtain ⟨z, hz, hzs⟩ := final_span hA (hB hred) s0
    exact ⟨_, (sub_vecMul _ hlt hnd z fun s hs => hz s (mt (hmem s).mpr hs)).trans hzs⟩

end NTV.LinAlg
