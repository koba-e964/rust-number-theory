import NTV.Proofs.Lemmas.LinAlgImgStep
/-! The linear-algebra invariant of `image_mod_p` over `ZMod p` (`InvB`): the working matrix has the
same linear relations among its rows as the input, processed rows vanish outside the pivot columns,
and the row recorded for a pivot column `i` is `-e_i`. -/
open Matrix
namespace NTV.LinAlg
open NTV.RowOps (toM Rect)

def cm (p : Nat) (a : IMat) (s i : Nat) : ZMod p := ((entZ a s i : Int) : ZMod p)

/-- `(toM n m a).map Int.cast`, entry by entry -/
def cmM (p n m : Nat) (a : IMat) : Matrix (Fin n) (Fin m) (ZMod p) := fun s i => cm p a s i

structure InvB (p n m k : Nat) (M : IMat) (st : ImgSt) : Prop where
  rel : ∀ y : Fin n → ZMod p, y ᵥ* cmM p n m M = 0 ↔ y ᵥ* cmM p n m st.mat = 0
  zero : ∀ s < k, ∀ i < m, st.c.getD i 0 = 0 → cm p st.mat s i = 0
  piv : ∀ i < m, st.c.getD i 0 ≠ 0 → ∀ i' < m,
      cm p st.mat (st.c.getD i 0 - 1) i' = if i' = i then -1 else 0
  red : ∀ s, k ≤ s → s < n → ∀ i < m, (p : Int) ∣ entZ st.mat s i → entZ st.mat s i = 0

theorem entZ_mem {n m : Nat} {M : IMat} (hM : Rect n m M) (s i : Nat) (hs : s < n) (hi : i < m) :
    ∃ row ∈ M, entZ M s i ∈ row := by
  have hs' : s < M.length := hM.1 ▸ hs
  have hl : i < (M[s]).length := (hM.2 _ (List.getElem_mem hs')).symm ▸ hi
  exact ⟨M[s], List.getElem_mem hs', NTV.RowOps.ent_getElem M s i hs' hl ▸ List.getElem_mem hl⟩

theorem InvB.init {p n m : Nat} {M : IMat} (hM : Rect n m M)
    (hred : ∀ row ∈ M, ∀ x ∈ row, (p : Int) ∣ x → x = 0) :
    InvB p n m 0 M { mat := M, c := List.replicate m 0, r := 0 } where
  rel := fun _ => Iff.rfl
  zero := fun s hs => absurd hs (Nat.not_lt_zero s)
  piv := fun i hi hc => absurd ((List.getElem_eq_getD (h := List.length_replicate.symm ▸ hi) 0).symm.trans
    (List.getElem_replicate _)) hc
  red := by
    intro s _ hs i hi hd
    obtain ⟨row, h1, h2⟩ := entZ_mem hM s i hs hi
    exact hred row h1 _ h2 hd

theorem InvB.skip {p n m k : Nat} {M : IMat} {st : ImgSt} (h : InvB p n m k M st) (hk : k < n)
    (hf : findFrom 0 m (fun j => (st.mat.getD k []).getD j 0 != 0 && st.c.getD j 0 == 0) = none) :
    InvB p n m (k + 1) M { st with r := st.r + 1 } where
  rel := h.rel
  zero := by
    intro s hs i hi hc
    rcases Nat.lt_succ_iff_lt_or_eq.mp hs with hsk | rfl
    · exact h.zero s hsk i hi hc
    · have := findFrom_none hf i (Nat.zero_le _) hi
      rw [hc, beq_self_eq_true, Bool.and_true, bne_eq_false_iff_eq] at this
      rw [cm, entZ, NTV.RowOps.ent, this, Int.cast_zero]
  piv := h.piv
  red := fun s hs => h.red s (Nat.le_of_succ_le hs)

section entries
variable {n m : Nat} {mat : IMat} (hr : Rect n m mat) {p k j : Nat} {dd : Int} {s i : Nat}
include hr

theorem cm_imgMat_lt (hs : s < n) (h : s < k) : cm p (imgMat p k j dd mat) s i = cm p mat s i := by
  rw [cm, entZ, imgMat, NTV.RowOps.ent_mapIdx hr _ s i hs, if_pos h]
  rfl

theorem cm_imgMat_eq (hk : k < n) (hi : i < m) :
    cm p (imgMat p k j dd mat) k i = if i = j then -1 else 0 := by
  rw [cm, entZ, imgMat, NTV.RowOps.ent_mapIdx hr _ k i hk, if_neg (lt_irrefl k), if_pos rfl,
    NTV.RowOps.getD_mapIdx_of_lt _ _ _ ((hr.row_length k hk).symm ▸ hi) 0, apply_ite Int.cast, Int.cast_sub,
    Int.cast_natCast, ZMod.natCast_self, zero_sub, Int.cast_one, Int.cast_zero]

theorem cm_imgMat_gt (hs : s < n) (hi : i < m) (h : k < s) :
    cm p (imgMat p k j dd mat) s i = if i = j then cm p mat s j * (dd : ZMod p)
      else cm p mat s j * (dd : ZMod p) * cm p mat k i + cm p mat s i := by
  rw [cm, ent_imgMat_gt hr hs hi h, cast_tmod, apply_ite Int.cast, Int.cast_add, Int.cast_mul,
    Int.cast_mul, cast_tmod, Int.cast_mul]
  rfl

/-- the pivot step is a pair of column operations on the whole matrix modulo `p`: column `j` is
multiplied by `d`, then every other column `i` gains `mat[k][i]` times the new column `j` -/
theorem cm_imgMat_cols (hk : k < n) (hj : j < m)
    (hz : ∀ s < k, cm p mat s j = 0) (hd : (dd : ZMod p) * cm p mat k j = -1) (s : Fin n) :
    cmM p n m (imgMat p k j dd mat) s ⟨j, hj⟩ = (dd : ZMod p) * cmM p n m mat s ⟨j, hj⟩ ∧
    ∀ i : Fin m, i ≠ ⟨j, hj⟩ → cmM p n m (imgMat p k j dd mat) s i =
      cmM p n m mat s i + cmM p n m mat ⟨k, hk⟩ i * cmM p n m (imgMat p k j dd mat) s ⟨j, hj⟩ := by
  obtain ⟨s, hs⟩ := s
  unfold cmM
  rcases Nat.lt_trichotomy s k with h | rfl | h
  · refine ⟨?_, fun i _ => ?_⟩
    · rw [cm_imgMat_lt hr (i := j) hs h, hz s h, mul_zero]
    · rw [cm_imgMat_lt hr (i := i) hs h, cm_imgMat_lt hr (i := j) hs h, hz s h, mul_zero, add_zero]
  · refine ⟨?_, fun i hij => ?_⟩
    · rw [cm_imgMat_eq hr hs hj, if_pos rfl, hd]
    · rw [cm_imgMat_eq hr hs i.2, cm_imgMat_eq hr hs hj, if_neg fun e => hij (Fin.ext e), if_pos rfl,
        mul_neg_one, add_neg_cancel]
  · refine ⟨?_, fun i hij => ?_⟩
    · rw [cm_imgMat_gt hr hs hj h, if_pos rfl, mul_comm]
    · rw [cm_imgMat_gt hr hs i.2 h, cm_imgMat_gt hr hs hj h, if_neg fun e => hij (Fin.ext e), if_pos rfl,
        add_comm, mul_comm]

end entries

theorem vecMul_cols {F : Type} [CommRing F] {n m : Nat} (D C : Matrix (Fin n) (Fin m) F) (j : Fin m) (d : F)
    (r : Fin m → F) (h : ∀ s, C s j = d * D s j ∧ ∀ i, i ≠ j → C s i = D s i + r i * D s j)
    (y : Fin n → F) (h0 : y ᵥ* D = 0) : y ᵥ* C = 0 := by
  funext i
  have hj0 : ∑ s, y s * D s j = 0 := congrFun h0 j
  show ∑ s, y s * C s i = 0
  by_cases hij : i = j
  · rw [Finset.sum_congr rfl fun s _ => by rw [hij, (h s).1, mul_left_comm], ← Finset.mul_sum, hj0, mul_zero]
  · rw [Finset.sum_congr rfl fun s _ => by rw [(h s).2 i hij, mul_add, mul_left_comm],
      Finset.sum_add_distrib, ← Finset.mul_sum, hj0, mul_zero, add_zero]
    exact congrFun h0 i

/-- a column operation as in `cm_imgMat_cols` with `d` a unit: its inverse has the same shape, so
`vecMul_cols` gives both directions -/
theorem vecMul_colop {F : Type} [CommRing F] {n m : Nat} (A B : Matrix (Fin n) (Fin m) F) (j : Fin m) {d a : F}
    (hd : d * a = -1) (r : Fin m → F)
    (hcol : ∀ s, B s j = d * A s j ∧ ∀ i, i ≠ j → B s i = A s i + r i * B s j) (y : Fin n → F) :
    y ᵥ* A = 0 ↔ y ᵥ* B = 0 :=
  ⟨vecMul_cols A B j d (fun i => r i * d) (fun s => ⟨(hcol s).1, fun i hij => by
      rw [(hcol s).2 i hij, (hcol s).1, mul_assoc]⟩) y,
    vecMul_cols B A j (-a) (fun i => -r i) (fun s => ⟨by
      rw [(hcol s).1, ← mul_assoc, neg_mul, mul_comm a, hd, neg_neg, one_mul], fun i hij => by
      rw [(hcol s).2 i hij, neg_mul, add_neg_cancel_right]⟩) y⟩

theorem getD_mem (c : List Nat) (i : Nat) (hi : i < c.length) : c.getD i 0 ∈ c :=
  List.getElem_eq_getD (h := hi) 0 ▸ List.getElem_mem hi

theorem InvB.pivot {p n m k : Nat} (hp : 0 < p) {M : IMat} {st : ImgSt} (hA : InvA n m k st)
    (h : InvB p n m k M st) (hk : k < n) {j : Nat} (hj : j < m) (hc : st.c.getD j 0 = 0) {dd : Int}
    (hd : (dd : ZMod p) * cm p st.mat k j = -1) :
    InvB p n m (k + 1) M { mat := imgMat p k j dd st.mat, c := st.c.set j (k + 1), r := st.r } := by
  have hr := hA.rect
  have hjc : j < st.c.length := hA.clen.symm ▸ hj
  refine ⟨fun y => (h.rel y).trans ?_, fun s hs i hi hci => ?_, fun i hi hci i' hi' => ?_,
    fun s hs hsn i hi hdvd => ?_⟩
  · exact vecMul_colop _ _ ⟨j, hj⟩ hd _
      (cm_imgMat_cols hr hk hj (fun s hs => h.zero s hs j hj hc) hd) y
  · dsimp only at hci
    have hij : j ≠ i := by
      rintro rfl
      rw [NTV.RowOps.getD_set, if_pos ⟨rfl, hjc⟩] at hci
      exact Nat.succ_ne_zero k hci
    rw [NTV.RowOps.getD_set, if_neg fun h => hij h.1.symm] at hci
    rcases Nat.lt_succ_iff_lt_or_eq.mp hs with hsk | rfl
    · exact (cm_imgMat_lt hr (hsk.trans hk) hsk).trans (h.zero s hsk i hi hci)
    · exact (cm_imgMat_eq hr hk hi).trans (if_neg hij.symm)
  · dsimp only at hci ⊢
    by_cases hij : j = i
    · subst hij
      rw [NTV.RowOps.getD_set, if_pos ⟨rfl, hjc⟩, Nat.add_sub_cancel, cm_imgMat_eq hr hk hi']
    · rw [NTV.RowOps.getD_set, if_neg fun h => hij h.1.symm] at hci ⊢
      have hle : st.c.getD i 0 ≤ k := hA.cle _ (getD_mem _ i (hA.clen.symm ▸ hi))
      have hlt : st.c.getD i 0 - 1 < k := Nat.sub_one_lt_of_le (Nat.pos_of_ne_zero hci) hle
      rw [cm_imgMat_lt hr (hlt.trans hk) hlt]
      exact h.piv i hi hci i' hi'
  · dsimp only at hdvd ⊢
    rw [ent_imgMat_gt hr hsn hi hs] at hdvd ⊢
    exact tmod_reduced p hp _ hdvd

end NTV.LinAlg
