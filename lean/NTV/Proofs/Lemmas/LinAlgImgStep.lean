import NTV.Proofs.Lemmas.LinAlgProofs
import NTV.Proofs.Lemmas.LinAlgImgArith
/-! One iteration of the model of `subspace::image_mod_p` (Cohen 2.3.2): the entries of the new
working matrix, and the bookkeeping invariant (`InvA`: shapes, the pivot list, the count that the
final assertion compares). -/
namespace NTV.LinAlg
open NTV.RowOps (toM Rect getD_mapIdx_of_lt)

abbrev entZ (a : IMat) (i j : Nat) : Int := NTV.RowOps.ent a i j

/-- the working matrix after a pivot step at row `k`, column `j`, multiplier `dd` -/
def imgMat (p : Int) (k j : Nat) (dd : Int) (mat : IMat) : IMat :=
  mat.mapIdx (fun s row =>
    if s < k then row
    else if s = k then row.mapIdx (fun i _ => if i = j then p - 1 else 0)
    else
      let sj := Int.tmod (row.getD j 0 * dd) p
      row.mapIdx (fun i x => if i = j then sj else Int.tmod (sj * (mat.getD k []).getD i 0 + x) p))

theorem Rect_imgMat {n m : Nat} {mat : IMat} (hr : Rect n m mat) (p : Int) (k j : Nat) (dd : Int) :
    Rect n m (imgMat p k j dd mat) := by
  refine hr.mapIdx _ fun s row hrow => Eq.trans ?_ hrow
  -- every branch has the length of `row` (`split_ifs` is slow to check on this term)
  rw [apply_ite List.length, apply_ite List.length, List.length_mapIdx, List.length_mapIdx, ite_self, ite_self]

/-- below the pivot row every new entry is a truncated remainder -/
theorem ent_imgMat_gt {n m : Nat} {mat : IMat} (hr : Rect n m mat) {p : Int} {k j : Nat} {dd : Int} {s i : Nat}
    (hs : s < n) (hi : i < m) (h : k < s) :
    entZ (imgMat p k j dd mat) s i = Int.tmod (if i = j then entZ mat s j * dd
      else Int.tmod (entZ mat s j * dd) p * entZ mat k i + entZ mat s i) p := by
  rw [entZ, imgMat, NTV.RowOps.ent_mapIdx hr _ s i hs, if_neg (Nat.lt_asymm h), if_neg (Nat.ne_of_gt h),
    getD_mapIdx_of_lt _ _ _ ((hr.row_length s hs).symm ▸ hi) 0]
  split_ifs <;> rfl

theorem imageStep_none {n m : Nat} {p : Int} {st : ImgSt} {k : Nat}
    (h : findFrom 0 m (fun j => (st.mat.getD k []).getD j 0 != 0 && st.c.getD j 0 == 0) = none) :
    imageStep n m p st k = .ok { st with r := st.r + 1 } := by
  unfold imageStep
  simp only [h]

theorem imageStep_some {n m : Nat} {p : Int} {st : ImgSt} {k j : Nat} (hp : p ≠ 0)
    (h : findFrom 0 m (fun j => (st.mat.getD k []).getD j 0 != 0 && st.c.getD j 0 == 0) = some j) :
    imageStep n m p st k = .ok { mat := imgMat p k j (p - modinv ((st.mat.getD k []).getD j 0) p) st.mat,
                                  c := st.c.set j (k + 1), r := st.r } := by
  unfold imageStep
  simp only [h]
  rw [if_neg (fun hc => hp hc.1)]
  rfl

structure InvA (n m k : Nat) (st : ImgSt) : Prop where
  rect : Rect n m st.mat
  clen : st.c.length = m
  cle : ∀ x ∈ st.c, x ≤ k
  nodup : (st.c.filter (· != 0)).Nodup
  count : (st.c.filter (· != 0)).length + st.r = k

theorem InvA.init {n m : Nat} {M : IMat} (hM : Rect n m M) :
    InvA n m 0 { mat := M, c := List.replicate m 0, r := 0 } := by
  have h0 : (List.replicate m 0).filter (· != 0) = [] := by rw [List.filter_replicate]; rfl
  exact ⟨hM, List.length_replicate, fun x hx => (List.eq_of_mem_replicate hx).le, h0 ▸ List.nodup_nil,
    congrArg List.length h0⟩

theorem InvA.skip {n m k : Nat} {st : ImgSt} (h : InvA n m k st) :
    InvA n m (k + 1) { st with r := st.r + 1 } where
  rect := h.rect
  clen := h.clen
  cle := fun x hx => Nat.le_succ_of_le (h.cle x hx)
  nodup := h.nodup
  count := congrArg (· + 1) h.count

theorem filter_set_zero (c : List Nat) (j v : Nat) (hj : j < c.length) (hc : c.getD j 0 = 0) (hv : v ≠ 0) :
    ((c.set j v).filter (· != 0)).Perm (v :: c.filter (· != 0)) := by
  have h0 : c[j] = 0 := by
    rwa [List.getD_eq_getElem?_getD, List.getElem?_eq_getElem hj] at hc
  conv_rhs => rw [← List.take_append_drop j c, List.drop_eq_getElem_cons hj, h0]
  rw [List.set_eq_take_append_cons_drop, if_pos hj, List.filter_append, List.filter_append,
    List.filter_cons_of_pos (p := (· != 0)) (bne_iff_ne.mpr hv), List.filter_cons_of_neg (p := (· != 0)) (by decide)]
  exact List.perm_middle

theorem InvA.pivot {n m k : Nat} {st : ImgSt} (h : InvA n m k st) (p : Int) (j : Nat) (dd : Int)
    (hj : j < m) (hc : st.c.getD j 0 = 0) :
    InvA n m (k + 1) { mat := imgMat p k j dd st.mat, c := st.c.set j (k + 1), r := st.r } := by
  have hperm := filter_set_zero st.c j (k + 1) (h.clen.symm ▸ hj) hc (Nat.succ_ne_zero k)
  refine ⟨Rect_imgMat h.rect _ _ _ _, (List.length_set ..).trans h.clen, fun x hx => ?_, ?_, ?_⟩
  · rcases List.mem_or_eq_of_mem_set hx with hx | hx
    · exact Nat.le_succ_of_le (h.cle x hx)
    · exact hx.le
  · -- `k + 1` is new: the entries so far are `≤ k`
    exact hperm.nodup_iff.mpr (List.nodup_cons.mpr
      ⟨fun hin => Nat.not_succ_le_self k (h.cle _ (List.mem_filter.mp hin).1), h.nodup⟩)
  · exact (congrArg (· + st.r) hperm.length_eq).trans ((Nat.add_right_comm ..).trans (congrArg (· + 1) h.count))

end NTV.LinAlg
