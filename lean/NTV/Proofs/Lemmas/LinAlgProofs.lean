import NTV.Model.LinAlg
import NTV.Proofs.Lemmas.RowOpsProofs
import NTV.Proofs.Lemmas.DetLemmas
import Mathlib.LinearAlgebra.Matrix.ToLinearEquiv
/-! The square routines of `NTV.LinAlg`: `matrix::inv`, `determinant`, `mul_inv_from_right_exact`,
`solve_linear_system`. Each outer loop carries an invariant structure (`GJ`, `DI`, `SI`); the inner
elimination loops all go through `foldl_establish`. Relations between rows under column operations
(`RelG`, for `n × m` matrices) are kept here for `solve_linear_system` and for `iim` (LinAlgIim). -/
open Matrix
namespace NTV.LinAlg
open NTV.RowOps (toM Rect swapRows scaleRow subMulRow)

/-! The entry lemmas of `NTV.RowOps` restated for the abbreviation `ent`, so that `rw` finds them. -/

theorem ent_swapRows' (a : QMat) (i j r c : Nat) (hi : i < a.length) (hj : j < a.length) :
    ent (swapRows a i j) r c = if r = j then ent a i c else if r = i then ent a j c else ent a r c :=
  NTV.RowOps.ent_swapRows a i j r c hi hj

theorem ent_swapRows_left' (a : QMat) (i j c : Nat) (hi : i < a.length) (hj : j < a.length) :
    ent (swapRows a i j) i c = ent a j c :=
  NTV.RowOps.ent_swapRows_left a i j c hi hj

theorem ent_subMulRow' {n m : Nat} {a : QMat} (hr : Rect n m a) (j k : Nat) (hj : j < n) (hk : k < n)
    (q : ℚ) (r c : Nat) :
    ent (subMulRow a j k q) r c = if r = j then ent a j c - ent a k c * q else ent a r c :=
  NTV.RowOps.ent_subMulRow hr j k hj hk q r c

theorem ent_scaleRow (a : QMat) (k r c : Nat) (hk : k < a.length) (x : ℚ) :
    ent (scaleRow a k x) r c = if r = k then ent a k c * x else ent a r c :=
  NTV.RowOps.ent_map_row a k r c hk (fun y => y * x) (zero_mul x)

theorem ent_idMat (n i j : Nat) (hi : i < n) (hj : j < n) : ent (idMat n) i j = if i = j then 1 else 0 := by
  unfold ent NTV.RowOps.ent idMat
  simp [List.getD_eq_getElem?_getD, hi, hj]

theorem Rect_idMat (n : Nat) : Rect n n (idMat n) :=
  .of_map _ List.length_range fun _ _ => (List.length_map _).trans List.length_range

theorem toM_idMat (n : Nat) : toM n n (idMat n) = (1 : Matrix (Fin n) (Fin n) ℚ) := by
  ext i j
  refine (ent_idMat n i j i.2 j.2).trans ?_
  rw [Matrix.one_apply]
  simp only [Fin.ext_iff]

theorem mem_range'_sub {lo hi j : Nat} : j ∈ List.range' lo (hi - lo) ↔ lo ≤ j ∧ j < hi := by
  rw [List.mem_range'_1]
  rcases Nat.le_total lo hi with h | h
  · rw [Nat.add_sub_cancel' h]
  · rw [Nat.sub_eq_zero_of_le h, Nat.add_zero]
    exact ⟨fun ⟨h1, h2⟩ => absurd h2 (Nat.not_lt.mpr h1),
      fun ⟨h1, h2⟩ => absurd (Nat.lt_of_lt_of_le h2 h) (Nat.not_lt.mpr h1)⟩

theorem findFrom_some {lo hi : Nat} {p : Nat → Bool} {j : Nat} (h : findFrom lo hi p = some j) :
    lo ≤ j ∧ j < hi ∧ p j = true :=
  have hm := mem_range'_sub.mp (List.mem_of_find?_eq_some h)
  ⟨hm.1, hm.2, List.find?_some h⟩

theorem findFrom_none {lo hi : Nat} {p : Nat → Bool} (h : findFrom lo hi p = none) (j : Nat)
    (h1 : lo ≤ j) (h2 : j < hi) : p j = false := by
  have := List.find?_eq_none.mp h j (mem_range'_sub.mpr ⟨h1, h2⟩)
  simpa using this

/-- the shape of every inner elimination loop below -/
theorem foldl_establish {σ : Type} (step : σ → Nat → σ) (Inv : σ → Prop) (Z : σ → Nat → Prop) (l : List Nat)
    (hstep : ∀ s, ∀ x ∈ l, Inv s → Inv (step s x) ∧ Z (step s x) x ∧ ∀ j, Z s j → Z (step s x) j)
    (s : σ) (h : Inv s) :
    Inv (l.foldl step s) ∧ (∀ j, Z s j → Z (l.foldl step s) j) ∧ ∀ j ∈ l, Z (l.foldl step s) j := by
  induction l generalizing s with
  | nil => exact ⟨h, fun _ hj => hj, fun _ hj => nomatch hj⟩
  | cons x xs ih =>
    obtain ⟨h1, h2, h3⟩ := hstep s x List.mem_cons_self h
    obtain ⟨g1, g2, g3⟩ := ih (fun s y hy => hstep s y (List.mem_cons_of_mem _ hy)) (step s x) h1
    refine ⟨g1, fun j hj => g2 j (h3 j hj), fun j hj => ?_⟩
    rcases List.mem_cons.mp hj with rfl | hj
    · exact g2 j h2
    · exact g3 j hj

/-- the pivot scan of `inv` and `determinant` fails only on a singular matrix -/
theorem det_zero_of_findFrom_none {n : Nat} {a : QMat} {i : Nat} (hi : i < n)
    (hlow : ∀ r c, r < n → c < i → c < r → ent a r c = 0)
    (hf : findFrom i n (fun j => ent a j i != 0) = none) : (toM n n a).det = 0 := by
  apply NTV.Det.det_zero_of_no_pivot (toM n n a) ⟨i, hi⟩
  · exact fun r c hc hrc => hlow r c r.2 hc hrc
  · intro r hr
    show ent a r i = 0
    exact bne_eq_false_iff_eq.mp (findFrom_none hf r hr r.2)

/-- state before iteration `i` of `inv`: `b * A0 = a`, `b` is invertible and the first `i`
columns of `a` are those of the identity -/
structure GJ (n : Nat) (A0 : Matrix (Fin n) (Fin n) ℚ) (i : Nat) (a b : QMat) : Prop where
  ra : Rect n n a
  rb : Rect n n b
  prod : toM n n b * A0 = toM n n a
  detb : (toM n n b).det ≠ 0
  unit : ∀ r c, r < n → c < i → ent a r c = if r = c then 1 else 0

variable {n : Nat} {A0 : Matrix (Fin n) (Fin n) ℚ}

theorem GJ.init (A : QMat) (hr : Rect n n A) : GJ n (toM n n A) 0 A (idMat n) where
  ra := hr
  rb := Rect_idMat n
  prod := by rw [toM_idMat, one_mul]
  detb := by rw [toM_idMat, det_one]; exact one_ne_zero
  unit := fun _ _ _ hc => absurd hc (Nat.not_lt_zero _)

theorem GJ.zero {i : Nat} {a b : QMat} (h : GJ n A0 i a b) {r c : Nat} (hir : i ≤ r) (hr : r < n) (hc : c < i) :
    ent a r c = 0 := by
  rw [h.unit r c hr hc, if_neg (Nat.ne_of_gt (Nat.lt_of_lt_of_le hc hir))]

theorem GJ.swap {i : Nat} {a b : QMat} (h : GJ n A0 i a b) (idx : Nat) (hi : i < n) (h1 : i ≤ idx) (h2 : idx < n) :
    GJ n A0 i (swapRows a i idx) (swapRows b i idx) where
  ra := h.ra.swapRows i idx hi h2
  rb := h.rb.swapRows i idx hi h2
  prod := NTV.RowOps.mul_swapRows n n A0 a b h.ra h.rb h.prod ⟨i, hi⟩ ⟨idx, h2⟩
  detb := by
    rw [NTV.RowOps.det_swapRows_or_same n b h.rb i idx hi h2]
    refine mul_ne_zero ?_ h.detb
    split
    · exact one_ne_zero
    · exact neg_ne_zero.mpr one_ne_zero
  unit := by
    intro r c hr hc
    rw [ent_swapRows' a i idx r c (h.ra.1.symm ▸ hi) (h.ra.1.symm ▸ h2)]
    -- the two rows lie below the unit block, where column `c < i` vanishes: nothing changes
    rw [← h.unit r c hr hc]
    by_cases e1 : r = idx
    · rw [if_pos e1, h.zero le_rfl hi hc, h.zero (e1 ▸ h1) hr hc]
    · rw [if_neg e1]
      by_cases e2 : r = i
      · rw [if_pos e2, h.zero h1 h2 hc, h.zero (e2 ▸ le_rfl) hr hc]
      · rw [if_neg e2]

theorem GJ.scale {i : Nat} {a b : QMat} (h : GJ n A0 i a b) (hi : i < n) (x : ℚ) (hx : x ≠ 0) :
    GJ n A0 i (scaleRow a i x) (scaleRow b i x) where
  ra := h.ra.scaleRow i x
  rb := h.rb.scaleRow i x
  prod := NTV.RowOps.mul_scaleRow n n A0 a b h.ra h.rb h.prod ⟨i, hi⟩ x
  detb := by
    rw [NTV.RowOps.det_scaleRow n b h.rb ⟨i, hi⟩ x]
    exact mul_ne_zero hx h.detb
  unit := by
    intro r c hr hc
    rw [ent_scaleRow a i r c (h.ra.1.symm ▸ hi) x]
    rw [← h.unit r c hr hc]
    by_cases e : r = i
    · rw [if_pos e, h.zero le_rfl hi hc, zero_mul, h.zero (e ▸ le_rfl) hr hc]
    · rw [if_neg e]

theorem GJ.elim {i : Nat} {a b : QMat} (h : GJ n A0 i a b) (hi : i < n) (j : Nat) (hj : j < n) (hji : j ≠ i) :
    GJ n A0 i (subMulRow a j i (ent a j i)) (subMulRow b j i (ent a j i)) where
  ra := h.ra.subMulRow j i hi _
  rb := h.rb.subMulRow j i hi _
  prod := NTV.RowOps.mul_subMulRow n n A0 a b h.ra h.rb h.prod ⟨j, hj⟩ ⟨i, hi⟩ _
  detb := by
    rw [NTV.RowOps.det_subMulRow n b h.rb ⟨j, hj⟩ ⟨i, hi⟩ (fun q => hji (congrArg Fin.val q))]
    exact h.detb
  unit := by
    intro r c hr hc
    rw [ent_subMulRow' h.ra j i hj hi]
    rw [← h.unit r c hr hc]
    by_cases e : r = j
    · rw [if_pos e, h.zero le_rfl hi hc, zero_mul, sub_zero, e]
    · rw [if_neg e]

theorem GJ.eliminate {i : Nat} {a b : QMat} (h : GJ n A0 i a b) (hi : i < n) (hp : ent a i i = 1) :
    GJ n A0 (i + 1) (invEliminate n i a b).1 (invEliminate n i a b).2 := by
  -- the pivot stays `1`; row `j ≠ i` gets a `0` in column `i`, which later steps keep
  have key := foldl_establish
    (fun (st : QMat × QMat) j =>
      if i = j then st else (subMulRow st.1 j i (ent st.1 j i), subMulRow st.2 j i (ent st.1 j i)))
    (fun st => GJ n A0 i st.1 st.2 ∧ ent st.1 i i = 1) (fun st j => j ≠ i → ent st.1 j i = 0)
    (List.range n) (fun st j hj ⟨k1, k2⟩ => by
      have hj := List.mem_range.mp hj
      by_cases e : i = j
      · rw [if_pos e]
        exact ⟨⟨k1, k2⟩, fun q => absurd e.symm q, fun _ hr => hr⟩
      · rw [if_neg e]
        have hent := ent_subMulRow' k1.ra j i hj hi (ent st.1 j i)
        refine ⟨⟨k1.elim hi j hj (Ne.symm e), ?_⟩, fun _ => ?_, fun r hr hri => ?_⟩
        · rw [hent, if_neg e, k2]
        · rw [hent, if_pos rfl, k2, one_mul, sub_self]
        · rw [hent]
          split
          · rw [k2, one_mul, sub_self]
          · exact hr hri) (a, b) ⟨h, hp⟩
  obtain ⟨⟨g1, g2⟩, -, g3⟩ := key
  refine ⟨g1.ra, g1.rb, g1.prod, g1.detb, fun r c hr hc => ?_⟩
  rcases Nat.lt_succ_iff_lt_or_eq.mp hc with hc | rfl
  · exact g1.unit r c hr hc
  · split
    · next e => rw [e]; exact g2
    · next e => exact g3 r (List.mem_range.mpr hr) e

theorem GJ.step {i : Nat} {a b a' b' : QMat} (h : GJ n A0 i a b) (hi : i < n)
    (hs : invStep n i a b = some (a', b')) : GJ n A0 (i + 1) a' b' := by
  unfold invStep at hs
  split at hs
  · cases hs
  · rename_i idx hf
    obtain ⟨f1, f2, f3⟩ := findFrom_some hf
    have hx : ent (swapRows a i idx) i i ≠ 0 := by
      rw [ent_swapRows_left' a i idx i (h.ra.1.symm ▸ hi) (h.ra.1.symm ▸ f2)]
      exact bne_iff_ne.mp f3
    have hsw := h.swap idx hi f1 f2
    have hel := (hsw.scale hi _ (inv_ne_zero hx)).eliminate hi (by
      rw [ent_scaleRow _ i i i (hsw.ra.1.symm ▸ hi), if_pos rfl]
      exact mul_inv_cancel₀ hx)
    rw [Option.some.inj hs] at hel
    exact hel

theorem GJ.final {a b : QMat} (h : GJ n A0 n a b) : toM n n b * A0 = 1 := by
  rw [h.prod]
  ext r c
  refine (h.unit r c r.2 c.2).trans ?_
  rw [Matrix.one_apply]
  simp only [Fin.ext_iff]

/-- no pivot in column `i`: the current matrix, hence `A0`, is singular -/
theorem GJ.singular {i : Nat} {a b : QMat} (h : GJ n A0 i a b) (hi : i < n)
    (hs : invStep n i a b = none) : A0.det = 0 := by
  unfold invStep at hs
  split at hs
  · rename_i hf
    have hdet : (toM n n a).det = 0 :=
      det_zero_of_findFrom_none hi (fun r c hr hc hcr => by rw [h.unit r c hr hc, if_neg (Nat.ne_of_gt hcr)]) hf
    have := congrArg Matrix.det h.prod
    rw [det_mul, hdet] at this
    exact (mul_eq_zero.mp this).resolve_left h.detb
  · cases hs

theorem invLoop_spec (steps i : Nat) (a b : QMat) (hn : i + steps = n) (h : GJ n A0 i a b) :
    match invLoop n steps i a b with
    | some B => ∃ a', GJ n A0 n a' B
    | none => A0.det = 0 := by
  induction steps generalizing i a b with
  | zero => exact ⟨a, (Nat.add_zero i ▸ hn) ▸ h⟩
  | succ k ih =>
    have hi : i < n := hn ▸ Nat.lt_add_of_pos_right (Nat.succ_pos k)
    unfold invLoop
    cases hst : invStep n i a b with
    | none => exact h.singular hi hst
    | some st => exact ih (i + 1) st.1 st.2 ((Nat.succ_add_eq_add_succ i k).trans hn) (h.step hi hst)

theorem invSquare_spec (A : QMat) (n : Nat) (hr : Rect n n A) :
    match invSquare A with
    | some B => ∃ a', GJ n (toM n n A) n a' B
    | none => (toM n n A).det = 0 := by
  unfold invSquare
  rw [hr.1]
  exact invLoop_spec n 0 A (idMat n) (Nat.zero_add n) (GJ.init A hr)

/-! ### shapes: on an honest square matrix the index analysis is vacuous -/

theorem width_of_rect {α : Type} {A : List (List α)} {n : Nat} (hr : Rect n n A) : width A = n := by
  cases A with
  | nil => exact hr.1
  | cons r t => exact hr.2 r List.mem_cons_self

theorem isRect_of_rect {α : Type} {A : List (List α)} {n m : Nat} (hr : Rect n m A) : isRect A = true := by
  cases A with
  | nil => rfl
  | cons r0 t =>
    exact List.all_eq_true.mpr fun r hrm =>
      beq_iff_eq.mpr ((hr.2 r hrm).trans (hr.2 r0 List.mem_cons_self).symm)

theorem shapeOf_square {A : QMat} {n : Nat} (hr : Rect n n A) : shapeOf A = .square A := by
  have hmap : A.map (fun r => r.take n) = A := by
    conv_rhs => rw [← List.map_id A]
    exact List.map_congr_left fun r hrm => List.take_of_length_le (hr.2 r hrm).le
  unfold shapeOf
  simp only [isRect_of_rect hr, width_of_rect hr, hr.1, hmap, Bool.not_true, Bool.false_eq_true, if_false,
    le_refl, if_true]

/-- `matrix::inv` on a square matrix: an answer comes from a final state of the loop; the only error is
`MatrixNotInvertible`, for a singular matrix -/
theorem inv_spec (A : QMat) (n : Nat) (hr : Rect n n A) :
    match inv A with
    | .ok B => ∃ a', GJ n (toM n n A) n a' B
    | .error e => e = errNotInvertible ∧ (toM n n A).det = 0 := by
  have hspec := invSquare_spec A n hr
  unfold inv
  rw [shapeOf_square hr]
  simp only
  cases hs : invSquare A with
  | none =>
    rw [hs] at hspec
    exact ⟨rfl, hspec⟩
  | some b =>
    rw [hs] at hspec
    exact hspec

/-- `matrix::inv` on a square matrix: `Ok(B)` ⇒ `B * A = 1` -/
theorem inv_ok (A B : QMat) (n : Nat) (hr : Rect n n A) (h : inv A = .ok B) :
    toM n n B * toM n n A = 1 := by
  have hspec := inv_spec A n hr
  rw [h] at hspec
  exact hspec.elim fun _ g => g.final

theorem inv_rect (A B : QMat) (n : Nat) (hr : Rect n n A) (h : inv A = .ok B) : Rect n n B := by
  have hspec := inv_spec A n hr
  rw [h] at hspec
  exact hspec.elim fun _ g => g.rb

/-- `matrix::inv` on a square matrix: the only other answer is `Err(MatrixNotInvertible)`, and
it means `det A = 0` -/
theorem inv_err (A : QMat) (n : Nat) (hr : Rect n n A) (e : String) (h : inv A = .error e) :
    e = errNotInvertible ∧ (toM n n A).det = 0 := by
  have hspec := inv_spec A n hr
  rw [h] at hspec
  exact hspec

/-- state before iteration `i` of `determinant`: the first `i` columns are zero below the diagonal;
`result` is the accumulated sign times the pivots found so far -/
structure DI (n : Nat) (A0 : Matrix (Fin n) (Fin n) ℚ) (i : Nat) (a : QMat) (result : ℚ) : Prop where
  ra : Rect n n a
  lower : ∀ r c, r < n → c < i → c < r → ent a r c = 0
  sgn : ∃ s : ℚ, A0.det = s * (toM n n a).det ∧ result = s * ∏ c ∈ Finset.range i, ent a c c

/-- `DI` is the generic `NTV.RowOps.Tri` at `ℚ` -/
theorem DI.toTri {i : Nat} {a : QMat} {result : ℚ} (h : DI n A0 i a result) : NTV.RowOps.Tri n A0 i a result :=
  ⟨h.ra, h.lower, h.sgn⟩

theorem DI.ofTri {i : Nat} {a : QMat} {result : ℚ} (h : NTV.RowOps.Tri n A0 i a result) : DI n A0 i a result :=
  ⟨h.ra, h.low, h.sgn⟩

theorem detEliminate_spec {i : Nat} {a : QMat} (hra : Rect n n a)
    (hlow : ∀ r c, r < n → c < i → c < r → ent a r c = 0) (hi : i < n) (hp : ent a i i ≠ 0) :
    Rect n n (detEliminate a i n) ∧ (toM n n (detEliminate a i n)).det = (toM n n a).det ∧
    (∀ r c, r < n → c < i + 1 → c < r → ent (detEliminate a i n) r c = 0) ∧
    ∀ r, r ≤ i → ∀ c, ent (detEliminate a i n) r c = ent a r c := by
  obtain ⟨⟨g1, g2, g3, g4⟩, -, g5⟩ := foldl_establish
    (fun s j => subMulRow s j i (ent s j i / ent s i i))
    (fun s => Rect n n s ∧ (toM n n s).det = (toM n n a).det ∧
      (∀ r c, r < n → c < i → c < r → ent s r c = 0) ∧ ∀ r, r ≤ i → ∀ c, ent s r c = ent a r c)
    (fun s j => ent s j i = 0) (List.range' (i + 1) (n - (i + 1)))
    (fun s x hx ⟨k1, k2, k3, k4⟩ => by
      have hx := mem_range'_sub.mp hx
      have hxn : x < n := hx.2
      have hent := ent_subMulRow' k1 x i hxn hi (ent s x i / ent s i i)
      refine ⟨⟨k1.subMulRow x i hi _, ?_, fun r c hr hc hcr => ?_, fun r hr c => ?_⟩, ?_, fun j hj => ?_⟩
      · rw [NTV.RowOps.det_subMulRow n s k1 ⟨x, hxn⟩ ⟨i, hi⟩ (fun q => Nat.ne_of_gt hx.1 (congrArg Fin.val q))]
        exact k2
      · rw [hent]
        split
        · rw [k3 x c hxn hc (Nat.lt_trans hc hx.1), k3 i c hi hc hc, zero_mul, sub_zero]
        · exact k3 r c hr hc hcr
      · rw [hent, if_neg (Nat.ne_of_lt (Nat.lt_of_le_of_lt hr hx.1))]
        exact k4 r hr c
      · rw [hent, if_pos rfl, mul_div_cancel₀ _ (k4 i le_rfl i ▸ hp), sub_self]
      · rw [hent]
        split
        · rw [mul_div_cancel₀ _ (k4 i le_rfl i ▸ hp), sub_self]
        · exact hj)
    a ⟨hra, rfl, hlow, fun _ _ _ => rfl⟩
  refine ⟨g1, g2, fun r c hr hc hcr => ?_, g4⟩
  rcases Nat.lt_succ_iff_lt_or_eq.mp hc with hc | rfl
  · exact g3 r c hr hc hcr
  · exact g5 r (mem_range'_sub.mpr ⟨hcr, hr⟩)

theorem DI.step {i : Nat} {a : QMat} {result : ℚ} (h : DI n A0 i a result) (hi : i < n) (idx : Nat)
    (hf : findFrom i n (fun j => ent a j i != 0) = some idx) :
    DI n A0 (i + 1) (detEliminate (swapRows a i idx) i n)
      ((if i != idx then -result else result) * ent (detEliminate (swapRows a i idx) i n) i i) := by
  obtain ⟨f1, f2, f3⟩ := findFrom_some hf
  have hia : i < a.length := h.ra.1.symm ▸ hi
  have hja : idx < a.length := h.ra.1.symm ▸ f2
  -- rows `i` and `idx` both lie below the triangle, so the swap keeps it
  have hlow1 : ∀ r c, r < n → c < i → c < r → ent (swapRows a i idx) r c = 0 := by
    intro r c hr hc hcr
    rw [ent_swapRows' a i idx r c hia hja]
    split
    · exact h.lower i c hi hc hc
    · split
      · exact h.lower idx c f2 hc (Nat.lt_of_lt_of_le hc f1)
      · exact h.lower r c hr hc hcr
  have hp1 : ent (swapRows a i idx) i i ≠ 0 := by
    rw [ent_swapRows_left' a i idx i hia hja]
    exact bne_iff_ne.mp f3
  obtain ⟨g1, g2, g3, g4⟩ := detEliminate_spec (h.ra.swapRows i idx hi f2) hlow1 hi hp1
  have hres : (if i != idx then -result else result) = (if i = idx then 1 else -1) * result := by
    by_cases e : i = idx
    · rw [if_pos e, one_mul, e, bne_self_eq_false]
      rfl
    · rw [if_neg e, neg_one_mul, if_pos (bne_iff_ne.mpr e)]
  rw [hres]
  exact .ofTri (h.toTri.advance g1 (NTV.RowOps.swapSign_mul_self i idx)
    (g2.trans (NTV.RowOps.det_swapRows_or_same n a h.ra i idx hi f2)) g3 fun c hc => (g4 c hc.le c).trans (by
      rw [ent_swapRows' a i idx c c hia hja, if_neg (Nat.ne_of_lt (Nat.lt_of_lt_of_le hc f1)),
        if_neg (Nat.ne_of_lt hc)]))

theorem DI.singular {i : Nat} {a : QMat} {result : ℚ} (h : DI n A0 i a result) (hi : i < n)
    (hf : findFrom i n (fun j => ent a j i != 0) = none) : A0.det = 0 :=
  h.toTri.singular hi fun r h1 h2 => bne_eq_false_iff_eq.mp (findFrom_none hf r h1 h2)

theorem detLoop_eq (steps i : Nat) (a : QMat) (result : ℚ) (hn : i + steps = n)
    (h : DI n A0 i a result) : detLoop n steps i a result = A0.det := by
  induction steps generalizing i a result with
  | zero => exact ((Nat.add_zero i ▸ hn) ▸ h : DI n A0 n a result).toTri.final
  | succ k ih =>
    have hi : i < n := hn ▸ Nat.lt_add_of_pos_right (Nat.succ_pos k)
    unfold detLoop
    split
    · rename_i hf
      exact (h.singular hi hf).symm
    · rename_i idx hf
      exact ih (i + 1) _ _ ((Nat.succ_add_eq_add_succ i k).trans hn) (h.step hi idx hf)

/-- **`determinant` is the determinant** (for every square rational matrix) -/
theorem determinant_eq (A : QMat) (n : Nat) (hr : Rect n n A) :
    determinant A = .ok (toM n n A).det := by
  unfold determinant
  rw [shapeOf_square hr]
  simp only
  rw [hr.1, detLoop_eq n 0 A 1 (Nat.zero_add n) (.ofTri (NTV.RowOps.Tri.init hr))]

abbrev toMZ (n : Nat) (a : IMat) : Matrix (Fin n) (Fin n) ℤ := toM n n a

theorem toRatPrefix_eq {B : IMat} {n : Nat} (hr : Rect n n B) :
    toRatPrefix n B = B.map (fun r => r.map (fun (x : Int) => (x : ℚ))) := by
  unfold toRatPrefix
  rw [List.take_of_length_le hr.1.le]
  exact List.map_congr_left fun r hrm => by rw [List.take_of_length_le (hr.2 r hrm).le]

theorem foldl_sum_range (f : Nat → ℚ) (n : Nat) :
    (List.range n).foldl (fun s k => s + f k) 0 = ∑ k ∈ Finset.range n, f k := by
  induction n with
  | zero => rfl
  | succ m ih => rw [List.range_succ, List.foldl_append, ih, Finset.sum_range_succ]; rfl

theorem ent_quotSums {A : IMat} {n : Nat} (hr : Rect n n A) (invb : QMat) (i j : Nat) (hi : i < n) (hj : j < n) :
    ent (quotSums n invb A) i j = ∑ k ∈ Finset.range n, ent invb k j * ((NTV.RowOps.ent A i k : ℤ) : ℚ) := by
  have hi' : i < A.length := hr.1.symm ▸ hi
  unfold quotSums ent NTV.RowOps.ent
  simp only [List.getD_eq_getElem?_getD, List.getElem?_map, List.getElem?_eq_getElem hi', List.getElem?_range hj,
    Option.map_some, Option.getD_some, foldl_sum_range]

theorem rect_quotSums {A : IMat} {n : Nat} (hr : Rect n n A) (invb : QMat) : Rect n n (quotSums n invb A) :=
  .of_map _ hr.1 fun _ _ => (List.length_map _).trans List.length_range

theorem toM_quotSums {A : IMat} {n : Nat} (hr : Rect n n A) (invb : QMat) :
    toM n n (quotSums n invb A) = (toMZ n A).map (fun x => (x : ℚ)) * toM n n invb := by
  ext i j
  refine (ent_quotSums hr invb i j i.2 j.2).trans ?_
  rw [Matrix.mul_apply,
    ← Fin.sum_univ_eq_sum_range (fun k => ent invb k j * ((NTV.RowOps.ent A i k : ℤ) : ℚ)) n]
  exact Finset.sum_congr rfl fun k _ => mul_comm _ _

theorem allIntegral_iff {q : QMat} {n : Nat} (hr : Rect n n q) :
    allIntegral q = true ↔ ∀ i j, i < n → j < n → (ent q i j).den = 1 := by
  unfold allIntegral
  simp only [List.all_eq_true, beq_iff_eq]
  constructor
  · intro h i j hi hj
    have hi' : i < q.length := hr.1.symm ▸ hi
    have hj' : j < (q[i]).length := (hr.2 _ (List.getElem_mem hi')).symm ▸ hj
    rw [show ent q i j = q[i][j] from NTV.RowOps.ent_getElem q i j hi' hj']
    exact h _ (List.getElem_mem hi') _ (List.getElem_mem hj')
  · intro h r hrm x hx
    obtain ⟨i, hi, rfl⟩ := List.mem_iff_getElem.mp hrm
    obtain ⟨j, hj, rfl⟩ := List.mem_iff_getElem.mp hx
    rw [← show ent q i j = q[i][j] from NTV.RowOps.ent_getElem q i j hi hj]
    exact h i j (hr.1 ▸ hi) (hr.2 _ (List.getElem_mem hi) ▸ hj)

theorem ent_toInts (q : QMat) (i j : Nat) : NTV.RowOps.ent (toInts q) i j = (ent q i j).num :=
  NTV.RowOps.ent_map_map _ Rat.num_zero q i j

/-- the model's inverse of the rational copy of `B`, in terms of the integer matrix -/
theorem invSquare_toRatPrefix {B : IMat} {n : Nat} (hB : Rect n n B) :
    match invSquare (toRatPrefix n B) with
    | some invb => toM n n invb * (toMZ n B).map (fun x => (x : ℚ)) = 1
    | none => (toMZ n B).det = 0 := by
  have := invSquare_spec _ n (hB.map_map fun (x : Int) => (x : ℚ))
  rw [NTV.RowOps.toM_map_map (fun (x : Int) => (x : ℚ)) Int.cast_zero n n B, ← toRatPrefix_eq hB] at this
  cases hinv : invSquare (toRatPrefix n B) with
  | none =>
    rw [hinv] at this
    exact Int.cast_injective (α := ℚ) ((Int.cast_det _).trans (this.trans Int.cast_zero.symm))
  | some invb =>
    rw [hinv] at this
    exact this.elim fun _ g => g.final

theorem mulInv_unfold {A B : IMat} {n : Nat} (hn : 0 < n) (hA : Rect n n A) (hB : Rect n n B) :
    mulInvFromRightExact A B = match invSquare (toRatPrefix n B) with
      | none => .error errNotInvertible
      | some invb =>
        if allIntegral (quotSums n invb A) then .ok (toInts (quotSums n invb A)) else .error panicAssert := by
  unfold mulInvFromRightExact
  simp only [isRect_of_rect hA, isRect_of_rect hB, hA.1, hB.1, width_of_rect hA, width_of_rect hB,
    Bool.and_self, Bool.not_true, Bool.false_eq_true, if_false, Nat.ne_of_gt hn, lt_irrefl, decide_false,
    Bool.or_self]
  rfl

theorem toInts_cast {q : QMat} {n : Nat} (hr : Rect n n q) (hall : allIntegral q = true) :
    (toMZ n (toInts q)).map (fun x => (x : ℚ)) = toM n n q := by
  ext i j
  show ((NTV.RowOps.ent (toInts q) i j : ℤ) : ℚ) = ent q i j
  rw [ent_toInts]
  exact Rat.coe_int_num_of_den_eq_one ((allIntegral_iff hr).mp hall i j i.2 j.2)

/-- **exact right division**: an `Ok(C)` answer satisfies `C * B = A`; `Err(MatrixNotInvertible)`
means `det B = 0`; the assertion fails only when no integer matrix `C` with `C * B = A` exists. -/
theorem mulInv_spec (A B : IMat) (n : Nat) (hn : 0 < n) (hA : Rect n n A) (hB : Rect n n B) :
    (∀ C, mulInvFromRightExact A B = .ok C → toMZ n C * toMZ n B = toMZ n A) ∧
    (∀ e, mulInvFromRightExact A B = .error e →
      (e = errNotInvertible ∧ (toMZ n B).det = 0) ∨
      (e = panicAssert ∧ ¬ ∃ C : Matrix (Fin n) (Fin n) ℤ, C * toMZ n B = toMZ n A)) := by
  have hmapmul : ∀ X Y : Matrix (Fin n) (Fin n) ℤ,
      (X * Y).map (fun x => (x : ℚ)) = X.map (fun x => (x : ℚ)) * Y.map (fun x => (x : ℚ)) :=
    fun X Y => Matrix.map_mul (f := Int.castRingHom ℚ)
  rw [mulInv_unfold hn hA hB]
  have hB1 := invSquare_toRatPrefix hB
  cases hinv : invSquare (toRatPrefix n B) with
  | none =>
    rw [hinv] at hB1
    exact ⟨fun C h => (nomatch h), fun e h => Or.inl ⟨(Except.error.inj h).symm, hB1⟩⟩
  | some invb =>
    rw [hinv] at hB1
    have hq : toM n n (quotSums n invb A) * (toMZ n B).map (fun x => (x : ℚ)) = (toMZ n A).map (fun x => (x : ℚ)) := by
      rw [toM_quotSums hA, Matrix.mul_assoc, hB1, Matrix.mul_one]
    have hrs := rect_quotSums hA invb
    simp only
    split
    · rename_i hall
      refine ⟨fun C h => ?_, fun e h => (nomatch h)⟩
      rw [← Except.ok.inj h]
      apply Matrix.map_injective (Int.cast_injective (α := ℚ))
      beta_reduce
      rw [hmapmul, toInts_cast hrs hall, hq]
    · rename_i hall
      refine ⟨fun C h => (nomatch h), fun e h => Or.inr ⟨(Except.error.inj h).symm, ?_⟩⟩
      rintro ⟨C, hC⟩
      -- `Q = A_ℚ * B_ℚ⁻¹ = C_ℚ * B_ℚ * B_ℚ⁻¹ = C_ℚ` is integral (a left inverse of a square matrix is a right inverse)
      have hB2 : (toMZ n B).map (fun x => (x : ℚ)) * toM n n invb = 1 :=
        (mul_eq_one_comm_of_card_eq (Fin n) (Fin n) ℚ rfl).mp hB1
      have hCQ : toM n n (quotSums n invb A) = C.map (fun x => (x : ℚ)) := by
        rw [toM_quotSums hA, ← hC, hmapmul, Matrix.mul_assoc, hB2, Matrix.mul_one]
      refine hall ((allIntegral_iff hrs).mpr fun i j hi hj => ?_)
      rw [show ent (quotSums n invb A) i j = ((C ⟨i, hi⟩ ⟨j, hj⟩ : ℤ) : ℚ) from
        congrFun (congrFun hCQ ⟨i, hi⟩) ⟨j, hj⟩]
      exact Rat.den_intCast _

/-- the entries of a row-wise image, for a row inside the matrix; `ent_map` below asks `f [] = []` instead -/
theorem ent_map_lt (a : QMat) (f : QRow → QRow) (r c : Nat) (h : r < a.length) :
    ent (a.map f) r c = (f (a.getD r [])).getD c 0 :=
  congrArg (·.getD c 0) (NTV.RowOps.getD_map_of_lt f a r h [] [])

theorem ent_map (a : QMat) (f : QRow → QRow) (hf : f [] = []) (r c : Nat) :
    ent (a.map f) r c = (f (a.getD r [])).getD c 0 := by
  have := NTV.RowOps.getD_map_default f a r []
  rw [hf] at this
  exact congrArg (·.getD c 0) this

theorem getD_swapList (r : QRow) (i j c : Nat) (hi : i < r.length) (hj : j < r.length) :
    (swapList r i j).getD c 0 = if c = j then r.getD i 0 else if c = i then r.getD j 0 else r.getD c 0 := by
  unfold swapList
  simp only [List.getElem?_eq_getElem hi, List.getElem?_eq_getElem hj]
  rw [NTV.RowOps.getD_set, NTV.RowOps.getD_set, List.length_set, List.getElem_eq_getD (0 : ℚ),
    List.getElem_eq_getD (0 : ℚ)]
  by_cases h1 : c = j
  · rw [if_pos ⟨h1, hj⟩, if_pos h1]
  · rw [if_neg (fun e => h1 e.1), if_neg h1]
    by_cases h2 : c = i
    · rw [if_pos ⟨h2, hi⟩, if_pos h2]
    · rw [if_neg (fun e => h2 e.1), if_neg h2]

theorem length_swapList (r : QRow) (i j : Nat) : (swapList r i j).length = r.length := by
  unfold swapList
  split
  · rw [List.length_set, List.length_set]
  · rfl

theorem _root_.NTV.RowOps.Rect.map {n m : Nat} {a : QMat} (hr : Rect n m a) (f : QRow → QRow)
    (hf : ∀ r, r.length = m → (f r).length = m) : Rect n m (a.map f) :=
  .of_map f hr.1 fun r h => hf r (hr.2 r h)

theorem _root_.NTV.RowOps.Rect.swapCols {n m : Nat} {a : QMat} (hr : Rect n m a) (i j : Nat) : Rect n m (swapCols a i j) :=
  Rect.map hr _ (fun r h => (length_swapList r i j).trans h)
theorem _root_.NTV.RowOps.Rect.divCol {n m : Nat} {a : QMat} (hr : Rect n m a) (c : Nat) (x : ℚ) : Rect n m (divCol a c x) :=
  Rect.map hr _ (fun _ h => (List.length_modify ..).trans h)
theorem _root_.NTV.RowOps.Rect.subMulCol {n m : Nat} {a : QMat} (hr : Rect n m a) (i c : Nat) (x : ℚ) :
    Rect n m (subMulCol a i c x) :=
  Rect.map hr _ (fun _ h => (List.length_modify ..).trans h)

theorem ent_swapCols {n m : Nat} {a : QMat} (hr : Rect n m a) (i j : Nat) (hi : i < m) (hj : j < m)
    (r c : Nat) (h : r < n) :
    ent (swapCols a i j) r c = if c = j then ent a r i else if c = i then ent a r j else ent a r c := by
  unfold swapCols
  rw [ent_map _ _ (by simp [swapList])]
  have hl := hr.row_length r h
  exact getD_swapList _ i j c (hl.symm ▸ hi) (hl.symm ▸ hj)

theorem ent_divCol {n m : Nat} {a : QMat} (hr : Rect n m a) (col : Nat) (hcol : col < m) (arc : ℚ)
    (r c : Nat) (h : r < n) :
    ent (divCol a col arc) r c = if c = col then ent a r c / arc else ent a r c := by
  unfold divCol
  rw [ent_map _ _ (by simp), NTV.RowOps.getD_modify]
  by_cases e : c = col
  · rw [if_pos ⟨e, (hr.row_length r h).symm ▸ hcol⟩, if_pos e, e]
    rfl
  · rw [if_neg (fun q => e q.1), if_neg e]
    rfl

theorem ent_subMulCol {n m : Nat} {a : QMat} (hr : Rect n m a) (i col : Nat) (hi : i < m) (coef : ℚ)
    (r c : Nat) (h : r < n) :
    ent (subMulCol a i col coef) r c = if c = i then ent a r i - coef * ent a r col else ent a r c := by
  unfold subMulCol
  rw [ent_map _ _ (by simp), NTV.RowOps.getD_modify]
  by_cases e : c = i
  · rw [if_pos ⟨e, (hr.row_length r h).symm ▸ hi⟩, if_pos e]
    rfl
  · rw [if_neg (fun q => e q.1), if_neg e]
    rfl

theorem ent_oob_row {n m : Nat} {a : QMat} (hr : Rect n m a) (r c : Nat) (h : n ≤ r) : ent a r c = 0 := by
  have : a.getD r [] = [] := by
    rw [List.getD_eq_getElem?_getD, List.getElem?_eq_none (by rw [hr.1]; exact h)]
    rfl
  exact congrArg (·.getD c 0) this

theorem ent_swapCols_perm {k m : Nat} {A : QMat} (hA : Rect k m A) (p q : Nat) (hp : p < m) (hq : q < m)
    (l c : Nat) : ent (swapCols A p q) l c = ent A l (Equiv.swap q p c) := by
  by_cases hl : l < k
  · rw [ent_swapCols hA p q hp hq l c hl, Equiv.swap_apply_def, apply_ite (ent A l), apply_ite (ent A l)]
  · rw [ent_oob_row (Rect.swapCols hA p q) l c (Nat.le_of_not_lt hl), ent_oob_row hA l _ (Nat.le_of_not_lt hl)]

theorem swap_cases {P : Nat → Prop} (a b c : Nat) (ha : P a) (hb : P b) (hc : P c) : P (Equiv.swap a b c) := by
  rw [Equiv.swap_apply_def]
  split_ifs <;> assumption

/-- `Σ_l x_l · (row l of M) = t · (row i of B)` on the first `m` columns. Column operations applied to `M` and
`B` alike keep such relations: `reindex`, `subCol`, `scaleCol`. -/
def RelG (n m : Nat) (M B : QMat) (i : Nat) (x : Nat → ℚ) (t : ℚ) : Prop :=
  ∀ c, c < m → ∑ l ∈ Finset.range n, x l * ent M l c = t * ent B i c

theorem RelG.reindex {n m i : Nat} {M B M' B' : QMat} {x : Nat → ℚ} {t : ℚ} (h : RelG n m M B i x t)
    (σ : Nat → Nat) (hσ : ∀ c, c < m → σ c < m) (hM : ∀ l c, l < n → c < m → ent M' l c = ent M l (σ c))
    (hB : ∀ c, c < m → ent B' i c = ent B i (σ c)) : RelG n m M' B' i x t := by
  intro c hc
  rw [hB c hc, ← h _ (hσ c hc)]
  exact Finset.sum_congr rfl fun l hl => by rw [hM l c (Finset.mem_range.mp hl) hc]

theorem RelG.subCol {n m i : Nat} {M B M' B' : QMat} {x : Nat → ℚ} {t : ℚ} (h : RelG n m M B i x t)
    (j : Nat) (hj : j < m) (f : Nat → ℚ)
    (hM : ∀ l c, l < n → c < m → ent M' l c = ent M l c - f c * ent M l j)
    (hB : ∀ c, c < m → ent B' i c = ent B i c - f c * ent B i j) : RelG n m M' B' i x t := by
  intro c hc
  rw [hB c hc, mul_sub, mul_left_comm, ← h c hc, ← h j hj, Finset.mul_sum, ← Finset.sum_sub_distrib]
  exact Finset.sum_congr rfl fun l hl => by rw [hM l c (Finset.mem_range.mp hl) hc]; ring

theorem RelG.scaleCol {n m i : Nat} {M B M' B' : QMat} {x : Nat → ℚ} {t : ℚ} (h : RelG n m M B i x t)
    (f : Nat → ℚ) (hM : ∀ l c, l < n → c < m → ent M' l c = f c * ent M l c)
    (hB : ∀ c, c < m → ent B' i c = f c * ent B i c) : RelG n m M' B' i x t := by
  intro c hc
  rw [hB c hc, mul_left_comm, ← h c hc, Finset.mul_sum]
  exact Finset.sum_congr rfl fun l hl => by rw [hM l c (Finset.mem_range.mp hl) hc, mul_left_comm]

/-- `Σ_k x_k · (row k) = t · (row n)` on the first `n` columns; this is `RelG n n ab ab n x t` -/
def Rel (n : Nat) (ab : QMat) (x : Nat → ℚ) (t : ℚ) : Prop :=
  ∀ c, c < n → ∑ k ∈ Finset.range n, x k * ent ab k c = t * ent ab n c

theorem rel_swapCols {n : Nat} {ab : QMat} (hr : Rect (n + 1) n ab) (i j : Nat) (hi : i < n) (hj : j < n)
    (x : Nat → ℚ) (t : ℚ) : Rel n (swapCols ab i j) x t ↔ Rel n ab x t := by
  have e := ent_swapCols_perm hr i j hi hj
  have hσ : ∀ c, c < n → Equiv.swap j i c < n := fun c hc => swap_cases (P := (· < n)) j i c hj hi hc
  -- the swap is an involution, so the old matrix is the swapped new one
  exact ⟨fun h => RelG.reindex (M := swapCols ab i j) (B := swapCols ab i j) h _ hσ
      (fun l c _ _ => by rw [e, Equiv.swap_apply_self]) (fun c _ => by rw [e, Equiv.swap_apply_self]),
    fun h => RelG.reindex (M := ab) (B := ab) h _ hσ (fun l c _ _ => e l c) (fun c _ => e n c)⟩

theorem rel_divCol {n : Nat} {ab : QMat} (hr : Rect (n + 1) n ab) (col : Nat) (hcol : col < n) (arc : ℚ)
    (harc : arc ≠ 0) (x : Nat → ℚ) (t : ℚ) : Rel n (divCol ab col arc) x t ↔ Rel n ab x t := by
  have e := ent_divCol hr col hcol arc
  have e1 : ∀ r c, r < n + 1 → ent ab r c = (if c = col then arc else 1) * ent (divCol ab col arc) r c := by
    intro r c hr'
    rw [e r c hr']
    split
    · exact (mul_div_cancel₀ _ harc).symm
    · exact (one_mul _).symm
  have e2 : ∀ r c, r < n + 1 → ent (divCol ab col arc) r c = (if c = col then arc⁻¹ else 1) * ent ab r c := by
    intro r c hr'
    rw [e r c hr']
    split
    · exact div_eq_inv_mul _ _
    · exact (one_mul _).symm
  exact ⟨fun h => RelG.scaleCol (M := divCol ab col arc) (B := divCol ab col arc) h _
      (fun l c hl _ => e1 l c (Nat.lt_succ_of_lt hl)) (fun c _ => e1 n c (Nat.lt_succ_self n)),
    fun h => RelG.scaleCol (M := ab) (B := ab) h _
      (fun l c hl _ => e2 l c (Nat.lt_succ_of_lt hl)) (fun c _ => e2 n c (Nat.lt_succ_self n))⟩

theorem rel_subMulCol {n : Nat} {ab : QMat} (hr : Rect (n + 1) n ab) (i col : Nat) (hi : i < n)
    (hcol : col < n) (hne : i ≠ col) (coef : ℚ) (x : Nat → ℚ) (t : ℚ) :
    Rel n (subMulCol ab i col coef) x t ↔ Rel n ab x t := by
  have key := ent_subMulCol hr i col hi coef
  -- column `col ≠ i` is untouched, so adding it back undoes the operation
  have e1 : ∀ r c, r < n + 1 → ent ab r c
      = ent (subMulCol ab i col coef) r c - (if c = i then -coef else 0) * ent (subMulCol ab i col coef) r col := by
    intro r c hr'
    rw [key r c hr', key r col hr', if_neg (Ne.symm hne)]
    split
    · next q => rw [q]; ring
    · ring
  have e2 : ∀ r c, r < n + 1 → ent (subMulCol ab i col coef) r c
      = ent ab r c - (if c = i then coef else 0) * ent ab r col := by
    intro r c hr'
    rw [key r c hr']
    split
    · next q => rw [q]
    · ring
  exact ⟨fun h => RelG.subCol (M := subMulCol ab i col coef) (B := subMulCol ab i col coef) h col hcol _
      (fun l c hl _ => e1 l c (Nat.lt_succ_of_lt hl)) (fun c _ => e1 n c (Nat.lt_succ_self n)),
    fun h => RelG.subCol (M := ab) (B := ab) h col hcol _
      (fun l c hl _ => e2 l c (Nat.lt_succ_of_lt hl)) (fun c _ => e2 n c (Nat.lt_succ_self n))⟩

/-- state before iteration `row` of `solve_linear_system` (augmented matrix `ab`, `n + 1` rows):
rows `< row` are unit vectors; every linear relation between the rows pulls back to the input -/
structure SI (n : Nat) (ab0 : QMat) (row : Nat) (ab : QMat) : Prop where
  rect : Rect (n + 1) n ab
  unit : ∀ r c, r < row → c < n → ent ab r c = if r = c then 1 else 0
  back : ∀ x t, Rel n ab x t → Rel n ab0 x t
  fwd : ∀ x t, Rel n ab0 x t → Rel n ab x t

theorem SI.of_rel {n : Nat} {ab0 ab ab' : QMat} {row : Nat} (h : SI n ab0 row ab) (hrect : Rect (n + 1) n ab')
    (hunit : ∀ r c, r < row → c < n → ent ab' r c = ent ab r c)
    (hrel : ∀ x t, Rel n ab' x t ↔ Rel n ab x t) : SI n ab0 row ab' :=
  ⟨hrect, fun r c hr hc => (hunit r c hr hc).trans (h.unit r c hr hc),
    fun x t h' => h.back x t ((hrel x t).mp h'), fun x t h' => (hrel x t).mpr (h.fwd x t h')⟩

theorem SI.zero {n : Nat} {ab0 ab : QMat} {row : Nat} (h : SI n ab0 row ab) {r c : Nat} (hr : r < row)
    (hrc : row ≤ c) (hc : c < n) : ent ab r c = 0 := by
  rw [h.unit r c hr hc, if_neg (Nat.ne_of_lt (Nat.lt_of_lt_of_le hr hrc))]

theorem SI.eliminate {n : Nat} {ab0 ab : QMat} {row : Nat} (h : SI n ab0 row ab) (hrow : row < n)
    (hp : ent ab row row = 1) :
    SI n ab0 (row + 1)
      ((List.range n).foldl (fun ab i => if i = row then ab else subMulCol ab i row (ent ab row i)) ab) := by
  -- the pivot stays `1`; column `i ≠ row` gets a `0` in row `row`, which later steps keep
  obtain ⟨⟨g1, g2⟩, -, g3⟩ := foldl_establish
    (fun ab i => if i = row then ab else subMulCol ab i row (ent ab row i))
    (fun ab => SI n ab0 row ab ∧ ent ab row row = 1) (fun ab i => i ≠ row → ent ab row i = 0)
    (List.range n) (fun s x hx ⟨k1, k2⟩ => by
      have hx := List.mem_range.mp hx
      by_cases e : x = row
      · rw [if_pos e]
        exact ⟨⟨k1, k2⟩, fun q => absurd e q, fun _ hj => hj⟩
      · rw [if_neg e]
        have key := ent_subMulCol k1.rect x row hx (ent s row x)
        refine ⟨⟨k1.of_rel (Rect.subMulCol k1.rect _ _ _) (fun r c hr _ => ?_)
          (rel_subMulCol k1.rect x row hx hrow e _), ?_⟩, fun _ => ?_, fun j hj hjr => ?_⟩
        · rw [key r c (Nat.lt_succ_of_lt (Nat.lt_trans hr hrow)), k1.zero hr le_rfl hrow, mul_zero, sub_zero]
          split
          · next q => rw [q]
          · rfl
        · rw [key row row (Nat.lt_succ_of_lt hrow), if_neg (Ne.symm e)]
          exact k2
        · rw [key row x (Nat.lt_succ_of_lt hrow), if_pos rfl, k2, mul_one, sub_self]
        · rw [key row j (Nat.lt_succ_of_lt hrow)]
          split
          · rw [k2, mul_one, sub_self]
          · exact hj hjr) ab ⟨h, hp⟩
  refine ⟨g1.rect, fun r c hr hc => ?_, g1.back, g1.fwd⟩
  rcases Nat.lt_succ_iff_lt_or_eq.mp hr with hr | rfl
  · exact g1.unit r c hr hc
  · split
    · next e => rw [← e]; exact g2
    · next e => exact g3 c (List.mem_range.mpr hc) (Ne.symm e)

theorem SI.step {n : Nat} {ab0 ab ab' : QMat} {row : Nat} (h : SI n ab0 row ab) (hrow : row < n)
    (hs : solveStep n row ab = some ab') : SI n ab0 (row + 1) ab' := by
  unfold solveStep at hs
  simp only at hs
  split at hs
  · cases hs
  · rename_i nxt hf
    obtain ⟨f1, f2, f3⟩ := findFrom_some hf
    have hrr : row < n + 1 := Nat.lt_succ_of_lt hrow
    have hsw : SI n ab0 row (swapCols ab row nxt) := by
      refine h.of_rel (Rect.swapCols h.rect _ _) (fun r c hr hc => ?_) (rel_swapCols h.rect row nxt hrow f2)
      -- in a unit row both swapped entries are `0`
      rw [ent_swapCols h.rect row nxt hrow f2 r c (Nat.lt_succ_of_lt (Nat.lt_trans hr hrow))]
      split
      · next q => rw [q, h.zero hr le_rfl hrow, h.zero hr f1 f2]
      · split
        · next q => rw [q, h.zero hr le_rfl hrow, h.zero hr f1 f2]
        · rfl
    have harc : ent (swapCols ab row nxt) row row ≠ 0 := by
      rw [ent_swapCols_perm h.rect row nxt hrow f2, Equiv.swap_apply_right]
      exact bne_iff_ne.mp f3
    have hdv : SI n ab0 row (divCol (swapCols ab row nxt) row (ent (swapCols ab row nxt) row row)) := by
      refine hsw.of_rel (Rect.divCol hsw.rect _ _) (fun r c hr hc => ?_) (rel_divCol hsw.rect row hrow _ harc)
      rw [ent_divCol hsw.rect row hrow _ r c (Nat.lt_succ_of_lt (Nat.lt_trans hr hrow))]
      split
      · next q => rw [q, hsw.zero hr le_rfl hrow, zero_div]
      · rfl
    have hel := hdv.eliminate hrow (by
      rw [ent_divCol hsw.rect row hrow _ row row hrr, if_pos rfl]
      exact div_self harc)
    rw [Option.some.inj hs] at hel
    exact hel

theorem SI.sum_unit {n : Nat} {ab0 ab : QMat} (h : SI n ab0 n ab) (y : Nat → ℚ) {c : Nat} (hc : c < n) :
    ∑ k ∈ Finset.range n, y k * ent ab k c = y c := by
  rw [Finset.sum_eq_single c, h.unit c c hc hc, if_pos rfl, mul_one]
  · intro k hk hkc
    rw [h.unit k c (Finset.mem_range.mp hk) hc, if_neg hkc, mul_zero]
  · exact fun hcn => absurd (Finset.mem_range.mpr hc) hcn

/-- all rows done: the last row solves the original system -/
theorem SI.final {n : Nat} {ab0 ab : QMat} (h : SI n ab0 n ab) : Rel n ab0 (fun k => ent ab n k) 1 :=
  h.back _ _ fun _ hc => (h.sum_unit _ hc).trans (one_mul _).symm

theorem SI.final_indep {n : Nat} {ab0 ab : QMat} (h : SI n ab0 n ab) (y : Nat → ℚ) (hy : Rel n ab0 y 0) :
    ∀ c, c < n → y c = 0 :=
  fun c hc => (h.sum_unit y hc).symm.trans ((h.fwd y 0 hy c hc).trans (zero_mul _))

/-- no pivot in row `row`: a non-trivial relation between the first `n` rows of the input -/
theorem SI.singular {n : Nat} {ab0 ab : QMat} {row : Nat} (h : SI n ab0 row ab) (hrow : row < n)
    (hs : solveStep n row ab = none) :
    ∃ y : Nat → ℚ, y row ≠ 0 ∧ Rel n ab0 y 0 := by
  unfold solveStep at hs
  simp only at hs
  split at hs
  · rename_i hf
    -- row `row` is the combination `Σ_{k < row} ab[row][k] · e_k` of the unit rows above it:
    -- it vanishes from column `row` on, and row `k < row` is `e_k`
    refine ⟨fun k => (if k < row then ent ab row k else 0) + if k = row then -1 else 0, by simp, ?_⟩
    apply h.back
    intro c hc
    have hunit : ∑ k ∈ Finset.range n, (if k < row then ent ab row k else 0) * ent ab k c = ent ab row c := by
      by_cases q : c < row
      · rw [Finset.sum_eq_single c, if_pos q, h.unit c c q hc, if_pos rfl, mul_one]
        · intro k _ hkc
          split
          · next hk => rw [h.unit k c hk hc, if_neg hkc, mul_zero]
          · exact zero_mul _
        · exact fun hcn => absurd (Finset.mem_range.mpr hc) hcn
      · rw [bne_eq_false_iff_eq.mp (findFrom_none hf c (Nat.le_of_not_lt q) hc)]
        refine Finset.sum_eq_zero fun k _ => ?_
        split
        · next hk => rw [h.zero hk (Nat.le_of_not_lt q) hc, mul_zero]
        · exact zero_mul _
    simp only [add_mul]
    rw [Finset.sum_add_distrib, hunit]
    simp only [ite_mul, zero_mul, Finset.sum_ite_eq', Finset.mem_range, hrow, if_true, neg_one_mul,
      add_neg_cancel]
  · cases hs

theorem solveLoop_spec {n : Nat} {ab0 : QMat} (steps row : Nat) (ab : QMat) (hn : row + steps = n)
    (h : SI n ab0 row ab) :
    match solveLoop n steps row ab with
    | some ab' => SI n ab0 n ab'
    | none => ∃ y : Nat → ℚ, (∃ k, k < n ∧ y k ≠ 0) ∧ Rel n ab0 y 0 := by
  induction steps generalizing row ab with
  | zero => exact (Nat.add_zero row ▸ hn) ▸ h
  | succ k ih =>
    have hrow : row < n := hn ▸ Nat.lt_add_of_pos_right (Nat.succ_pos k)
    unfold solveLoop
    cases hst : solveStep n row ab with
    | none =>
      obtain ⟨y, hy, hrel⟩ := h.singular hrow hst
      exact ⟨y, ⟨row, hrow, hy⟩, hrel⟩
    | some ab1 => exact ih (row + 1) ab1 ((Nat.succ_add_eq_add_succ row k).trans hn) (h.step hrow hst)

theorem ent_append_left (A : QMat) (b : QRow) (k c : Nat) (hk : k < A.length) :
    ent (A ++ [b]) k c = ent A k c := by
  have : (A ++ [b]).getD k [] = A.getD k [] := by
    rw [List.getD_eq_getElem?_getD, List.getElem?_append_left hk, List.getD_eq_getElem?_getD]
  exact congrArg (·.getD c 0) this

theorem ent_append_last (A : QMat) (b : QRow) (c : Nat) : ent (A ++ [b]) A.length c = b.getD c 0 := by
  have : (A ++ [b]).getD A.length [] = b := by
    rw [List.getD_eq_getElem?_getD, List.getElem?_append_right (Nat.le_refl _), Nat.sub_self]
    rfl
  exact congrArg (·.getD c 0) this

theorem SI.init {A : QMat} {b : QRow} {n : Nat} (hr : Rect n n A) (hb : b.length = n) :
    SI n (A ++ [b]) 0 (A ++ [b]) where
  rect := by
    refine ⟨by rw [List.length_append, hr.1]; rfl, fun r hrm => ?_⟩
    rcases List.mem_append.mp hrm with h | h
    · exact hr.2 r h
    · exact List.mem_singleton.mp h ▸ hb
  unit := fun _ _ hr' _ => absurd hr' (Nat.not_lt_zero _)
  back := fun _ _ h => h
  fwd := fun _ _ h => h

theorem rel_vecMul {A : QMat} {b : QRow} {n : Nat} (hr : Rect n n A) (x : Nat → ℚ) (t : ℚ) :
    Rel n (A ++ [b]) x t ↔ (fun k : Fin n => x k) ᵥ* toM n n A = fun c : Fin n => t * b.getD c 0 := by
  have hsum : ∀ c : Fin n, ((fun k : Fin n => x k) ᵥ* toM n n A) c
      = ∑ k ∈ Finset.range n, x k * ent (A ++ [b]) k c := by
    intro c
    rw [← Fin.sum_univ_eq_sum_range (fun k => x k * ent (A ++ [b]) k c) n]
    show ∑ k : Fin n, x k * ent A k c = _
    exact Finset.sum_congr rfl fun k _ => by rw [ent_append_left A b k c (hr.1.symm ▸ k.2)]
  have hlast : ∀ c, ent (A ++ [b]) n c = b.getD c 0 := fun c => hr.1 ▸ ent_append_last A b c
  constructor
  · intro h
    ext c
    rw [hsum, h c c.2, hlast]
  · intro h c hc
    rw [← hsum ⟨c, hc⟩, h, hlast]

/-- `solve_linear_system` on a square system with a right-hand side of the right length: an answer is
the last row of a final state of the loop, the only error comes with a relation between the rows of `A` -/
theorem solve_spec (A : QMat) (b : QRow) (n : Nat) (hr : Rect n n A) (hb : b.length = n) :
    match solve A b with
    | .ok x => ∃ ab, SI n (A ++ [b]) n ab ∧ x = ab.getD n []
    | .error e => e = errNotInvertible ∧ ∃ y : Nat → ℚ, (∃ k, k < n ∧ y k ≠ 0) ∧ Rel n (A ++ [b]) y 0 := by
  have hspec := solveLoop_spec n 0 (A ++ [b]) (Nat.zero_add n) (SI.init hr hb)
  unfold solve
  simp only [hr.1, hb, ne_eq, not_true_eq_false, if_false, shapeOf_square hr]
  cases hs : solveLoop n n 0 (A ++ [b]) with
  | none =>
    rw [hs] at hspec
    exact ⟨rfl, hspec⟩
  | some ab =>
    rw [hs] at hspec
    exact ⟨ab, hspec, rfl⟩

/-- **`solve_linear_system`, success**: the returned row vector `x` satisfies `x * A = b` -/
theorem solve_ok (A : QMat) (b x : QRow) (n : Nat) (hr : Rect n n A) (hb : b.length = n)
    (h : solve A b = .ok x) :
    (fun k : Fin n => x.getD k 0) ᵥ* toM n n A = fun c : Fin n => b.getD c 0 := by
  have hspec := solve_spec A b n hr hb
  rw [h] at hspec
  obtain ⟨ab, hsi, rfl⟩ := hspec
  have := (rel_vecMul hr _ 1).mp hsi.final
  simp only [one_mul] at this
  exact this

theorem solve_length (A : QMat) (b x : QRow) (n : Nat) (hr : Rect n n A) (hb : b.length = n)
    (h : solve A b = .ok x) : x.length = n := by
  have hspec := solve_spec A b n hr hb
  rw [h] at hspec
  obtain ⟨ab, hsi, rfl⟩ := hspec
  exact hsi.rect.row_length n (Nat.lt_succ_self n)

/-- **`solve_linear_system`, failure**: the only error on a square system is `MatrixNotInvertible`,
and it means `det A = 0` -/
theorem solve_err (A : QMat) (b : QRow) (n : Nat) (hr : Rect n n A) (hb : b.length = n) (e : String)
    (h : solve A b = .error e) : e = errNotInvertible ∧ (toM n n A).det = 0 := by
  have hspec := solve_spec A b n hr hb
  rw [h] at hspec
  obtain ⟨he, y, ⟨k, hk, hyk⟩, hrel⟩ := hspec
  refine ⟨he, Matrix.exists_vecMul_eq_zero_iff.mp ⟨fun k : Fin n => y k, ?_, ?_⟩⟩
  · exact fun h0 => hyk (congrFun h0 ⟨k, hk⟩)
  · rw [(rel_vecMul hr y 0).mp hrel]
    exact funext fun c => zero_mul _

/-- **`solve_linear_system`, success ⇒ non-singular**: the loop only completes after `n` pivots -/
theorem solve_ok_nonsingular (A : QMat) (b x : QRow) (n : Nat) (hr : Rect n n A) (hb : b.length = n)
    (h : solve A b = .ok x) : (toM n n A).det ≠ 0 := by
  have hspec := solve_spec A b n hr hb
  rw [h] at hspec
  obtain ⟨ab, hsi, -⟩ := hspec
  intro hdet
  obtain ⟨v, hv0, hv⟩ := Matrix.exists_vecMul_eq_zero_iff.mpr hdet
  refine hv0 (funext fun c => ?_)
  -- a kernel vector, extended by zeros, is a relation between the rows, hence trivial
  have := hsi.final_indep (fun k => if hk : k < n then v ⟨k, hk⟩ else 0)
    ((rel_vecMul (b := b) hr _ 0).mpr (by
      simp only [Fin.is_lt, dite_true, Fin.eta, zero_mul]
      exact hv)) c c.2
  simpa using this

end NTV.LinAlg
