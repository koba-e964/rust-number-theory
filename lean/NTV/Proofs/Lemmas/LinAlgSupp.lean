import NTV.Proofs.Lemmas.LinAlgIim
/-! The model of `subspace::supplement_basis` (Cohen 2.3.6). Iteration `s` is a Steinitz exchange: rows `s`,
`t` of the basis `B` change places and the input row `s`, whose coordinate at the old row `t` is the pivot,
takes the place of row `s`; `mm` keeps the coordinates of the remaining input rows (invariant `SPI`). -/
open Matrix
namespace NTV.LinAlg
open NTV.RowOps (toM Rect)

theorem sum_modify1 (n : Nat) (F G : Nat → ℚ) (s : Nat) (hs : s < n)
    (h : ∀ i, i < n → i ≠ s → F i = G i) :
    ∑ i ∈ Finset.range n, F i = ∑ i ∈ Finset.range n, G i + (F s - G s) := by
  refine sub_eq_iff_eq_add'.mp ?_
  rw [← Finset.sum_sub_distrib, Finset.sum_eq_single_of_mem s (Finset.mem_range.mpr hs)]
  intro i hi hne
  rw [h i (Finset.mem_range.mp hi) hne, sub_self]

theorem sum_swap (n s t : Nat) (hs : s < n) (ht : t < n) (f : Nat → ℚ) :
    ∑ i ∈ Finset.range n, f (Equiv.swap s t i) = ∑ i ∈ Finset.range n, f i := by
  refine Finset.sum_equiv (Equiv.swap s t) (fun i => ?_) (fun _ _ => rfl)
  rw [Finset.mem_range, Finset.mem_range]
  refine ⟨swap_cases (P := (· < n)) s t i hs ht, fun h => ?_⟩
  have := swap_cases (P := (· < n)) s t _ hs ht h
  rwa [Equiv.swap_apply_self] at this

/-- Steinitz exchange in coordinates: `w = Σ h_i b_i` with `h_s ≠ 0` takes the place of `b_s` -/
theorem sum_exchange (n s : Nat) (hs : s < n) (g h b : Nat → ℚ) (hh : h s ≠ 0) :
    ∑ i ∈ Finset.range n, (if i = s then g s / h s else g i - h i * (g s / h s)) *
        (if i = s then ∑ k ∈ Finset.range n, h k * b k else b i)
      = ∑ i ∈ Finset.range n, g i * b i := by
  have hG : ∑ i ∈ Finset.range n, (g i - h i * (g s / h s)) * b i
      = ∑ i ∈ Finset.range n, g i * b i - g s / h s * ∑ i ∈ Finset.range n, h i * b i := by
    rw [Finset.mul_sum, ← Finset.sum_sub_distrib]
    exact Finset.sum_congr rfl fun i _ => by rw [sub_mul, mul_right_comm, mul_comm (h i * b i)]
  rw [sum_modify1 n _ (fun i => (g i - h i * (g s / h s)) * b i) s hs
    (fun i _ hne => by rw [if_neg hne, if_neg hne]), if_pos rfl, if_pos rfl, hG, mul_div_cancel₀ (g s) hh,
    sub_self, zero_mul, sub_zero, sub_add_cancel]

theorem ent_set {n m : Nat} {a : QMat} (hr : Rect n m a) (i : Nat) (row : QRow) (hi : i < n) (r c : Nat) :
    ent (a.set i row) r c = if r = i then row.getD c 0 else ent a r c := by
  unfold ent NTV.RowOps.ent
  rw [NTV.RowOps.getD_set, apply_ite (fun l : QRow => l.getD c 0)]
  exact if_congr (and_iff_left (hr.1.symm ▸ hi)) rfl rfl

theorem getD_suppRow (s t : Nat) (d : ℚ) (rows rowj : QRow) (n : Nat) (hlen : rowj.length = n)
    (hs : s < n) (ht : t < n) (i : Nat) (hi : i < n) :
    (suppRow s t d rows rowj).getD i 0
      = if i = s then rowj.getD t 0
        else if i = t then rowj.getD s 0
        else rowj.getD i 0 - rows.getD i 0 * (rowj.getD t 0 * d) := by
  have hsl : s < rowj.length := by rw [hlen]; exact hs
  have htl : t < rowj.length := by rw [hlen]; exact ht
  have hst : (swapList rowj s t).getD s 0 = rowj.getD t 0 := by
    rw [getD_swapList rowj s t s hsl htl, if_pos rfl]
    exact ite_eq_right_iff.mpr fun e => by rw [e]
  unfold suppRow
  rw [getD_mapIdx _ _ _ (by rw [length_swapList, hlen]; exact hi), hst]
  by_cases e1 : i = s
  · rw [if_pos e1, if_neg (by simp [e1]), e1, hst]
  · rw [if_neg e1, getD_swapList rowj s t i hsl htl, if_neg e1]
    by_cases e2 : i = t
    · rw [if_pos e2, if_pos e2, if_neg (by simp [e2])]
    · rw [if_neg e2, if_neg e2, if_pos (by simp [e1, e2])]

theorem length_suppRow (s t : Nat) (d : ℚ) (rows rowj : QRow) : (suppRow s t d rows rowj).length = rowj.length := by
  unfold suppRow
  rw [List.length_mapIdx, length_swapList]

theorem findFrom_lo {lo hi : Nat} {p : Nat → Bool} {j : Nat} (h : findFrom lo hi p = some j) (hne : j ≠ lo) :
    p lo = false := by
  obtain ⟨h1, h2, _⟩ := findFrom_some h
  unfold findFrom at h
  rw [← Nat.succ_pred_eq_of_pos (Nat.sub_pos_of_lt (lt_of_le_of_lt h1 h2)), List.range'_succ, List.find?_cons] at h
  cases hp : p lo with
  | false => rfl
  | true =>
    rw [hp] at h
    exact absurd (Option.some.inj h).symm hne

theorem ent_suppNewB {n : Nat} {B : QMat} (hb : Rect n n B) (orig : QMat) (s t : Nat) (hs : s < n) (ht : t < n)
    (i c : Nat) :
    ent (suppNewB s t orig B) i c = if i = s then ent orig s c else ent B (Equiv.swap s t i) c := by
  unfold suppNewB
  have h1 : Rect n n (B.set t (B.getD s [])) := hb.set t _ (hb.row_length s hs)
  rw [ent_set h1 s _ hs, ent_set hb t _ ht, Equiv.swap_apply_def]
  by_cases e : i = s
  · rw [if_pos e, if_pos e]
    rfl
  · rw [if_neg e, if_neg e, if_neg e, apply_ite (ent B · c)]
    rfl

theorem ent_suppNewM {n k : Nat} {mm : QMat} (hm : Rect k n mm) (s t : Nat) (d : ℚ) (hs : s < n) (ht : t < n)
    (j i : Nat) (hj : j < k) (hi : i < n) :
    ent (suppNewM s t d mm) j i
      = if s < j then
          (if i = s then ent mm j t else if i = t then ent mm j s
           else ent mm j i - ent mm s i * (ent mm j t * d))
        else ent mm j i := by
  unfold suppNewM
  rw [ent_mapIdx hm _ j i hj]
  by_cases e : s < j
  · rw [if_pos e, if_pos e, getD_suppRow s t d _ _ n (hm.row_length j hj) hs ht i hi]
    rfl
  · rw [if_neg e, if_neg e]; rfl

/-- state before iteration `s`: `B` is invertible, its first `s` rows are those of the input, and
every later input row is a combination of the rows of `B` whose coefficients on the rows `≥ s` are
the current entries of `mm` (the coefficients on the rows `< s` are not kept by the code) -/
structure SPI (n k : Nat) (orig : QMat) (s : Nat) (mm B : QMat) : Prop where
  rmm : Rect k n mm
  rb : Rect n n B
  first : ∀ i c, i < s → ent B i c = ent orig i c
  detb : (toM n n B).det ≠ 0
  coord : ∀ j, s ≤ j → j < k → ∃ g : Nat → ℚ, (∀ i, s ≤ i → i < n → g i = ent mm j i) ∧
    ∀ c, c < n → ent orig j c = ∑ i ∈ Finset.range n, g i * ent B i c

variable {n k : Nat} {orig : QMat}

theorem SPI.init (ho : Rect k n orig) : SPI n k orig 0 orig (idMat n) where
  rmm := ho
  rb := Rect_idMat n
  first := fun _ _ h => absurd h (Nat.not_lt_zero _)
  detb := by rw [toM_idMat, det_one]; exact one_ne_zero
  coord := by
    intro j _ _
    refine ⟨fun i => ent orig j i, fun _ _ _ => rfl, ?_⟩
    intro c hc
    rw [Finset.sum_eq_single_of_mem c (Finset.mem_range.mpr hc), ent_idMat n c c hc hc, if_pos rfl, mul_one]
    intro i hi hne
    rw [ent_idMat n i c (Finset.mem_range.mp hi) hc, if_neg hne, mul_zero]

theorem det_suppNewB {B : QMat} (hb : Rect n n B) (s t : Nat) (hs : s < n) (ht : t < n)
    (hdet : (toM n n B).det ≠ 0) (h : Nat → ℚ) (hht : h t ≠ 0)
    (hcoord : ∀ c, c < n → ent orig s c = ∑ i ∈ Finset.range n, h i * ent B i c) :
    (toM n n (suppNewB s t orig B)).det ≠ 0 := by
  let σ : Equiv.Perm (Fin n) := Equiv.swap ⟨s, hs⟩ ⟨t, ht⟩
  have hσ : ∀ i : Fin n, Equiv.swap s t (i : Nat) = σ i :=
    fun i => Fin.val_injective.swap_apply ⟨s, hs⟩ ⟨t, ht⟩ i
  have hM : toM n n (suppNewB s t orig B) = updateRow ((toM n n B).submatrix σ id) ⟨s, hs⟩
      (∑ k : Fin n, (fun k : Fin n => h (Equiv.swap s t k)) k • (toM n n B).submatrix σ id k) := by
    ext i c
    rw [updateRow_apply]
    refine (ent_suppNewB hb orig s t hs ht i c).trans ?_
    by_cases e : i = ⟨s, hs⟩
    · rw [if_pos (congrArg Fin.val e), if_pos e, hcoord c c.2, ← sum_swap n s t hs ht (fun i => h i * ent B i c),
        ← Fin.sum_univ_eq_sum_range (fun i => h (Equiv.swap s t i) * ent B (Equiv.swap s t i) c) n,
        Finset.sum_apply]
      refine Finset.sum_congr rfl fun k _ => ?_
      beta_reduce
      rw [hσ k]
      rfl
    · rw [if_neg (fun q => e (Fin.ext q)), if_neg e, hσ i]
      rfl
  rw [hM, det_updateRow_sum, det_permute, smul_eq_mul, Equiv.swap_apply_left]
  exact mul_ne_zero hht (mul_ne_zero (Int.cast_ne_zero.mpr (Units.ne_zero _)) hdet)

theorem SPI.step {s : Nat} {mm B mm' B' : QMat} (h : SPI n k orig s mm B) (ho : Rect k n orig) (hsk : s < k)
    (hs : suppStep n s orig mm B = some (mm', B')) : s < n ∧ SPI n k orig (s + 1) mm' B' := by
  unfold suppStep at hs
  split at hs
  · cases hs
  · rename_i t hf
    obtain ⟨f1, f2, f3⟩ := findFrom_some hf
    have hpiv : ent mm s t ≠ 0 := bne_iff_ne.mp f3
    have hss : t ≠ s → ent mm s s = 0 := fun hne => bne_eq_false_iff_eq.mp (findFrom_lo hf hne)
    have hsn : s < n := lt_of_le_of_lt f1 f2
    cases hs
    obtain ⟨hh, hh1, hh2⟩ := h.coord s (le_refl s) hsk
    have hht : hh t = ent mm s t := hh1 t f1 f2
    have eB := ent_suppNewB h.rb orig s t hsn f2
    have eM := ent_suppNewM h.rmm s t (ent mm s t)⁻¹ hsn f2
    refine ⟨hsn, h.rmm.mapIdx _ fun j row hrow => ?_,
      (h.rb.set t _ (h.rb.row_length s hsn)).set s _ (ho.row_length s hsk), ?_, ?_, ?_⟩
    · rw [apply_ite List.length, length_suppRow, hrow, ite_self]
    · intro i c hi
      rw [eB]
      rcases Nat.lt_succ_iff_lt_or_eq.mp hi with hi' | rfl
      · rw [if_neg (Nat.ne_of_lt hi'), Equiv.swap_apply_of_ne_of_ne (Nat.ne_of_lt hi')
          (Nat.ne_of_lt (lt_of_lt_of_le hi' f1))]
        exact h.first i c hi'
      · exact if_pos rfl
    · exact det_suppNewB h.rb s t hsn f2 h.detb hh (by rw [hht]; exact hpiv) hh2
    · intro j hj1 hj2
      obtain ⟨g, g1, g2⟩ := h.coord j (Nat.le_of_succ_le hj1) hj2
      -- `swap s t s` (that is `t`) is left as it is so that this is literally the vector of `sum_exchange`
      refine ⟨fun i => if i = s then g (Equiv.swap s t s) / hh (Equiv.swap s t s)
        else g (Equiv.swap s t i) - hh (Equiv.swap s t i) * (g (Equiv.swap s t s) / hh (Equiv.swap s t s)), ?_, ?_⟩
      · intro i hi1 hi2
        have his : i ≠ s := Nat.ne_of_gt hi1
        beta_reduce
        rw [eM j i hj2 hi2, if_pos (show s < j from hj1), if_neg his, if_neg his, Equiv.swap_apply_left,
          g1 t f1 f2, hht, ← div_eq_mul_inv]
        by_cases e : i = t
        · rw [if_pos e, e, Equiv.swap_apply_right, hh1 s (le_refl s) hsn, hss (e ▸ his), zero_mul, sub_zero,
            g1 s (le_refl s) hsn]
        · rw [if_neg e, Equiv.swap_apply_of_ne_of_ne his e, g1 i (Nat.le_of_succ_le hi1) hi2,
            hh1 i (Nat.le_of_succ_le hi1) hi2]
      · intro c hc
        have key := sum_exchange n s hsn (fun i => g (Equiv.swap s t i)) (fun i => hh (Equiv.swap s t i))
          (fun i => ent B (Equiv.swap s t i) c) (by rw [Equiv.swap_apply_left, hht]; exact hpiv)
        rw [sum_swap n s t hsn f2 (fun i => hh i * ent B i c), ← hh2 c hc,
          sum_swap n s t hsn f2 (fun i => g i * ent B i c), ← g2 c hc] at key
        rw [← key]
        exact Finset.sum_congr rfl fun i _ => by rw [eB i c]

/-- no pivot in row `s`: the input row `s` is a combination of the earlier input rows -/
theorem SPI.dependent {s : Nat} {mm B : QMat} (h : SPI n k orig s mm B) (hsk : s < k)
    (hs : suppStep n s orig mm B = none) :
    ∃ y : Nat → ℚ, y s ≠ 0 ∧ ∀ c, c < n → ∑ l ∈ Finset.range k, y l * ent orig l c = 0 := by
  unfold suppStep at hs
  split at hs
  · rename_i hf
    obtain ⟨hh, hh1, hh2⟩ := h.coord s (le_refl s) hsk
    have hz : ∀ i, s ≤ i → i < n → hh i = 0 := fun i h1 h2 => by
      rw [hh1 i h1 h2]
      exact bne_eq_false_iff_eq.mp (findFrom_none hf i h1 h2)
    -- only the coordinates `hh i` with `i < s` are left, and there row `i` of `B` is row `i` of `orig`
    let x : Fin (min s n) → ℚ := fun i => hh i
    have hB : ∀ c, ∑ i ∈ Finset.range n, hh i * ent B i c = ∑ i : Fin (min s n), x i * ent orig i c := fun c =>
      (Finset.sum_congr rfl fun l hl => by
        have hln := Finset.mem_range.mp hl
        by_cases hl' : l < min s n
        · rw [ext0, dif_pos hl']
        · rw [ext0, dif_neg hl', hz l (Nat.le_of_not_lt fun q => hl' (Nat.lt_min.mpr ⟨q, hln⟩)) hln]).trans
      ((sum_ext0 x (fun l => ent B l c) (Nat.min_le_right s n)).trans (Finset.sum_congr rfl fun i _ => by
        rw [h.first i c (lt_of_lt_of_le i.2 (Nat.min_le_left s n))]))
    refine ⟨fun l => if l = s then -1 else ext0 x l, (if_pos rfl).trans_ne (neg_ne_zero.mpr one_ne_zero),
      fun c hc => ?_⟩
    beta_reduce
    rw [sum_modify1 k _ (fun l => ext0 x l * ent orig l c) s hsk (fun l _ hne => by rw [if_neg hne]),
      sum_ext0 x (fun l => ent orig l c) (le_trans (Nat.min_le_left s n) (Nat.le_of_lt hsk)), ← hB c, ← hh2 c hc,
      if_pos rfl, ext0, dif_neg (Nat.not_lt.mpr (Nat.min_le_left s n)), zero_mul, sub_zero, neg_one_mul,
      add_neg_cancel]
  · cases hs

theorem suppLoop_spec (steps s : Nat) (mm B : QMat) (ho : Rect k n orig) (hn : s + steps = k) (hsn : s ≤ n)
    (h : SPI n k orig s mm B) :
    match suppLoop n orig steps s mm B with
    | some Bf => k ≤ n ∧ Rect n n Bf ∧ (∀ i c, i < k → ent Bf i c = ent orig i c) ∧ (toM n n Bf).det ≠ 0
    | none => RowsDep k n orig := by
  induction steps generalizing s mm B with
  | zero =>
    subst hn
    exact ⟨hsn, h.rb, h.first, h.detb⟩
  | succ q ih =>
    have hsk : s < k := hn ▸ Nat.lt_add_of_pos_right (Nat.succ_pos q)
    unfold suppLoop
    cases hst : suppStep n s orig mm B with
    | none =>
      obtain ⟨y, hy, hrel⟩ := h.dependent hsk hst
      exact ⟨y, ⟨s, hsk, hy⟩, hrel⟩
    | some p =>
      obtain ⟨hsn', h'⟩ := h.step ho hsk hst
      exact ih (s + 1) p.1 p.2 ((Nat.succ_add_eq_add_succ s q).trans hn) hsn' h'

theorem supp_unfold (M : QMat) (k n : Nat) (hM : Rect k n M) (hk : 0 < k) :
    supplementBasis M = match suppLoop n M k 0 M (idMat n) with
      | none => .error errInsufficientRank
      | some b => .ok b := by
  cases M with
  | nil => exact absurd hM.1 (Nat.ne_of_lt hk)
  | cons m0 mt =>
    unfold supplementBasis
    simp only [hM.2 m0 List.mem_cons_self, hM.1, isRect_of_rect hM, Bool.not_true, Bool.false_eq_true, if_false]
    cases suppLoop n (m0 :: mt) k 0 (m0 :: mt) (idMat n) <;> rfl

theorem independent_of_supp (M B : QMat) (k n : Nat) (hkn : k ≤ n)
    (hfirst : ∀ i c, i < k → ent B i c = ent M i c) (hdet : (toM n n B).det ≠ 0)
    (y : Fin k → ℚ) (hy : y ᵥ* toM k n M = 0) : y = 0 := by
  have hy' : (fun i : Fin n => ext0 y i) ᵥ* toM n n B = 0 := funext fun c => by
    refine ((Fin.sum_univ_eq_sum_range (fun i => ext0 y i * ent B i c) n).trans
      (sum_ext0 y (fun i => ent B i c) hkn)).trans ((Finset.sum_congr rfl fun i _ => ?_).trans (congrFun hy c))
    rw [hfirst i c i.2]
    rfl
  have hzero := by_contra fun hne => hdet (Matrix.exists_vecMul_eq_zero_iff.mp ⟨_, hne, hy'⟩)
  funext i
  have : ext0 y i = 0 := congrFun hzero ⟨i, lt_of_lt_of_le i.2 hkn⟩
  rwa [ext0, dif_pos i.2] at this

end NTV.LinAlg
