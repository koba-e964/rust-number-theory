import NTV.Proofs.Lemmas.LllCheckGso
/-! Soundness and completeness of the executable LLL-reducedness checker `NTV.Spec.Lll.isReduced`:
it returns `true` exactly when the rows are linearly independent over `ℚ`, size-reduced with bound `η`,
and satisfy the Lovász condition with parameter `δ`, all stated with the mathematical Gram–Schmidt data
`bstar`/`gsMu` of `LllCheckMath.lean` (whose characterising properties — recursion `bstar_eq`,
orthogonality `bstar_orth`, span equality `span_bstar`, independence criterion `bstar_ne_zero_iff` —
are proved there). -/
open Matrix
namespace NTV.LllCheck
open NTV.Spec.Lll NTV.Spec.Mat
variable {m n : Nat}

theorem rat_abs_eq (q : ℚ) : q.abs = |q| := by
  unfold Rat.abs
  split_ifs with h
  · exact (abs_of_nonneg h).symm
  · exact (abs_of_neg (lt_of_not_ge h)).symm

theorem allPos_iff (B : List (List Int)) (hr : NTV.RowOps.Rect n m B) :
    (gso B).2.all (fun x => decide (x > 0)) = true ↔
      ∀ i, i < n → 0 < bstar (rowQ m B) i ⬝ᵥ bstar (rowQ m B) i := by
  rw [gso_eq B hr]
  simp only [List.all_eq_true, List.mem_map, List.mem_range, decide_eq_true_eq, gt_iff_lt]
  constructor
  · intro h i hi; exact h _ ⟨i, hi, rfl⟩
  · rintro h x ⟨i, hi, rfl⟩; exact h i hi

theorem sizeReduced_iff (B : List (List Int)) (hr : NTV.RowOps.Rect n m B) (η : ℚ) :
    sizeReduced (gso B) η = true ↔ ∀ i j, j < i → i < n → |gsMu (rowQ m B) i j| ≤ η := by
  rw [gso_eq B hr]
  unfold sizeReduced muL
  simp only [List.all_eq_true, List.mem_map, List.mem_range, decide_eq_true_eq, rat_abs_eq]
  constructor
  · intro h i j hj hi
    exact h _ ⟨i, hi, rfl⟩ _ (List.mem_map.2 ⟨j, List.mem_range.2 hj, rfl⟩)
  · rintro h row ⟨i, hi, rfl⟩ x hx
    obtain ⟨j, hj, rfl⟩ := List.mem_map.1 hx
    exact h i j (List.mem_range.1 hj) hi

theorem lovasz_iff (B : List (List Int)) (hr : NTV.RowOps.Rect n m B) (δ : ℚ) :
    lovasz (gso B) δ = true ↔ ∀ i, 1 ≤ i → i < n →
      bstar (rowQ m B) i ⬝ᵥ bstar (rowQ m B) i ≥
        (δ - gsMu (rowQ m B) i (i - 1) ^ 2) * (bstar (rowQ m B) (i - 1) ⬝ᵥ bstar (rowQ m B) (i - 1)) := by
  obtain ⟨_, _, hlen, hmu, hbn⟩ := gso_spec B hr
  unfold lovasz
  simp only [List.all_eq_true, List.mem_range, decide_eq_true_eq, hlen]
  constructor
  · intro h i h1 hi
    obtain ⟨t, rfl⟩ := Nat.exists_eq_add_of_le' h1
    have := h t (Nat.lt_sub_of_add_lt hi)
    rw [hmu (t + 1) t (Nat.lt_succ_self t) hi, hbn (t + 1) hi, hbn t (Nat.lt_of_succ_lt hi)] at this
    rw [Nat.add_sub_cancel, pow_two]; exact this
  · intro h t ht
    have hi : t + 1 < n := Nat.add_lt_of_lt_sub ht
    have := h (t + 1) (Nat.le_add_left 1 t) hi
    rw [Nat.add_sub_cancel, pow_two] at this
    rw [hmu (t + 1) t (Nat.lt_succ_self t) hi, hbn (t + 1) hi, hbn t (Nat.lt_of_succ_lt hi)]
    exact this

/-- **(c)** checker ↔ mathematical reducedness, with independence expressed as `‖b*_i‖² > 0`. -/
theorem isReduced_iff_pos (B : List (List Int)) (hr : NTV.RowOps.Rect n m B) (δ η : ℚ) :
    isReduced B δ η = true ↔
      (∀ i, i < n → 0 < bstar (rowQ m B) i ⬝ᵥ bstar (rowQ m B) i) ∧
      (∀ i j, j < i → i < n → |gsMu (rowQ m B) i j| ≤ η) ∧
      (∀ i, 1 ≤ i → i < n →
        bstar (rowQ m B) i ⬝ᵥ bstar (rowQ m B) i ≥
          (δ - gsMu (rowQ m B) i (i - 1) ^ 2) * (bstar (rowQ m B) (i - 1) ⬝ᵥ bstar (rowQ m B) (i - 1))) := by
  unfold isReduced
  simp only [Bool.and_eq_true, allPos_iff B hr, sizeReduced_iff B hr, lovasz_iff B hr, and_assoc]

/-- **(d) `isReduced_iff`, checker soundness and completeness**: for an `n × m` integer matrix `B`
(rows = basis vectors) and rational `δ`, `η`, the executable checker accepts iff the rows are linearly
independent over `ℚ`, `|μ_{i,j}| ≤ η` for all `j < i < n`, and
`‖b*_i‖² ≥ (δ − μ_{i,i−1}²) ‖b*_{i−1}‖²` for all `1 ≤ i < n`. -/
theorem isReduced_iff (B : List (List Int)) (hr : NTV.RowOps.Rect n m B) (δ η : ℚ) :
    isReduced B δ η = true ↔
      LinearIndependent ℚ (fun i : Fin n => rowQ m B i) ∧
      (∀ i j, j < i → i < n → |gsMu (rowQ m B) i j| ≤ η) ∧
      (∀ i, 1 ≤ i → i < n →
        bstar (rowQ m B) i ⬝ᵥ bstar (rowQ m B) i ≥
          (δ - gsMu (rowQ m B) i (i - 1) ^ 2) * (bstar (rowQ m B) (i - 1) ⬝ᵥ bstar (rowQ m B) (i - 1))) := by
  rw [isReduced_iff_pos B hr, bstar_pos_iff]

theorem rect_ex1 : NTV.RowOps.Rect 3 3 [[1, 1, 1], [-1, 0, 2], [3, 5, 6]] := ⟨rfl, by decide⟩

/-- the classical LLL example basis `(1,1,1), (−1,0,2), (3,5,6)` is not reduced for `δ = 3/4, η = 1/2`
(`μ_{2,0} = 14/3`), its LLL reduction `(0,1,0), (1,0,1), (−1,0,2)` is. -/
example : isReduced [[1, 1, 1], [-1, 0, 2], [3, 5, 6]] (3/4) (1/2) = false := by decide +kernel
example : isReduced [[0, 1, 0], [1, 0, 1], [-1, 0, 2]] (3/4) (1/2) = true := by decide +kernel
example : isReduced [] (3/4) (1/2) = true := by decide +kernel

/-- via the theorem: the rows of the reduced basis are linearly independent and satisfy both clauses -/
example : LinearIndependent ℚ (fun i : Fin 3 => rowQ 3 [[0, 1, 0], [1, 0, 1], [-1, 0, 2]] i) ∧
    (∀ i j, j < i → i < 3 → |gsMu (rowQ 3 [[0, 1, 0], [1, 0, 1], [-1, 0, 2]]) i j| ≤ 1/2) := by
  have hr : NTV.RowOps.Rect 3 3 [[0, 1, 0], [1, 0, 1], [-1, 0, 2]] := ⟨rfl, by decide⟩
  have h := (isReduced_iff _ hr (3/4) (1/2)).1 (by decide +kernel)
  exact ⟨h.1, h.2.1⟩

/-- via the theorem: the unreduced basis fails one of the clauses -/
example : ¬ (LinearIndependent ℚ (fun i : Fin 3 => rowQ 3 [[1, 1, 1], [-1, 0, 2], [3, 5, 6]] i) ∧
    (∀ i j, j < i → i < 3 → |gsMu (rowQ 3 [[1, 1, 1], [-1, 0, 2], [3, 5, 6]]) i j| ≤ 1/2) ∧
    (∀ i, 1 ≤ i → i < 3 →
      bstar (rowQ 3 [[1, 1, 1], [-1, 0, 2], [3, 5, 6]]) i ⬝ᵥ bstar (rowQ 3 [[1, 1, 1], [-1, 0, 2], [3, 5, 6]]) i ≥
        (3/4 - gsMu (rowQ 3 [[1, 1, 1], [-1, 0, 2], [3, 5, 6]]) i (i - 1) ^ 2) *
          (bstar (rowQ 3 [[1, 1, 1], [-1, 0, 2], [3, 5, 6]]) (i - 1) ⬝ᵥ
            bstar (rowQ 3 [[1, 1, 1], [-1, 0, 2], [3, 5, 6]]) (i - 1)))) := by
  intro h
  have := (isReduced_iff _ rect_ex1 (3/4) (1/2)).2 h
  revert this
  decide +kernel

/-- via `gso_spec`: the mathematical Gram–Schmidt data of the example basis, read off the checker:
`‖b*_2‖² = 9/14`, `μ_{2,1} = 13/14`; and orthogonality / the independence criterion instantiated. -/
example : bstar (rowQ 3 [[1, 1, 1], [-1, 0, 2], [3, 5, 6]]) 2 ⬝ᵥ bstar (rowQ 3 [[1, 1, 1], [-1, 0, 2], [3, 5, 6]]) 2 = 9/14 ∧
    gsMu (rowQ 3 [[1, 1, 1], [-1, 0, 2], [3, 5, 6]]) 2 1 = 13/14 ∧
    bstar (rowQ 3 [[1, 1, 1], [-1, 0, 2], [3, 5, 6]]) 2 ⬝ᵥ bstar (rowQ 3 [[1, 1, 1], [-1, 0, 2], [3, 5, 6]]) 0 = 0 := by
  obtain ⟨_, _, _, hmu, hbn⟩ := gso_spec _ rect_ex1
  refine ⟨?_, ?_, bstar_orth _ 2 0 (by decide)⟩
  · rw [← hbn 2 (by decide)]; decide +kernel
  · rw [← hmu 2 1 (by decide) (by decide)]; decide +kernel

example : LinearIndependent ℚ (fun i : Fin 3 => rowQ 3 [[1, 1, 1], [-1, 0, 2], [3, 5, 6]] i) := by
  rw [← bstar_pos_iff, ← allPos_iff _ rect_ex1]
  decide +kernel

end NTV.LllCheck
