import NTV.Spec.Lll
import NTV.Proofs.Lemmas.LllCheckMath
import NTV.Proofs.Lemmas.RowOpsProofs
import NTV.Proofs.Lemmas.OrdProofs
import Mathlib.Algebra.BigOperators.Fin
/-! The executable exact Gram–Schmidt data `NTV.Spec.Lll.gso` computes the mathematical
Gram–Schmidt coefficients and squared norms (`NTV.LllCheck.gsMu`, `NTV.LllCheck.bstar`). -/
open Matrix
namespace NTV.LllCheck
open NTV.Spec.Lll NTV.Spec.Mat
variable {m : Nat}

/-- row `i` of the integer list matrix `B`, as a vector of `ℚ^m` (entries via `NTV.RowOps.ent`) -/
def rowQ (m : Nat) (B : List (List Int)) (i : Nat) : Fin m → ℚ := fun c => ((NTV.RowOps.ent B i c : ℤ) : ℚ)

theorem zipWith_ofFn {α β γ : Type} (f : α → β → γ) (u : Fin m → α) (v : Fin m → β) :
    List.zipWith f (List.ofFn u) (List.ofFn v) = List.ofFn (fun i => f (u i) (v i)) := by
  apply List.ext_getElem
  · simp
  · intro i h1 h2
    simp

theorem qdot_ofFn (u v : Fin m → ℚ) : qdot (List.ofFn u) (List.ofFn v) = u ⬝ᵥ v := by
  unfold qdot
  rw [zipWith_ofFn, ← List.sum_eq_foldl, List.sum_ofFn]
  rfl

theorem toQRow_eq (B : List (List Int)) (k : Nat) (hk : k < B.length) (hl : B[k].length = m) :
    toQRow B[k] = List.ofFn (rowQ m B k) := by
  apply List.ext_getElem
  · simp [toQRow, hl]
  · intro i h1 h2
    simp [toQRow, rowQ, NTV.RowOps.ent, List.getD_eq_getElem?_getD, List.getElem?_eq_getElem hk]
    have : i < B[k].length := by simpa [toQRow] using h1
    simp [List.getElem?_eq_getElem this]

theorem fold_sub (ps : List (ℚ × (Fin m → ℚ))) (v : Fin m → ℚ) :
    (ps.map (fun p => (p.1, (List.ofFn p.2, p.2 ⬝ᵥ p.2)))).foldl
      (fun (acc : List Rat) (p : Rat × (List Rat × Rat)) =>
        List.zipWith (fun x y => x - p.1 * y) acc p.2.1) (List.ofFn v)
      = List.ofFn (v - (ps.map (fun p => p.1 • p.2)).sum) := by
  induction ps generalizing v with
  | nil =>
    show List.ofFn v = List.ofFn (v - 0)
    rw [sub_zero]
  | cons p ps ih =>
    simp only [List.map_cons, List.foldl_cons, List.sum_cons]
    rw [zipWith_ofFn]
    have : (fun i => v i - p.1 * p.2 i) = v - p.1 • p.2 := by
      funext i; simp
    rw [this, ih]
    congr 1
    abel

/-- the list of pairs `(b*_j, ‖b*_j‖²)`, `j < k`, as the checker stores it -/
def prevL (b : Nat → Fin m → ℚ) (k : Nat) : List (List ℚ × ℚ) :=
  (List.range k).map (fun j => (List.ofFn (bstar b j), bstar b j ⬝ᵥ bstar b j))

/-- the table of `μ_{i,j}` (`j < i < k`) as the checker stores it -/
def muL (b : Nat → Fin m → ℚ) (k : Nat) : List (List ℚ) :=
  (List.range k).map (fun i => (List.range i).map (fun j => gsMu b i j))

theorem gsoStep_eq (b : Nat → Fin m → ℚ) (k : Nat) :
    gsoStep (prevL b k) (List.ofFn (b k)) = ((List.range k).map (fun j => gsMu b k j), List.ofFn (bstar b k)) := by
  have hmus : (prevL b k).map (fun (bs, nb) => if nb == 0 then 0 else qdot (List.ofFn (b k)) bs / nb)
      = (List.range k).map (fun j => gsMu b k j) := by
    unfold prevL
    rw [List.map_map]
    apply List.map_congr_left
    intro j _
    simp only [Function.comp_apply, qdot_ofFn, beq_iff_eq]
    unfold gsMu
    split_ifs with h
    · rw [h, div_zero]
    · rfl
  unfold gsoStep
  simp only [hmus]
  congr 1
  have hz : List.zip ((List.range k).map (fun j => gsMu b k j)) (prevL b k)
      = ((List.range k).map (fun j => (gsMu b k j, bstar b j))).map
          (fun p => (p.1, (List.ofFn p.2, p.2 ⬝ᵥ p.2))) := by
    unfold prevL
    rw [List.zip_map', List.map_map]
    rfl
  rw [hz, fold_sub, List.map_map, bstar_eq b k]
  congr 2

/-- the state transformer of `gso`, with the pattern matching spelled out by projections -/
def gsoF (st : List (List Rat) × List (List Rat × Rat)) (row : List Int) :
    List (List Rat) × List (List Rat × Rat) :=
  (st.1 ++ [(gsoStep st.2 (toQRow row)).1],
   st.2 ++ [((gsoStep st.2 (toQRow row)).2, qnormSq (gsoStep st.2 (toQRow row)).2)])

theorem gso_unfold (B : List (List Int)) :
    gso B = ((B.foldl gsoF ([], [])).1, (B.foldl gsoF ([], [])).2.map (·.2)) := rfl

theorem gso_fold_take {n : Nat} (B : List (List Int)) (hr : NTV.RowOps.Rect n m B) (k : Nat) (hk : k ≤ n) :
    (B.take k).foldl gsoF ([], []) = (muL (rowQ m B) k, prevL (rowQ m B) k) := by
  induction k with
  | zero => rfl
  | succ k ih =>
    have hkl : k < B.length := by rw [hr.1]; omega
    rw [List.take_add_one, List.foldl_append, ih (by omega), List.getElem?_eq_getElem hkl]
    simp only [Option.toList_some, List.foldl_cons, List.foldl_nil]
    unfold gsoF
    simp only
    rw [toQRow_eq B k hkl (hr.2 _ (List.getElem_mem hkl)), gsoStep_eq]
    simp only [qnormSq, qdot_ofFn]
    simp only [muL, prevL, List.range_succ, List.map_append, List.map_cons, List.map_nil]

/-- **(a) the checker's Gram–Schmidt data, in closed form**: for an `n × m` integer matrix `B` the pair
`gso B` is the table of the mathematical `μ_{i,j}` (`j < i < n`) and the list of the `‖b*_i‖²`. -/
theorem gso_eq {n : Nat} (B : List (List Int)) (hr : NTV.RowOps.Rect n m B) :
    gso B = (muL (rowQ m B) n, (List.range n).map (fun i => bstar (rowQ m B) i ⬝ᵥ bstar (rowQ m B) i)) := by
  have h := gso_fold_take B hr n le_rfl
  rw [← hr.1, List.take_length] at h
  rw [gso_unfold, h, hr.1]
  show (_, (prevL _ n).map (·.2)) = _
  rw [prevL, List.map_map]
  rfl

/-- **(a) `gso_spec`**: shape of the tables and meaning of every entry. -/
theorem gso_spec {n : Nat} (B : List (List Int)) (hr : NTV.RowOps.Rect n m B) :
    (gso B).1.length = n ∧ (∀ i, i < n → ((gso B).1.getD i []).length = i) ∧ (gso B).2.length = n ∧
    (∀ i j, j < i → i < n → mu (gso B) i j = gsMu (rowQ m B) i j) ∧
    (∀ i, i < n → bn (gso B) i = bstar (rowQ m B) i ⬝ᵥ bstar (rowQ m B) i) := by
  rw [gso_eq B hr]
  refine ⟨by rw [muL, List.length_map, List.length_range], ?_, by rw [List.length_map, List.length_range], ?_, ?_⟩
  · intro i hi
    rw [muL, NTV.Ord.getD_map_range _ _ _ _ hi, List.length_map, List.length_range]
  · intro i j hj hi
    rw [mu, muL, NTV.Ord.getD_map_range _ _ _ _ hi, NTV.Ord.getD_map_range _ _ _ _ hj]
  · intro i hi
    rw [bn, NTV.Ord.getD_map_range _ _ _ _ hi]

example : gso [[1, 1, 1], [-1, 0, 2], [3, 5, 6]] =
    ([[], [1/3], [14/3, 13/14]], [3, 14/3, 9/14]) := by decide +kernel

end NTV.LllCheck
