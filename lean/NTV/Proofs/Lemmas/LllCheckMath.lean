import Mathlib.LinearAlgebra.Matrix.DotProduct
import Mathlib.LinearAlgebra.Dimension.OrzechProperty
import Mathlib.LinearAlgebra.LinearIndependent.Basic
import Mathlib.LinearAlgebra.Span.Basic
import Mathlib.Algebra.Order.Field.Rat
import Mathlib.Tactic.Ring
import Mathlib.Tactic.FieldSimp
/-! Mathematical Gram–Schmidt orthogonalisation over `ℚ` (no square roots, dot product `⬝ᵥ`),
defined from the textbook recursion, together with the properties that characterise it:
recursion equation, pairwise orthogonality, equality of the spans of every initial segment,
and "all `b*_i ≠ 0` iff the `b_i` are linearly independent". Independent of any code. -/
open Matrix
namespace NTV.LllCheck
variable {m : Nat}

/-- Gram–Schmidt vectors of the sequence `b 0, b 1, …` of vectors of `ℚ^m`:
`b*_i = b_i − Σ_{j<i} (⟨b_i, b*_j⟩ / ⟨b*_j, b*_j⟩) b*_j`; the quotient is `0` when `b*_j = 0`
(Lean's `x / 0 = 0`; see `gsMu_of_eq_zero`). -/
def bstar (b : Nat → Fin m → ℚ) : Nat → Fin m → ℚ
  | i => b i - ∑ j : Fin i, ((b i ⬝ᵥ bstar b j) / (bstar b j ⬝ᵥ bstar b j)) • bstar b j
termination_by i => i
decreasing_by exact j.2

/-- Gram–Schmidt coefficient `μ_{i,j} = ⟨b_i, b*_j⟩ / ⟨b*_j, b*_j⟩`. -/
def gsMu (b : Nat → Fin m → ℚ) (i j : Nat) : ℚ := (b i ⬝ᵥ bstar b j) / (bstar b j ⬝ᵥ bstar b j)

theorem gsMu_of_eq_zero (b : Nat → Fin m → ℚ) (i j : Nat) (h : bstar b j = 0) : gsMu b i j = 0 := by
  simp [gsMu, h]

theorem bstar_eq (b : Nat → Fin m → ℚ) (i : Nat) :
    bstar b i = b i - ∑ j ∈ Finset.range i, gsMu b i j • bstar b j := by
  rw [bstar, Finset.sum_range (fun j => gsMu b i j • bstar b j)]
  rfl

theorem b_eq (b : Nat → Fin m → ℚ) (i : Nat) :
    b i = bstar b i + ∑ j ∈ Finset.range i, gsMu b i j • bstar b j := by
  rw [bstar_eq b i]; abel

theorem dot_self_eq_zero (v : Fin m → ℚ) : v ⬝ᵥ v = 0 ↔ v = 0 := dotProduct_self_eq_zero

theorem dot_self_nonneg (v : Fin m → ℚ) : 0 ≤ v ⬝ᵥ v := by
  unfold dotProduct
  exact Finset.sum_nonneg (fun i _ => mul_self_nonneg _)

theorem dot_self_pos (v : Fin m → ℚ) : 0 < v ⬝ᵥ v ↔ v ≠ 0 := by
  rw [lt_iff_le_and_ne]
  constructor
  · rintro ⟨_, h⟩ hv; exact h (by simp [hv])
  · intro h; exact ⟨dot_self_nonneg v, fun e => h ((dot_self_eq_zero v).1 e.symm)⟩

/-- `μ_{i,j} ⟨b*_j, b*_j⟩ = ⟨b_i, b*_j⟩` (also when `b*_j = 0`). -/
theorem gsMu_mul (b : Nat → Fin m → ℚ) (i j : Nat) :
    gsMu b i j * (bstar b j ⬝ᵥ bstar b j) = b i ⬝ᵥ bstar b j := by
  unfold gsMu
  by_cases h : bstar b j ⬝ᵥ bstar b j = 0
  · have := (dot_self_eq_zero _).1 h
    simp [this]
  · field_simp

theorem bstar_orth_lt (b : Nat → Fin m → ℚ) : ∀ i j, j < i → bstar b i ⬝ᵥ bstar b j = 0 := by
  intro i
  induction i using Nat.strong_induction_on with
  | _ i ih =>
    intro j hj
    rw [bstar_eq b i, sub_dotProduct, sum_dotProduct]
    rw [Finset.sum_eq_single_of_mem j (Finset.mem_range.2 hj)]
    · rw [smul_dotProduct, smul_eq_mul, gsMu_mul, sub_self]
    · intro k hk hkj
      rw [Finset.mem_range] at hk
      rw [smul_dotProduct]
      rcases Nat.lt_or_gt_of_ne hkj with h | h
      · rw [dotProduct_comm, ih j hj k h, smul_zero]
      · rw [ih k hk j h, smul_zero]

theorem bstar_orth (b : Nat → Fin m → ℚ) (i j : Nat) (h : i ≠ j) : bstar b i ⬝ᵥ bstar b j = 0 := by
  rcases Nat.lt_or_gt_of_ne h with h | h
  · rw [dotProduct_comm]; exact bstar_orth_lt b j i h
  · exact bstar_orth_lt b i j h

theorem b_dot_bstar_self (b : Nat → Fin m → ℚ) (i : Nat) : b i ⬝ᵥ bstar b i = bstar b i ⬝ᵥ bstar b i := by
  conv_lhs => rw [b_eq b i]
  rw [add_dotProduct, sum_dotProduct, Finset.sum_eq_zero, add_zero]
  intro j hj
  rw [Finset.mem_range] at hj
  rw [smul_dotProduct, bstar_orth b j i (Nat.ne_of_lt hj), smul_zero]

theorem b_dot_bstar_of_lt (b : Nat → Fin m → ℚ) (i j : Nat) (h : i < j) : b i ⬝ᵥ bstar b j = 0 := by
  rw [b_eq b i, add_dotProduct, sum_dotProduct, bstar_orth b i j (Nat.ne_of_lt h), zero_add]
  apply Finset.sum_eq_zero
  intro k hk
  rw [Finset.mem_range] at hk
  rw [smul_dotProduct, bstar_orth b k j (Nat.ne_of_lt (Nat.lt_trans hk h)), smul_zero]

theorem span_bstar (b : Nat → Fin m → ℚ) (k : Nat) :
    Submodule.span ℚ (bstar b '' Set.Iio k) = Submodule.span ℚ (b '' Set.Iio k) := by
  induction k with
  | zero => simp
  | succ k ih =>
    have hI : Set.Iio (k + 1) = insert k (Set.Iio k) := Order.Iio_succ_eq_insert k
    rw [hI, Set.image_insert_eq, Set.image_insert_eq, Submodule.span_insert, Submodule.span_insert, ih]
    have hs : ∑ j ∈ Finset.range k, gsMu b k j • bstar b j ∈ Submodule.span ℚ (b '' Set.Iio k) := by
      rw [← ih]
      apply Submodule.sum_mem
      intro j hj
      exact Submodule.smul_mem _ _ (Submodule.subset_span ⟨j, Finset.mem_range.1 hj, rfl⟩)
    apply le_antisymm
    · apply sup_le _ le_sup_right
      rw [Submodule.span_singleton_le_iff_mem, bstar_eq b k]
      apply Submodule.sub_mem
      · exact Submodule.mem_sup_left (Submodule.mem_span_singleton_self _)
      · exact Submodule.mem_sup_right hs
    · apply sup_le _ le_sup_right
      rw [Submodule.span_singleton_le_iff_mem, b_eq b k]
      apply Submodule.add_mem
      · exact Submodule.mem_sup_left (Submodule.mem_span_singleton_self _)
      · exact Submodule.mem_sup_right hs

theorem span_range_bstar (b : Nat → Fin m → ℚ) (n : Nat) :
    Submodule.span ℚ (Set.range (fun i : Fin n => bstar b i)) =
      Submodule.span ℚ (Set.range (fun i : Fin n => b i)) := by
  have h : ∀ f : Nat → Fin m → ℚ, Set.range (fun i : Fin n => f i) = f '' Set.Iio n := by
    intro f; ext x
    simp only [Set.mem_range, Set.mem_image, Set.mem_Iio]
    constructor
    · rintro ⟨i, rfl⟩; exact ⟨i, i.2, rfl⟩
    · rintro ⟨i, hi, rfl⟩; exact ⟨⟨i, hi⟩, rfl⟩
  rw [h, h, span_bstar]

theorem linearIndependent_of_orth {n : Nat} (w : Fin n → Fin m → ℚ) (h0 : ∀ i, w i ≠ 0)
    (ho : ∀ i j, i ≠ j → w i ⬝ᵥ w j = 0) : LinearIndependent ℚ w := by
  rw [Fintype.linearIndependent_iff]
  intro g hg i
  have := congrArg (fun v => v ⬝ᵥ w i) hg
  simp only [sum_dotProduct, smul_dotProduct, zero_dotProduct] at this
  rw [Finset.sum_eq_single_of_mem i (Finset.mem_univ _)] at this
  · rcases mul_eq_zero.1 this with h | h
    · exact h
    · exact absurd ((dot_self_eq_zero _).1 h) (h0 i)
  · intro j _ hj
    rw [ho j i hj, smul_zero]

/-- **Independence criterion**: all Gram–Schmidt vectors `b*_0 … b*_{n-1}` are nonzero iff
`b_0 … b_{n-1}` are linearly independent over `ℚ`. -/
theorem bstar_ne_zero_iff (b : Nat → Fin m → ℚ) (n : Nat) :
    (∀ i, i < n → bstar b i ≠ 0) ↔ LinearIndependent ℚ (fun i : Fin n => b i) := by
  constructor
  · intro h
    have hli : LinearIndependent ℚ (fun i : Fin n => bstar b i) :=
      linearIndependent_of_orth _ (fun i => h i i.2)
        (fun i j hij => bstar_orth b i j (fun e => hij (Fin.ext e)))
    rw [linearIndependent_iff_card_eq_finrank_span] at hli ⊢
    rw [hli]
    unfold Set.finrank
    rw [span_range_bstar]
  · intro h i hi h0
    have hmem : b i ∈ Submodule.span ℚ (b '' Set.Iio i) := by
      rw [← span_bstar, b_eq b i, h0, zero_add]
      apply Submodule.sum_mem
      intro j hj
      exact Submodule.smul_mem _ _ (Submodule.subset_span ⟨j, Finset.mem_range.1 hj, rfl⟩)
    have hni : (⟨i, hi⟩ : Fin n) ∉ {j : Fin n | (j : Nat) < i} := by simp
    apply h.notMem_span_image hni
    show b i ∈ _
    refine Submodule.span_mono ?_ hmem
    rintro x ⟨j, hj, rfl⟩
    exact ⟨⟨j, lt_trans hj hi⟩, hj, rfl⟩

theorem bstar_pos_iff (b : Nat → Fin m → ℚ) (n : Nat) :
    (∀ i, i < n → 0 < bstar b i ⬝ᵥ bstar b i) ↔ LinearIndependent ℚ (fun i : Fin n => b i) := by
  rw [← bstar_ne_zero_iff]
  simp only [dot_self_pos]

end NTV.LllCheck
