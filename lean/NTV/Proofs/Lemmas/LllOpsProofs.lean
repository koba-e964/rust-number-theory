import NTV.Model.LllOps
import NTV.Proofs.Lemmas.HnfProofs
namespace NTV.LllOps
open Matrix
open NTV.Hnf (Inv Rect toM idMat Rect_idMat toM_idMat)

def toSt (s : State) : NTV.Hnf.St := ⟨s.B, s.H⟩

theorem redRows_eq (m : IMat) (k l : Nat) (q : Int) : redRows m k l q = NTV.Hnf.subMulRow m k l q := by
  unfold redRows NTV.Hnf.subMulRow
  apply List.ext_getElem?
  intro i
  rw [List.getElem?_set, List.getElem?_modify]
  by_cases hik : k = i
  · subst hik
    by_cases hlt : k < m.length
    · simp only [hlt, ↓reduceIte, List.getElem?_eq_getElem hlt]
      unfold rowSubMul NTV.Hnf.rowSubMul
      have : m.getD k [] = m[k] := by simp [List.getD_eq_getElem?_getD, List.getElem?_eq_getElem hlt]
      rw [this]
      show some (List.zipWith (fun x y => x - q * y) m[k] (List.getD m l [])) =
        some (List.zipWith (fun x y => x - y * q) m[k] (List.getD m l []))
      congr 2
      funext x y; ring
    · simp [hlt]
  · simp [hik]

theorem swapRows_eq (m : IMat) (k : Nat) : swapRows m k = NTV.Hnf.swapRows m k (k + 1) := rfl

theorem identity_eq (n : Nat) : identity n = idMat n := rfl

def OpValid (n : Nat) : Op → Prop
  | .red k l _ => k < n ∧ l < n ∧ k ≠ l
  | .swap k => k + 1 < n

theorem applyOp_Inv {n m : Nat} {A0 : Matrix (Fin n) (Fin m) ℤ} (s : State) (op : Op)
    (h : Inv n m A0 (toSt s)) (hv : OpValid n op) : Inv n m A0 (toSt (applyOp s op)) := by
  cases op with
  | red k l q =>
    obtain ⟨hk, hl, hkl⟩ := hv
    have := NTV.Hnf.Inv.subMul' h k l hk hl hkl q
    simpa [applyOp, red, toSt, NTV.Hnf.St.subMul, redRows_eq] using this
  | swap k =>
    have hk : k + 1 < n := hv
    have := NTV.Hnf.Inv.swap h ⟨k, by omega⟩ ⟨k + 1, hk⟩
    simpa [applyOp, swap, toSt, NTV.Hnf.St.swap, swapRows_eq] using this

end NTV.LllOps
