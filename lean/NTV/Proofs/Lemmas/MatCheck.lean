import NTV.Spec.Mat
import NTV.Proofs.Lemmas.RowOpsProofs
import NTV.Proofs.Lemmas.DetLemmas
/-! Soundness of the specification-side matrix helpers of `NTV.Spec.Mat` (used by the checkers):
`qdet`, `det`, `mul`, `transpose`, `dot` compute the Mathlib notions. -/
open Matrix
namespace NTV.MatCheck
open NTV.RowOps (toM Rect ent swapRows ent_swapRows)
open NTV.Spec.Mat (QMat IMat elimCol rankDet qdet qent toQ)

theorem qent_eq (a : QMat) (i j : Nat) : qent a i j = ent a i j := rfl

theorem ent_eq_getElem {R : Type} [Zero R] (a : List (List R)) (i j : Nat) (hi : i < a.length)
    (hj : j < a[i].length) : ent a i j = a[i][j] := NTV.RowOps.ent_getElem a i j hi hj

theorem ent_of_length_le {R : Type} [Zero R] (a : List (List R)) (i j : Nat) (hi : a.length ≤ i) :
    ent a i j = 0 := by
  rw [ent, List.getD_eq_getElem?_getD (l := a), List.getElem?_eq_none hi]
  rfl

/-- the row-elimination part of `elimCol` -/
def elimRows (a1 : QMat) (r c : Nat) (rowP : List ℚ) : QMat :=
  a1.mapIdx (fun i row =>
    if i ≤ r then row else
      let f := row.getD c 0 / rowP.getD c 0
      List.zipWith (fun x y => x - f * y) row rowP)

theorem rect_elimRows {n m : Nat} (a1 : QMat) (r c : Nat) (rowP : List ℚ) (hr : Rect n m a1)
    (hp : rowP.length = m) : Rect n m (elimRows a1 r c rowP) :=
  hr.mapIdx _ fun i row hl => by
    split
    · exact hl
    · rw [List.length_zipWith, hl, hp, min_self]

theorem ent_elimRows {n m : Nat} (a1 : QMat) (r c : Nat) (rowP : List ℚ) (hr : Rect n m a1)
    (hp : rowP.length = m) (i j : Nat) (hi : i < n) :
    ent (elimRows a1 r c rowP) i j =
      ent a1 i j + (if i ≤ r then 0 else -(ent a1 i c / rowP.getD c 0)) * rowP.getD j 0 := by
  rw [elimRows, NTV.RowOps.ent_mapIdx hr _ i j hi]
  split
  · rw [zero_mul, add_zero]
    rfl
  · rw [neg_mul, ← sub_eq_add_neg]
    exact NTV.RowOps.getD_zipWith_sub _ _ _ _ ((hr.row_length i hi).trans hp.symm)

theorem elimCol_none (a : QMat) (r c : Nat)
    (h : (List.range (a.length - r)).find? (fun t => qent a (r + t) c != 0) = none) :
    elimCol a r c = (a, false, 1) ∧ ∀ i, r ≤ i → i < a.length → ent a i c = 0 := by
  refine ⟨by simp only [elimCol, h], fun i hri hi => ?_⟩
  have := List.find?_eq_none.mp h (i - r) (List.mem_range.mpr (Nat.sub_lt_sub_right hri hi))
  rw [Nat.add_sub_cancel' hri] at this
  exact not_not.mp fun hne : qent a i c ≠ 0 => this (bne_iff_ne.mpr hne)

theorem elimCol_some (a : QMat) (r c t : Nat)
    (h : (List.range (a.length - r)).find? (fun t => qent a (r + t) c != 0) = some t) :
    elimCol a r c = (elimRows (swapRows a (r + t) r) r c (a.getD (r + t) []), true,
        if r + t = r then ent a (r + t) c else - ent a (r + t) c) ∧
      r + t < a.length ∧ ent a (r + t) c ≠ 0 := by
  have h1 := List.find?_some h
  exact ⟨by simp only [elimCol, h]; rfl, Nat.add_lt_of_lt_sub' (List.mem_range.mp (List.mem_of_find?_eq_some h)),
    bne_iff_ne.mp h1⟩

/-- the fold step of `rankDet` -/
def rdStep (st : QMat × Nat × ℚ) (c : Nat) : QMat × Nat × ℚ :=
  let (a, r, d) := st
  let (a', found, piv) := elimCol a r c
  if found then (a', r + 1, d * piv) else (a, r, d)

theorem rankDet_eq (a : QMat) (k : Nat) :
    rankDet a k = (((List.range k).foldl rdStep (a, 0, 1)).2.1, ((List.range k).foldl rdStep (a, 0, 1)).2.2) := rfl

variable {n : Nat} {A0 : Matrix (Fin n) (Fin n) ℚ}

theorem det_elimRows (a1 : QMat) (r c : Nat) (rowP : List ℚ) (hr : Rect n n a1) (hp : rowP.length = n)
    (hrn : r < n) (hrow : ∀ j, rowP.getD j 0 = ent a1 r j) :
    (toM n n (elimRows a1 r c rowP)).det = (toM n n a1).det :=
  det_eq_of_forall_row_eq_smul_add_const
    (fun i : Fin n => if (i : Nat) ≤ r then 0 else -(ent a1 i c / rowP.getD c 0)) ⟨r, hrn⟩ (if_pos le_rfl)
    fun i j => (ent_elimRows a1 r c rowP hr hp i j i.2).trans (by rw [hrow j]; rfl)

open NTV.RowOps (Tri)

/-- invariant of the column loop of `rankDet` before column `c`: once a column had no pivot, `A0` is
singular and `qdet` answers 0 whatever the state holds, so nothing more is tracked -/
def Inv (n : Nat) (A0 : Matrix (Fin n) (Fin n) ℚ) (c : Nat) (a : QMat) (r : Nat) (d : ℚ) : Prop :=
  r < c ∧ A0.det = 0 ∨ r = c ∧ Tri n A0 c a d

section
variable {c : Nat} {a : QMat} {d : ℚ}

theorem tri_pivot (h : Tri n A0 c a d) (hc : c < n) {p : Nat} (hcp : c ≤ p) (hp : p < n)
    (hne : ent a p c ≠ 0) :
    Tri n A0 (c + 1) (elimRows (swapRows a p c) c c (a.getD p []))
      (d * if p = c then ent a p c else - ent a p c) := by
  have ra1 := h.ra.swapRows p c hp hc
  have hlen := h.ra.row_length p hp
  have hent1 := fun x y => ent_swapRows a p c x y (h.ra.1.symm ▸ hp) (h.ra.1.symm ▸ hc)
  have hrow : ∀ j, (a.getD p []).getD j 0 = ent (swapRows a p c) c j := fun j =>
    ((hent1 c j).trans (if_pos rfl)).symm
  have hlow1 : ∀ i j, i < n → j < c → j < i → ent (swapRows a p c) i j = 0 := fun i j hi hj hji => by
    rw [hent1, h.low p j hp hj (Nat.lt_of_lt_of_le hj hcp), h.low c j hc hj hj, h.low i j hi hj hji,
      ite_self, ite_self]
  have hent := fun i j hi => ent_elimRows (swapRows a p c) c c (a.getD p []) ra1 hlen i j hi
  have hfix : ∀ i j, i < c + 1 →
      ent (elimRows (swapRows a p c) c c (a.getD p [])) i j = ent (swapRows a p c) i j := fun i j hi => by
    rw [hent i j (Nat.lt_of_lt_of_le hi hc), if_pos (Nat.le_of_lt_succ hi), zero_mul, add_zero]
  have := h.advance (rect_elimRows _ c c _ ra1 hlen) (NTV.RowOps.swapSign_mul_self p c)
    ((det_elimRows _ c c _ ra1 hlen hc hrow).trans (NTV.RowOps.det_swapRows_or_same n a h.ra p c hp hc))
    (fun i j hi hj hji => by
      rcases Nat.lt_or_ge c i with hci | hic
      · rw [hent i j hi, if_neg (Nat.not_le_of_lt hci)]
        rcases Nat.lt_succ_iff_lt_or_eq.mp hj with hj | rfl
        · rw [hlow1 i j hi hj hji, hrow j, hlow1 c j hc hj hj, mul_zero, add_zero]
        · rw [neg_mul, div_mul_cancel₀ _ (show (a.getD p []).getD j 0 ≠ 0 from hne), add_neg_cancel]
      · rw [hfix i j (Nat.lt_succ_of_le hic)]
        exact hlow1 i j hi (Nat.lt_of_lt_of_le hji hic) hji)
    (fun k hk => by
      rw [hfix k k (Nat.lt_succ_of_lt hk), hent1, if_neg (Nat.ne_of_lt hk),
        if_neg (Nat.ne_of_lt (Nat.lt_of_lt_of_le hk hcp))])
  rwa [hfix c c (Nat.lt_succ_self c), hent1, if_pos rfl, mul_comm _ d, mul_assoc, ite_mul, one_mul,
    neg_one_mul] at this

theorem Inv.step {r : Nat} (h : Inv n A0 c a r d) (hc : c < n) :
    ∃ a' r' d', rdStep (a, r, d) c = (a', r', d') ∧ Inv n A0 (c + 1) a' r' d' := by
  cases hf : (List.range (a.length - r)).find? (fun t => qent a (r + t) c != 0) with
  | none =>
    obtain ⟨e1, e2⟩ := elimCol_none a r c hf
    refine ⟨a, r, d, by simp only [rdStep, e1]; rfl, .inl ?_⟩
    rcases h with ⟨hlt, h0⟩ | ⟨rfl, h⟩
    · exact ⟨Nat.lt_succ_of_lt hlt, h0⟩
    · exact ⟨Nat.lt_succ_self r, h.singular hc fun i hri hi => e2 i hri (h.ra.1.symm ▸ hi)⟩
  | some t =>
    obtain ⟨e1, e2, e3⟩ := elimCol_some a r c t hf
    refine ⟨_, _, _, by simp only [rdStep, e1]; rfl, ?_⟩
    rcases h with ⟨hlt, h0⟩ | ⟨rfl, h⟩
    · exact .inl ⟨Nat.succ_lt_succ hlt, h0⟩
    · exact .inr ⟨rfl, tri_pivot h hc (Nat.le_add_right r t) (h.ra.1 ▸ e2) e3⟩

theorem Inv.fold (a : QMat) (hr : Rect n n a) (k : Nat) (hk : k ≤ n) :
    ∃ b r d, (List.range k).foldl rdStep (a, 0, 1) = (b, r, d) ∧ Inv n (toM n n a) k b r d := by
  induction k with
  | zero => exact ⟨a, 0, 1, rfl, .inr ⟨rfl, Tri.init hr⟩⟩
  | succ k ih =>
    obtain ⟨b, r, d, e, h⟩ := ih (Nat.le_of_succ_le hk)
    obtain ⟨b', r', d', e', h'⟩ := h.step hk
    exact ⟨b', r', d', by rw [List.range_succ, List.foldl_append, e]; exact e', h'⟩

end

theorem qdet_spec (a : NTV.Spec.Mat.QMat) (n : Nat) (hr : Rect n n a) :
    NTV.Spec.Mat.qdet a = (toM n n a).det := by
  obtain ⟨b, r, d, e, h⟩ := Inv.fold a hr n le_rfl
  simp only [qdet, rankDet_eq, hr.1, e]
  rcases h with ⟨hlt, h0⟩ | ⟨rfl, h⟩
  · rw [if_neg (Nat.ne_of_lt hlt), h0]
  · rw [if_pos rfl, h.final]

example : NTV.Spec.Mat.qdet [[0, 2, 1], [3, 1, 4], [1, 0, 2]] = -5 := by decide +kernel
example : (toM 3 3 ([[0, 2, 1], [3, 1, 4], [1, 0, 2]] : QMat)).det = -5 := by
  rw [← qdet_spec _ 3 ⟨rfl, by decide⟩]; decide +kernel

theorem rect_toQ {n m : Nat} (a : IMat) (hr : Rect n m a) : Rect n m (toQ a) :=
  hr.map_map _

theorem toM_toQ (n m : Nat) (a : IMat) :
    toM n m (toQ a) = (toM n m a).map (Int.cast : ℤ → ℚ) :=
  NTV.RowOps.toM_map_map _ Int.cast_zero n m a

theorem det_spec (a : NTV.Spec.Mat.IMat) (n : Nat) (hr : Rect n n a) :
    NTV.Spec.Mat.det a = (toM n n a).det := by
  rw [NTV.Spec.Mat.det, qdet_spec (toQ a) n (rect_toQ a hr), toM_toQ, ← Int.cast_det, Rat.num_intCast]

example : NTV.Spec.Mat.det [[0, 2, 1], [3, 1, 4], [1, 0, 2]] = -5 := by decide +kernel
example : (toM 3 3 ([[0, 2, 1], [3, 1, 4], [1, 0, 2]] : IMat)).det = -5 := by
  rw [← det_spec _ 3 ⟨rfl, by decide⟩]; decide +kernel

open NTV.Spec.Mat (dot mul cols)

theorem dot_spec (u v : List ℤ) (m : Nat) (hu : u.length = m) (hv : v.length = m) :
    dot u v = (fun i : Fin m => u.getD i 0) ⬝ᵥ (fun i : Fin m => v.getD i 0) := by
  rw [dot, ← List.sum_eq_foldl, NTV.RowOps.zipWith_eq_ofFn _ u v m 0 0 hu hv, List.sum_ofFn]
  rfl

example : dot [1, 2, 3] [4, 5, 6] = 32 := by decide +kernel

theorem cols_eq {m k : Nat} (b : IMat) (hb : Rect m k b) (hm : 0 < m) : cols b = k := by
  cases b with
  | nil => exact absurd hb.1.symm (Nat.ne_of_gt hm)
  | cons r b => exact hb.2 r List.mem_cons_self

theorem getD_transpose (b : IMat) (j : Nat) (hj : j < cols b) :
    (NTV.Spec.Mat.transpose b).getD j [] = b.map (fun r => r.getD j 0) := by
  rw [NTV.Spec.Mat.transpose, NTV.RowOps.getD_map_of_lt _ _ j (by rwa [List.length_range]) _ 0,
    List.getD_eq_getElem?_getD, List.getElem?_range hj]
  rfl

theorem getD_col (b : IMat) (j i : Nat) : (b.map (fun r => r.getD j 0)).getD i 0 = ent b i j := by
  rw [ent, List.getD_eq_getElem?_getD, List.getElem?_map, List.getD_eq_getElem?_getD (l := b)]
  cases b[i]? <;> rfl

theorem ent_transpose (b : IMat) (j i : Nat) (hj : j < cols b) :
    ent (NTV.Spec.Mat.transpose b) j i = ent b i j := by
  rw [ent, getD_transpose b j hj, getD_col]

/-- the column count is read off the first row, hence `cols b = k`, which holds as soon as `b` has a
row (`cols_eq`) -/
theorem transpose_spec (b : IMat) (m k : Nat) (hb : Rect m k b) (hc : cols b = k) :
    Rect k m (NTV.Spec.Mat.transpose b) ∧ toM k m (NTV.Spec.Mat.transpose b) = (toM m k b)ᵀ := by
  refine ⟨Rect.of_map _ (List.length_range.trans hc) fun j _ => (List.length_map _).trans hb.1, ?_⟩
  ext j i
  exact ent_transpose b j i (hc.symm ▸ j.2)

example : NTV.Spec.Mat.transpose [[1, 2, 3], [4, 5, 6]] = [[1, 4], [2, 5], [3, 6]] := by decide +kernel

theorem ent_mul (a b : IMat) {n m k : Nat} (ha : Rect n m a) (hb : Rect m k b) (hc : cols b = k)
    (i j : Nat) (hi : i < n) (hj : j < k) : ent (mul a b) i j = ∑ l : Fin m, ent a i l * ent b l j := by
  rw [ent, mul, NTV.RowOps.getD_map_of_lt _ a i (ha.1.symm ▸ hi) _ [],
    NTV.RowOps.getD_map_of_lt _ _ j ((transpose_spec b m k hb hc).1.1.symm ▸ hj) _ [], getD_transpose b j (hc.symm ▸ hj),
    dot_spec _ _ m (ha.row_length i hi) (by rw [List.length_map, hb.1])]
  exact Finset.sum_congr rfl fun l _ => congrArg (ent a i l * ·) (getD_col b j l)

/-- The inner dimension must be positive because `mul` reads the column count of `b` off its first
row (for `m = 0`, `k > 0`, `n > 0` the result has rows of length 0, see the last example). -/
theorem mul_spec (a b : NTV.Spec.Mat.IMat) (n m k : Nat) (ha : Rect n m a) (hb : Rect m k b) (hm : 0 < m) :
    Rect n k (NTV.Spec.Mat.mul a b) ∧ toM n k (NTV.Spec.Mat.mul a b) = toM n m a * toM m k b := by
  have hc := cols_eq b hb hm
  refine ⟨Rect.of_map _ ha.1 fun r _ => (List.length_map _).trans (transpose_spec b m k hb hc).1.1, ?_⟩
  ext i j
  rw [Matrix.mul_apply]
  exact ent_mul a b ha hb hc i j i.2 j.2

example : mul [[1, 2, 3], [4, 5, 6]] [[1, 0], [0, 1], [2, -1]] = [[7, -1], [16, -1]] := by decide +kernel
example : toM 2 2 (mul [[1, 2, 3], [4, 5, 6]] [[1, 0], [0, 1], [2, -1]]) =
    toM 2 3 ([[1, 2, 3], [4, 5, 6]] : IMat) * toM 3 2 ([[1, 0], [0, 1], [2, -1]] : IMat) :=
  (mul_spec [[1, 2, 3], [4, 5, 6]] [[1, 0], [0, 1], [2, -1]] 2 3 2 ⟨rfl, by decide⟩ ⟨rfl, by decide⟩
    (by decide)).2
example : mul [[]] [] = [[]] ∧ ¬ Rect 1 2 (mul [[]] []) :=
  ⟨by decide +kernel, fun h => absurd (h.2 [] (by decide +kernel)) (by decide)⟩

end NTV.MatCheck
