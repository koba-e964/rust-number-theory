import Mathlib.RingTheory.IntegralClosure.IntegrallyClosed
import Mathlib.RingTheory.IntegralClosure.IsIntegral.Basic
import Mathlib.RingTheory.Finiteness.Basic
import Mathlib.RingTheory.Adjoin.FG
/-! # "Maximal order ⇒ integrally closed", abstract part.

`R` a commutative ring that is a finite ℤ-module, embedded in a field `K`; `O` its image. If every element of `K`
has a non-zero integer multiple in `O` (full rank) and `O` has no proper over-ring of finite index
(`∀ m ≥ 1, O ≤ S → m·S ⊆ O → S ≤ O`: the conclusion of `NTV.R2Abs.le_of_pmax_all`), then `R` is integrally closed:
for `y ∈ K` integral over `R` the ring `R[y]` is a finite ℤ-module, hence `m·R[y] ⊆ O` for some `m ≥ 1`. -/
namespace NTV.MaxOrd

variable {R K : Type*} [CommRing R] [Field K] [Algebra R K]

theorem common_denominator (O : Subring K) (hspan : ∀ x : K, ∃ d : ℕ, d ≠ 0 ∧ (d : K) * x ∈ O)
    (s : Finset K) : ∃ m : ℕ, 1 ≤ m ∧ ∀ x ∈ s, (m : K) * x ∈ O := by
  classical
  induction s using Finset.induction_on with
  | empty => exact ⟨1, le_refl _, by simp⟩
  | insert a s _ ih =>
    obtain ⟨m, hm, hs⟩ := ih
    obtain ⟨d, hd, ha⟩ := hspan a
    refine ⟨d * m, Nat.one_le_iff_ne_zero.mpr (Nat.mul_ne_zero hd (by omega)), ?_⟩
    intro x hx
    rcases Finset.mem_insert.mp hx with rfl | hx
    · rw [Nat.cast_mul, mul_comm (d : K), mul_assoc]
      exact O.mul_mem (natCast_mem O m) ha
    · rw [Nat.cast_mul, mul_assoc]
      exact O.mul_mem (natCast_mem O d) (hs x hx)

theorem exists_mul_mem_of_fg (O : Subring K) (hspan : ∀ x : K, ∃ d : ℕ, d ≠ 0 ∧ (d : K) * x ∈ O)
    (N : Submodule ℤ K) (hN : N.FG) : ∃ m : ℕ, 1 ≤ m ∧ ∀ x ∈ N, (m : K) * x ∈ O := by
  obtain ⟨s, rfl⟩ := hN
  obtain ⟨m, hm, hall⟩ := common_denominator O hspan s
  refine ⟨m, hm, fun x hx => ?_⟩
  induction hx using Submodule.span_induction with
  | mem x h => exact hall x h
  | zero => rw [mul_zero]; exact O.zero_mem
  | add x y _ _ hx hy => rw [mul_add]; exact O.add_mem hx hy
  | smul z x _ hx => rw [zsmul_eq_mul, mul_left_comm]; exact O.mul_mem (intCast_mem O z) hx

theorem adjoin_fg_int [Module.Finite ℤ R] (y : K) (hy : IsIntegral R y) :
    ((Algebra.adjoin R {y}).toSubring.toAddSubgroup.toIntSubmodule).FG := by
  have h1 : Module.Finite R (Algebra.adjoin R {y}) :=
    Module.Finite.of_fg hy.fg_adjoin_singleton
  have h2 : Module.Finite ℤ (Algebra.adjoin R {y}) := Module.Finite.trans R _
  exact Module.Finite.iff_fg.mp h2

theorem mem_range_of_isIntegral [Module.Finite ℤ R]
    (hspan : ∀ x : K, ∃ d : ℕ, d ≠ 0 ∧ (d : K) * x ∈ (algebraMap R K).range)
    (hmax : ∀ m : ℕ, 1 ≤ m → ∀ S : Subring K, (algebraMap R K).range ≤ S →
      (∀ x ∈ S, (m : K) * x ∈ (algebraMap R K).range) → S ≤ (algebraMap R K).range)
    (y : K) (hy : IsIntegral R y) : y ∈ (algebraMap R K).range := by
  obtain ⟨m, hm, hall⟩ := exists_mul_mem_of_fg _ hspan _ (adjoin_fg_int y hy)
  have hle : (algebraMap R K).range ≤ (Algebra.adjoin R {y}).toSubring := by
    rintro _ ⟨r, rfl⟩
    exact (Algebra.adjoin R {y}).algebraMap_mem r
  apply hmax m hm (Algebra.adjoin R {y}).toSubring hle (fun x hx => hall x hx)
  exact Algebra.subset_adjoin (Set.mem_singleton y)

theorem isIntegrallyClosed_of_range (hinj : Function.Injective (algebraMap R K))
    (h : ∀ y : K, IsIntegral R y → y ∈ (algebraMap R K).range) : IsIntegrallyClosed R := by
  have : FaithfulSMul R K := (faithfulSMul_iff_algebraMap_injective R K).mpr hinj
  have : IsIntegrallyClosedIn R K := isIntegrallyClosedIn_iff.mpr ⟨hinj, fun {x} hx => h x hx⟩
  exact IsIntegrallyClosed.of_isIntegrallyClosedIn R K

end NTV.MaxOrd
