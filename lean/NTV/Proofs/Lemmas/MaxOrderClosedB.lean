import NTV.Proofs.Lemmas.Round2RingN
/-! # The stored basis of an order containing 1 has first row (1, 0, …, 0).

A stored order (`fromBasis o = .ok o`) is `(1/L)·H` with `H` a Hermite normal form: lower triangular with positive
diagonal. If 1 is in the module then `1 = c_0·ω_0`, `ω_0 = 1/c_0`; if moreover the module is closed under
multiplication then `ω_0² = 1/c_0²` is an integral multiple of `ω_0`, so `c_0 = 1`. -/
open Matrix Finset Polynomial
namespace NTV.MaxOrd
open NTV.Ord NTV.PolyG NTV.Round2
open NTV.TableAbs (Ctx psi castV)
open NTV.RowOps (toM Rect ent)

theorem comb_lower {n : Nat} (hn : 0 < n) (M : Matrix (Fin n) (Fin n) ℚ)
    (hlow : ∀ i j : Fin n, i.val < j.val → M i j = 0) (hdiag : ∀ i : Fin n, 0 < M i i) (c : Fin n → ℚ)
    (hc : c ᵥ* M = fun j => if j.val = 0 then 1 else 0) :
    (∀ k : Fin n, 0 < k.val → c k = 0) ∧ c ⟨0, hn⟩ * M ⟨0, hn⟩ ⟨0, hn⟩ = 1 := by
  have key : ∀ d : Nat, ∀ k : Fin n, n - k.val ≤ d → 0 < k.val → c k = 0 := by
    intro d
    induction d with
    | zero => intro k hk _; have := k.isLt; omega
    | succ d ih =>
      intro k hk hk0
      have h1 := congrFun hc k
      simp only [Matrix.vecMul, dotProduct] at h1
      rw [if_neg (by omega), Finset.sum_eq_single k] at h1
      · rcases mul_eq_zero.mp h1 with h | h
        · exact h
        · exact absurd h (hdiag k).ne'
      · intro i _ hik
        rcases Nat.lt_or_ge i.val k.val with hlt | hge
        · rw [hlow i k hlt, mul_zero]
        · have hne : i.val ≠ k.val := fun e => hik (Fin.ext e)
          rw [ih i (by have := i.isLt; omega) (by omega), zero_mul]
      · intro h; exact absurd (Finset.mem_univ _) h
  refine ⟨fun k hk => key n k (by omega) hk, ?_⟩
  have h1 := congrFun hc ⟨0, hn⟩
  simp only [Matrix.vecMul, dotProduct] at h1
  rw [if_pos trivial, Finset.sum_eq_single ⟨0, hn⟩] at h1
  · exact h1
  · intro i _ hi0
    have : 0 < i.val := by
      rcases Nat.eq_zero_or_pos i.val with h | h
      · exact absurd (Fin.ext h) hi0
      · exact h
    rw [key n i (by omega) this, zero_mul]
  · intro h; exact absurd (Finset.mem_univ _) h

variable {f : List Int} {o : QMat} {n : Nat}

theorem toPoly_row_const (ho : Rect n n o) (i : Fin n) (hn : 0 < n)
    (hz : ∀ j : Fin n, 0 < j.val → toM n n o i j = 0) :
    toPoly (o.getD i []) = C (toM n n o i ⟨0, hn⟩) := by
  ext c
  rw [coeff_toPoly, coeff_C]
  by_cases hc : c < n
  · by_cases hc0 : c = 0
    · subst hc0; simp [toM, ent]
    · rw [if_neg hc0]
      exact hz ⟨c, hc⟩ (Nat.pos_of_ne_zero hc0)
  · have hc0 : c ≠ 0 := by omega
    rw [if_neg hc0]
    exact getD_of_length_le _ c (by rw [ho.row_length i i.2]; omega)

theorem _root_.NTV.Round2.GoodOrder.first_entry (g : GoodOrder f n o) :
    toM n n o ⟨0, g.setup.pos⟩ ⟨0, g.setup.pos⟩ = 1 ∧
      ∀ j : Fin n, 0 < j.val → toM n n o ⟨0, g.setup.pos⟩ j = 0 := by
  classical
  have hn : 0 < n := g.setup.pos
  obtain ⟨hlow, hdiag⟩ := stored_lower o n hn g.setup.rect g.setup.det g.stored
  obtain ⟨c, hc⟩ := g.one
  obtain ⟨_, h00⟩ := comb_lower hn _ hlow hdiag _ hc
  have hz : ∀ j : Fin n, 0 < j.val → toM n n o ⟨0, hn⟩ j = 0 := fun j hj => hlow ⟨0, hn⟩ j hj
  refine ⟨?_, hz⟩
  set a : ℚ := toM n n o ⟨0, hn⟩ ⟨0, hn⟩ with ha
  obtain ⟨_, hC⟩ := g.setup.ctx_of_closed g.closed
  -- ω_0 is the constant a
  have hΩ : omegaK f o n ⟨0, hn⟩ = qK f a := by
    unfold omegaK
    rw [toPoly_row_const g.setup.rect ⟨0, hn⟩ hn hz]
    rfl
  -- ω_0² = a·ω_0 has integral coordinates
  have h1 := hC.table ⟨0, hn⟩ ⟨0, hn⟩
  have h2 : omegaK f o n ⟨0, hn⟩ * omegaK f o n ⟨0, hn⟩ =
      psi (qK f) (omegaK f o n) (a • (Pi.single (⟨0, hn⟩ : Fin n) (1 : ℚ))) := by
    rw [NTV.TableAbs.psi_smul, NTV.TableAbs.psi_single, ← hΩ]
  have h3 : (a • (Pi.single (⟨0, hn⟩ : Fin n) (1 : ℚ))) =
      fun k => ((tabT (tableOf f o n) n ⟨0, hn⟩ ⟨0, hn⟩ k : ℤ) : ℚ) := by
    apply hC.inj
    rw [← h2, h1]
    rfl
  have h4 := congrFun h3 ⟨0, hn⟩
  simp only [Pi.smul_apply, Pi.single_eq_same, smul_eq_mul, mul_one] at h4
  -- c_0 · a = 1 with a a positive integer
  set z : ℤ := tabT (tableOf f o n) n ⟨0, hn⟩ ⟨0, hn⟩ ⟨0, hn⟩ with hzdef
  have hpos : 0 < a := hdiag ⟨0, hn⟩
  have hzpos : 0 < z := Int.cast_pos.mp (h4 ▸ hpos)
  have hcz : c ⟨0, hn⟩ * z = 1 := by
    apply Int.cast_injective (α := ℚ)
    rw [Int.cast_mul, Int.cast_one, ← h4]
    exact h00
  have hz1 : z = 1 := by
    have hdvd : z ∣ 1 := ⟨c ⟨0, hn⟩, by rw [mul_comm]; exact hcz.symm⟩
    have := Int.le_of_dvd one_pos hdvd
    omega
  rw [h4, hz1, Int.cast_one]

theorem _root_.NTV.Round2.GoodOrder.first_row (g : GoodOrder f n o) : o.getD 0 [] = 1 :: List.replicate (n - 1) 0 := by
  have hn : 0 < n := g.setup.pos
  obtain ⟨h0, hz⟩ := g.first_entry
  have hlen := g.setup.rect.row_length 0 hn
  apply List.ext_getElem
  · rw [hlen]; simp; omega
  · intro j h1 h2
    have hj : j < n := by rw [← hlen]; exact h1
    have e : (o.getD 0 [])[j] = toM n n o ⟨0, hn⟩ ⟨j, hj⟩ := by
      show (o.getD 0 [])[j] = (o.getD 0 []).getD j 0
      exact List.getElem_eq_getD 0
    rw [e]
    cases j with
    | zero => simpa using h0
    | succ j =>
      rw [hz ⟨j + 1, hj⟩ (by simp)]
      simp

theorem _root_.NTV.Round2.GoodOrder.omegaK_zero (g : GoodOrder f n o) (h : 0 < n) : omegaK f o n ⟨0, h⟩ = 1 := by
  show NTV.Alg.cls f (toPoly (o.getD 0 [])) = 1
  rw [g.first_row, toPoly_unit_row, Polynomial.C_1, (NTV.Alg.cls f).map_one]

end NTV.MaxOrd
