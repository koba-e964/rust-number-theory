import NTV.Proofs.Lemmas.MaxOrderClosedA
import NTV.Proofs.Lemmas.MaxOrderClosedB
import NTV.Proofs.Lemmas.IdealNormE
import NTV.Proofs.Lemmas.KummerDedekindD
/-! # The maximal order returned by Round 2 is integrally closed.

The ring `(ℤⁿ, +, ⋆)` of the multiplication table embeds in `K = ℚ[X]/(f)` (`f` irreducible) by `x ↦ Σ x_i Ω_i`; its
image is the ℤ-span of the basis, which is `p`-maximal at every prime, hence has no proper over-ring of finite index,
hence (`MaxOrderClosedA`) contains everything integral over it. -/
open Matrix Finset Polynomial
namespace NTV.MaxOrd
open NTV.Ord NTV.PolyG NTV.Round2 NTV.IdealP NTV.R2Abs
open NTV.TableAbs (Ctx psi castV)
open NTV.RowOps (toM Rect ent)
open NTV.Alg (modulus cls cls_eq_iff)

/-- `RT T` (C16) and `Rt T` (C17) are both `ℤⁿ` with the product `⋆` of the table: the identity map is a ring
isomorphism -/
def rtEquiv {t : NTV.Ord.Table} {n : Nat} (T : TableRing t n) : RT T ≃+* NTV.KD.Rt T where
  toFun x := x
  invFun x := x
  left_inv _ := rfl
  right_inv _ := rfl
  map_mul' _ _ := rfl
  map_add' _ _ := rfl

theorem rtEquiv_toVec {t : NTV.Ord.Table} {n : Nat} (T : TableRing t n) (x : RT T) :
    NTV.KD.toVec T (rtEquiv T x) = RT.toVec T x := rfl

theorem isIntegrallyClosed_Rt_iff {t : NTV.Ord.Table} {n : Nat} (T : TableRing t n) :
    IsIntegrallyClosed (NTV.KD.Rt T) ↔ IsIntegrallyClosed (RT T) :=
  ⟨fun _ => IsIntegrallyClosed.of_equiv (rtEquiv T).symm, fun _ => IsIntegrallyClosed.of_equiv (rtEquiv T)⟩

theorem isDomain_Rt_iff {t : NTV.Ord.Table} {n : Nat} (T : TableRing t n) : IsDomain (NTV.KD.Rt T) ↔ IsDomain (RT T) :=
  ⟨fun _ => (rtEquiv T).toMulEquiv.isDomain _, fun _ => (rtEquiv T).symm.toMulEquiv.isDomain _⟩

theorem clear_den {n : Nat} (c : Fin n → ℚ) :
    ∃ d : ℕ, d ≠ 0 ∧ ∃ z : Fin n → ℤ, ∀ i, (d : ℚ) * c i = z i := by
  classical
  refine ⟨∏ i, (c i).den, ?_, fun i => (c i).num * ∏ j ∈ Finset.univ.erase i, ((c j).den : ℤ), ?_⟩
  · exact Finset.prod_ne_zero_iff.mpr (fun i _ => (c i).den_nz)
  · intro i
    rw [← Finset.mul_prod_erase Finset.univ (fun j => (c j).den) (Finset.mem_univ i)]
    push_cast
    have := Rat.mul_den_eq_num (c i)
    calc ((c i).den : ℚ) * (∏ j ∈ Finset.univ.erase i, ((c j).den : ℚ)) * c i
        = (c i * (c i).den) * ∏ j ∈ Finset.univ.erase i, ((c j).den : ℚ) := by ring
      _ = _ := by rw [this]

section abstract
variable {K : Type*} [Field K] {n : ℕ} {q : ℚ →+* K} {Ω : Fin n → K} {t : NTV.Ord.Table}

/-- the embedding `x ↦ Σ x_i Ω_i` of the ring of the table -/
noncomputable def phiHom (hC : Ctx q Ω (tabT t n)) (T : TableRing t n) (hΩ : Ω ⟨0, T.pos⟩ = 1) : RT T →+* K where
  toFun x := phi q Ω (RT.toVec T x)
  map_one' := by rw [RT.toVec_one, phi_e, hΩ]
  map_mul' x y := by rw [RT.toVec_mul, phi_star hC]
  map_zero' := by rw [(RT.toVec T).map_zero, phi_zero]
  map_add' x y := by
    rw [(RT.toVec T).map_add]
    exact el_add _ _

theorem phiHom_range (hC : Ctx q Ω (tabT t n)) (T : TableRing t n) (hΩ : Ω ⟨0, T.pos⟩ = 1)
    (one : ∃ e : Fin n → ℤ, el q Ω e = 1) : (phiHom hC T hΩ).range = Olat hC one := by
  ext x
  constructor
  · rintro ⟨y, rfl⟩
    exact ⟨RT.toVec T y, rfl⟩
  · rintro ⟨c, rfl⟩
    exact ⟨RT.ofVec T c, rfl⟩

theorem exists_mul_mem_Olat {T : Fin n → Fin n → Fin n → ℤ} (hC : Ctx q Ω T) (one : ∃ e : Fin n → ℤ, el q Ω e = 1)
    (hspan : ∀ x : K, ∃ c : Fin n → ℚ, psi q Ω c = x) (x : K) : ∃ d : ℕ, d ≠ 0 ∧ (d : K) * x ∈ Olat hC one := by
  obtain ⟨c, rfl⟩ := hspan x
  obtain ⟨d, hd, z, hz⟩ := clear_den c
  refine ⟨d, hd, z, ?_⟩
  rw [← map_natCast q d, ← NTV.TableAbs.psi_smul]
  unfold el
  congr 1
  funext i
  exact (hz i).symm

/-- a lattice that is `p`-maximal at every prime is exactly the set of elements of `K` integral over ℤ: every element of it
is integral because it is the image of the ring of the table, a finite ℤ-module; every integral `x` lies in it by
`mem_range_of_isIntegral` -/
theorem isIntegral_iff_mem_Olat (hC : Ctx q Ω (tabT t n)) (T : TableRing t n) (hΩ : Ω ⟨0, T.pos⟩ = 1)
    (one : ∃ e : Fin n → ℤ, el q Ω e = 1) (hspan : ∀ x : K, ∃ c : Fin n → ℚ, psi q Ω c = x)
    (hmax : ∀ p : ℕ, p.Prime → PMax (Olat hC one) p) (x : K) : IsIntegral ℤ x ↔ x ∈ Olat hC one := by
  let _ : Algebra (RT T) K := (phiHom hC T hΩ).toAlgebra
  have halg : algebraMap (RT T) K = phiHom hC T hΩ := rfl
  have hrange : (algebraMap (RT T) K).range = Olat hC one := by rw [halg]; exact phiHom_range hC T hΩ one
  rw [← hrange]
  constructor
  · intro hx
    apply mem_range_of_isIntegral (R := RT T) (K := K)
    · rw [hrange]
      exact exists_mul_mem_Olat hC one hspan
    · rw [hrange]
      exact le_of_pmax_all (Olat hC one) hmax
    · exact hx.tower_top
  · rintro ⟨y, rfl⟩
    exact map_isIntegral_int (phiHom hC T hΩ) (Algebra.IsIntegral.isIntegral (R := ℤ) y)

theorem RT_integrallyClosed_of_pmax (hC : Ctx q Ω (tabT t n)) (T : TableRing t n) (hΩ : Ω ⟨0, T.pos⟩ = 1)
    (one : ∃ e : Fin n → ℤ, el q Ω e = 1) (hspan : ∀ x : K, ∃ c : Fin n → ℚ, psi q Ω c = x)
    (hmax : ∀ p : ℕ, p.Prime → PMax (Olat hC one) p) : IsIntegrallyClosed (RT T) := by
  let _ : Algebra (RT T) K := (phiHom hC T hΩ).toAlgebra
  refine isIntegrallyClosed_of_range (R := RT T) (K := K)
    (fun x y hxy => (RT.toVec T).injective (phi_inj hC hxy)) (fun y hy => ?_)
  rw [show (algebraMap (RT T) K).range = Olat hC one from phiHom_range hC T hΩ one]
  exact (isIntegral_iff_mem_Olat hC T hΩ one hspan hmax y).mp (isIntegral_trans y hy)

end abstract

variable {f : List Int} {n : Nat}

/-- when `Ω` has as many members as the dimension it is a basis, so every element is a rational combination -/
theorem _root_.NTV.TableAbs.Ctx.psi_surj {K : Type*} [CommRing K] [Algebra ℚ K] {n : ℕ} [NeZero n] {q : ℚ →+* K}
    {Ω : Fin n → K} {T : Fin n → Fin n → Fin n → ℤ} (h : Ctx q Ω T) (hdim : Module.finrank ℚ K = n) (x : K) :
    ∃ c : Fin n → ℚ, psi q Ω c = x := by
  refine ⟨(h.basis hdim).repr x, ?_⟩
  rw [NTV.TableAbs.psi_eq_sum_smul]
  simp only [← h.basis_apply hdim]
  exact (h.basis hdim).sum_repr x

/-- reducible, so that instances found through it unify with those of `AdjoinRoot (modulus f)` -/
@[reducible] noncomputable def fieldK (hirr : Irreducible (modulus f)) : Field (ℚ[X] ⧸ Ideal.span {modulus f}) :=
  haveI : Fact (Irreducible (modulus f)) := ⟨hirr⟩
  (inferInstance : Field (AdjoinRoot (modulus f)))

theorem GoodOrder.integrallyClosed {O : QMat} (g : GoodOrder f n O) (hirr : Irreducible (modulus f))
    (hmax : ∀ p : ℕ, p.Prime → PMaximal f n O p) :
    getMultTable O f = .ok (tableOf f O n) ∧ IsTable f O n (tableOf f O n) ∧
      O.getD 0 [] = 1 :: List.replicate (n - 1) 0 ∧
      ∀ T : TableRing (tableOf f O n) n, IsDomain (RT T) ∧ IsIntegrallyClosed (RT T) := by
  obtain ⟨ht, hC⟩ := g.setup.ctx_of_closed g.closed
  have h0 := g.first_row
  have hget := g.setup.getMultTable_ok (g.setup.closed_iff.mp g.closed)
  refine ⟨hget, ht, h0, fun T => ⟨isDomain_of_isTable g.setup ht hirr T, ?_⟩⟩
  have one := g.one.el_one g.setup
  have : NeZero n := ⟨Nat.pos_iff_ne_zero.mp T.pos⟩
  have hspan := hC.psi_surj g.setup.finrank
  let _ := fieldK hirr
  exact RT_integrallyClosed_of_pmax hC T (g.omegaK_zero T.pos) one hspan
    (fun p hp => (hmax p hp).pmaxK hp.ne_zero g hC one)

/-- **the maximal order is integrally closed.** For `f` canonical and irreducible over ℚ, if
`find_integral_basis(f)` returns `O` then `get_mult_table` succeeds on `O` (with the table `tableOf f O n`), the first
row of `O` is (1, 0, …, 0), and the ring `(ℤⁿ, +, ⋆)` of the table is an integrally closed domain. -/
theorem findIntegralBasis_integrallyClosed (f : List Int) (hf : Canon f) (hirr : Irreducible (modulus f))
    (O : Order) (H : findIntegralBasis f = .ok O) :
    getMultTable O f = .ok (tableOf f O (degU f)) ∧ IsTable f O (degU f) (tableOf f O (degU f)) ∧
      O.getD 0 [] = 1 :: List.replicate (degU f - 1) 0 ∧
      ∀ T : TableRing (tableOf f O (degU f)) (degU f), IsDomain (RT T) ∧ IsIntegrallyClosed (RT T) :=
  GoodOrder.integrallyClosed (findIntegralBasis_good f hf O H) hirr
    (fun p hp => findIntegralBasis_pmaximal_all f hf O H p hp)

end NTV.MaxOrd
