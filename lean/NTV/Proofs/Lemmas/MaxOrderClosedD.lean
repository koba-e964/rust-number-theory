import NTV.Proofs.Lemmas.MaxOrderClosedC
/-! # For monic `f` the result of `find_integral_basis` contains ℤ[θ].

The matrix handed to `hnf_reduce` by `non_monic_initial_order` is integral and lower triangular with diagonal
`1, lc f, …, lc f`; for monic `f` it is unimodular, so the starting order is ℤ[θ] = ℤⁿ and the powers of θ have integral
coordinates in every order containing the starting order: `Cm · O = 1` for an integer matrix `Cm` (the hypothesis of the
Kummer–Dedekind theorems of C17). -/
open Matrix Finset Polynomial
namespace NTV.MaxOrd
open NTV.Ord NTV.PolyG NTV.Round2
open NTV.RowOps (toM Rect ent)

/-- the start basis as an integer matrix -/
def startZ (f : List Int) : Matrix (Fin (degU f)) (Fin (degU f)) ℤ := fun i j =>
  if i.val = 0 then (if j.val = 0 then 1 else 0)
  else if 1 ≤ j.val ∧ j.val ≤ i.val then coefAt f (degU f - (i.val - j.val)) else 0

theorem startBasis_toM (f : List Int) :
    toM (degU f) (degU f) (startBasis f) = (startZ f).map (Int.castRingHom ℚ) := by
  ext i j
  rw [Matrix.map_apply, startZ]
  refine (startBasis_getD f i.isLt j.isLt).trans ?_
  simp only [apply_ite (Int.castRingHom ℚ), map_one, map_zero, eq_intCast]

theorem startZ_det (f : List Int) (hmonic : coefAt f (degU f) = 1) : (startZ f).det = 1 := by
  have hdet : (startZ f).det = ∏ i : Fin (degU f), startZ f i i := by
    apply det_of_isLowerTriangular
    intro i j hij
    have hij' : i.val < j.val := hij
    unfold startZ
    split_ifs with h1 h2 h3
    · omega
    · rfl
    · omega
    · rfl
  rw [hdet]
  apply Finset.prod_eq_one
  intro i _
  unfold startZ
  split_ifs with h1 h2
  · rfl
  · rw [Nat.sub_self, Nat.sub_zero, hmonic]
  · omega

theorem start_unimodular (f : List Int) (hmonic : coefAt f (degU f) = 1) (S : QMat)
    (hS : nonMonicInitialOrder f = .ok S) :
    ∃ W : Matrix (Fin (degU f)) (Fin (degU f)) ℤ, IsUnit W.det ∧
      toM (degU f) (degU f) S = W.map (Int.castRingHom ℚ) := by
  have dB : (toM (degU f) (degU f) (startBasis f)).det ≠ 0 := by
    rw [startBasis_toM, det_map_intCast, startZ_det f hmonic, Int.cast_one]
    exact one_ne_zero
  obtain ⟨_, U, hU, hrel⟩ := start_spans_of_det f S hS dB
  refine ⟨U * startZ f, ?_, ?_⟩
  · rw [Matrix.det_mul, startZ_det f hmonic, mul_one]; exact hU
  · rw [hrel, startBasis_toM, Matrix.map_mul]

/-- **ℤ[θ] ⊆ O for monic f**: if `find_integral_basis(f)` returns `O` then the powers of θ have integral coordinates
on the basis `O` -/
theorem findIntegralBasis_contains_power_basis (f : List Int) (hmonic : coefAt f (degU f) = 1) (O : Order)
    (H : findIntegralBasis f = .ok O) :
    ∃ Cm : Matrix (Fin (degU f)) (Fin (degU f)) ℤ,
      Cm.map (Int.castRingHom ℚ) * toM (degU f) (degU f) O = 1 := by
  obtain ⟨S, dS, hS, hdS, hd0, H'⟩ := findIntegralBasis_inv f O H
  obtain ⟨hn, rS, dtS, sS, _⟩ := start_good f S dS hS hdS hd0
  have hfac := NTV.Trial.factorize_correct dS.natAbs (by omega)
  obtain ⟨i, ext, _⟩ := fold_ext f hn (NTV.Trial.factorize dS.natAbs)
    (fun pe hpe => ((hfac.2.1 pe hpe).1).pos) S O rS dtS sS H'
  obtain ⟨P, hP⟩ := ext.sub
  obtain ⟨W, hW, hSW⟩ := start_unimodular f hmonic S hS
  refine ⟨W⁻¹ * P, ?_⟩
  rw [Matrix.map_mul, Matrix.mul_assoc, ← hP, hSW, ← Matrix.map_mul, Matrix.nonsing_inv_mul _ hW]
  simp

theorem coefAt_degU_of_monic (f : List Int) (n : Nat) (hfl : f.length = n + 1) (hmonic : lc f = 1) :
    degU f = n ∧ coefAt f (degU f) = 1 ∧ Canon f := by
  have hne : f ≠ [] := List.ne_nil_of_length_pos (hfl ▸ Nat.succ_pos n)
  have hdeg : degU f = n := degU_of_length hfl
  refine ⟨hdeg, ?_, ?_⟩
  · rw [hdeg]
    have := lc_eq_getD f hne
    rw [hfl, Nat.add_sub_cancel] at this
    unfold coefAt
    rw [this, hmonic]
  · intro h
    rw [getLast_eq_getD f h, lc_eq_getD f h, hmonic]
    exact one_ne_zero

end NTV.MaxOrd
