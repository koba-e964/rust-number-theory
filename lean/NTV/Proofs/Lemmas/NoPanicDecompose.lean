import NTV.Proofs.Lemmas.KummerDedekindE
/-! The steps of `prime_decomp::decompose` never fail when the order contains ℤ[θ] (basis matrix with an integral
inverse): `to_z_basis_int` finds an integral solution and the closure (g, e) ↦ ((g(θ)) + (p), e) returns.
Used by `NTV.C17.no_panic`. -/
open Matrix
namespace NTV.KD
open NTV.IdealP NTV.Ord NTV.Hnf NTV.DecompP Polynomial
open NTV.RowOps (toM Rect ent)
open NTV.PolyG (toPoly coeff_toPoly Canon lc degU coefAt fromRaw)
open NTV.PolyMod (Factors factorizeModP)
open NTV.Ideal (primeAbove decompose wordOf principal)

variable {f : List Int} {B : QMat} {n : Nat} {t : Table} {Cm : Matrix (Fin n) (Fin n) ℤ}

/-- `to_z_basis_int` succeeds on every element with integer coefficients when the basis matrix has an integral
inverse (the order contains ℤ[θ]): the system is non-singular and the solution is integral -/
theorem toZBasisInt_total (hB : Rect n n B) (hC : Cm.map (Int.castRingHom ℚ) * toM n n B = 1) (a : List Rat)
    (hint : ∀ c < n, ∃ z : Int, coefAt a c = (z : Rat)) : ∃ x, toZBasisInt B a = .ok x := by
  have hdet := det_ne_zero_of_inverse hC
  have hb : ((List.range B.length).map (fun k => coefAt a k)).length = n := by simp [hB.1]
  cases hs : NTV.LinAlg.solve B ((List.range B.length).map (fun k => coefAt a k)) with
  | error e => exact absurd (NTV.LinAlg.solve_err B _ n hB hb e hs).2 hdet
  | ok y =>
    have hsol := NTV.LinAlg.solve_ok B _ y n hB hb hs
    have hC' : toM n n B * Cm.map (Int.castRingHom ℚ) = 1 := mul_eq_one_comm.mp hC
    have hv : (fun k : Fin n => y.getD k 0) =
        (fun c : Fin n => ((List.range B.length).map (fun k => coefAt a k)).getD c 0) ᵥ* Cm.map (Int.castRingHom ℚ) := by
      rw [← hsol, Matrix.vecMul_vecMul, hC', Matrix.vecMul_one]
    have hall : ∀ k < n, isInteger (y.getD k 0) = true := by
      intro k hk
      rw [isInteger_iff]
      have hk' := congrFun hv ⟨k, hk⟩
      simp only [Matrix.vecMul, dotProduct, Matrix.map_apply, eq_intCast] at hk'
      rw [hk']
      have hz : ∀ c : Fin n, ∃ z : Int,
          ((List.range B.length).map (fun k => coefAt a k)).getD c 0 = (z : Rat) := by
        intro c
        obtain ⟨z, hz⟩ := hint c c.2
        refine ⟨z, ?_⟩
        simp [List.getD_eq_getElem?_getD, hB.1, c.2, hz]
      choose zs hzs using hz
      refine ⟨∑ c : Fin n, zs c * Cm c ⟨k, hk⟩, ?_⟩
      push_cast
      apply Finset.sum_congr rfl
      intro c _
      rw [hzs c]
    rw [toZBasisInt_of_solve hB a hs]
    unfold cellSpec
    rw [if_pos hall]
    exact ⟨_, rfl⟩

theorem coefAt_ratOf (g : List Int) (c : Nat) : coefAt (ratOf g) c = ((g.getD c 0 : Int) : Rat) := by
  unfold ratOf coefAt
  rw [NTV.PolyG.getD_fromRaw]
  simp only [List.getD_eq_getElem?_getD, List.getElem?_map]
  cases g[c]? <;> simp

theorem primeAbove_total (T : TableRing t n) (hf : degU f = n) (hB : Rect n n B)
    (hC : Cm.map (Int.castRingHom ℚ) * toM n n B = 1) (p : Int) (g : List Int) (m : Nat) :
    ∃ r, primeAbove f B t p g m = .ok r := by
  have hn := T.pos
  have helem : ∃ elem, elemSpec f B g = .ok elem ∧ elem.length = n := by
    unfold elemSpec
    split
    · exact ⟨_, rfl, by rw [hf]; simp⟩
    · obtain ⟨x, hx⟩ := toZBasisInt_total hB hC (ratOf g) (fun c _ => ⟨_, coefAt_ratOf g c⟩)
      exact ⟨x, hx, (toZBasisInt_spec B n hB _ x hx).1⟩
  obtain ⟨elem, he, hel⟩ := helem
  obtain ⟨A, hA, wA, _⟩ := principal_total T hel
  have hplen := length_pelem hn p
  obtain ⟨Z, hZ, wZ, _⟩ := principal_total T hplen
  obtain ⟨S, hS, _⟩ := add_total wA wZ T.pos
  refine ⟨(S, m), ?_⟩
  rw [primeAbove_eq]
  subst hf
  simp only [bind, Except.bind, pure, Except.pure, he, hA, show ¬ degU f = 0 by omega, if_false, hZ, hS]

end NTV.KD
