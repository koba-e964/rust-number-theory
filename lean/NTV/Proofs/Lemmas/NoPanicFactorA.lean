import NTV.Proofs.Lemmas.FactorModPIrred
/-! Panic-freedom of `factorize_mod_p` (src/poly_mod/factorize_mod_p.rs), part A: the deterministic stages
`squarefree` and `degree` are TOTAL on legal input (p prime, non-zero reduced input of degree < 2⁶⁴,
`pusize = p` unless deg < p): no `usize` overflow, no division by zero, no fuel exhaustion. The inner loop of
`squarefree` and the distinct degree loop are total by `sqInner_spec` and `degreeLoop_spec`. -/
open Polynomial
namespace NTV.PolyMod
open NTV.PolyG NTV.Hensel

section prime
variable (p : ℕ) [hp : Fact p.Prime]

/-- the outer loop of `squarefree` is total: `e · deg t₀` does not increase, the fuel outlasts the p-th
roots, and `pusize` is only read (and is then p ≠ 0) when deg t₀ ≥ p -/
theorem sqOuter_total (pusize : Nat) : ∀ (fuel : Nat) (t0 : Poly) (e : Nat) (result : Factors),
    GoodNZ p t0 → 1 ≤ e → (pusize = p ∨ t0.length ≤ p) → (∀ x ∈ result, Entry p x) →
    e * nd p t0 < 2 ^ 64 → nd p t0 + 1 ≤ fuel →
    ∃ r, sqOuter (p : Int) pusize fuel t0 e result = .ok r := by
  intro fuel
  induction fuel with
  | zero => intro t0 e result _ _ _ _ _ h; omega
  | succ fuel ih =>
    intro t0 e result ht0 he hpu hres hB hf
    simp only [sqOuter]
    split
    · exact ⟨_, rfl⟩
    · obtain ⟨t, hg⟩ := polyGcd_total_good p t0 _ ht0.1 (good_differentialMod p hp.out.pos t0)
      rw [hg, ok_bind']
      obtain ⟨g2, gv, _, ev, _⟩ := sqOuter_gcd p ht0 hg
      have n0 := nd_mul p ht0 ev
      obtain ⟨⟨exit, r1⟩, hin⟩ := (sqInner_spec p e he (t.length + (polyDivrem t0 t p).1.length + 2) t
        (polyDivrem t0 t p).1 0 result g2 gv hres).1
        (by rw [zero_add, one_mul, ← n0]; exact hB) (by omega)
        (by intro _; rw [nd_length p g2]; omega)
      rw [hin, ok_bind']
      obtain ⟨i1, _, i3, _⟩ := sqOuter_round p ht0 he hres hg hin
      cases exit with
      | done => exact ⟨_, rfl⟩
      | root t' =>
        obtain ⟨j1, j3, (hnd : nd p t' ≠ 0), (hge : p ≤ nd p t'), (hle : nd p t' ≤ nd p t0), hnle, _⟩ := i3 t' rfl
        obtain rfl : pusize = p := hpu.resolve_right hnle
        simp only
        rw [if_neg hp.out.ne_zero, mulUsize_eq_ok (lt_of_le_of_lt (Nat.mul_le_mul_left _ (hge.trans hle)) hB),
          ok_bind']
        obtain ⟨hnz, hroot⟩ := pthRoot_spec _ j1 j3
        -- deg t' = p · deg (root) with deg t' ≠ 0 and p ≥ 2: the degree drops
        have hdeg : nd pusize t' = pusize * nd pusize (pthRoot pusize t') := by
          unfold nd; rw [← hroot, natDegree_pow]
        have hr0 : nd pusize (pthRoot pusize t') ≠ 0 := fun h0 => hnd (by rw [hdeg, h0, mul_zero])
        have h2 := Nat.mul_le_mul_right (nd pusize (pthRoot pusize t')) hp.out.two_le
        apply ih _ (e * pusize) r1 hnz (Nat.mul_pos he hp.out.pos) (Or.inl rfl) i1
        · refine lt_of_le_of_lt ?_ hB
          rw [mul_assoc, ← hdeg]
          exact Nat.mul_le_mul_left _ hle
        · omega

/-- **`squarefree` is total** on a non-zero reduced input of degree < 2⁶⁴ -/
theorem squarefree_total (poly : Poly) (pusize : Nat) (hpoly : GoodNZ p poly)
    (hpu : pusize = p ∨ poly.length ≤ p) (hlen : poly.length ≤ 2 ^ 64) :
    ∃ fs, squarefree poly (p : Int) pusize = .ok fs := by
  unfold squarefree
  rw [List.isEmpty_eq_false_iff.mpr hpoly.2, if_neg Bool.false_ne_true, polyMod_of_good p poly hpoly.1]
  have hl := nd_length p hpoly
  exact sqOuter_total p pusize _ poly 1 [] hpoly (le_refl 1) hpu (by simp) (by omega) (by omega)

/-- **`degree` is total** on a non-zero reduced input -/
theorem degree_total (poly : Poly) (hpoly : GoodNZ p poly) : ∃ ds, degree poly (p : Int) = .ok ds :=
  (degreeLoop_spec p _ poly [0, 1] 0 [] hpoly (by simp)).1 poly.length (le_refl _) (by omega) (by omega)

end prime
end NTV.PolyMod
