import NTV.Proofs.Lemmas.NoPanicFactorA
/-! Panic-freedom of `factorize_mod_p`, part B: equal-degree splitting for odd p and the degree assertion
of the normalisation loop. -/
open Polynomial
namespace NTV.PolyMod
open NTV.PolyG NTV.Hensel

section prime
variable (p : ℕ) [hp : Fact p.Prime]

theorem dvd_natDegree_of_factor_degrees (d : ℕ) (G : (ZMod p)[X]) :
    G ≠ 0 → (∀ q : (ZMod p)[X], Irreducible q → q ∣ G → q.natDegree = d) → d ∣ G.natDegree := by
  induction G using WfDvdMonoid.induction_on_irreducible with
  | zero => intro h; exact absurd rfl h
  | unit u hu => intro _ _; rw [natDegree_eq_zero_of_isUnit hu]; exact dvd_zero d
  | mul a i ha hi ih =>
    intro _ h
    rw [natDegree_mul hi.ne_zero ha, h i hi (dvd_mul_right i a)]
    exact dvd_add (dvd_refl d) (ih ha (fun q hq hqa => h q hq (hqa.trans (dvd_mul_left a i))))

/-- the pieces handled by `final_split`: non-constant, all irreducible factors of degree d -/
def EqDeg (d : Nat) (poly : Poly) : Prop :=
  GoodNZ p poly ∧ 1 ≤ nd p poly ∧ ∀ q : (ZMod p)[X], Irreducible q → q ∣ mp p poly → q.natDegree = d

theorem EqDeg.d_pos {d : Nat} {poly : Poly} (h : EqDeg p d poly) : 1 ≤ d := by
  obtain ⟨h1, h2, h3⟩ := h
  have hnu : ¬ IsUnit (mp p poly) := by
    intro hu
    have := natDegree_eq_zero_of_isUnit hu
    unfold nd at h2; omega
  obtain ⟨q, hq, hqd⟩ := WfDvdMonoid.exists_irreducible_factor hnu (GoodNZ.mp_ne_zero p h1)
  rw [← h3 q hq hqd]
  exact hq.natDegree_pos

theorem EqDeg.dvd {d : Nat} {poly : Poly} (h : EqDeg p d poly) : d ∣ nd p poly :=
  dvd_natDegree_of_factor_degrees p d _ (GoodNZ.mp_ne_zero p h.1) h.2.2

/-- k = deg / d is at least 1 (the `unreachable!()` is unreachable) -/
theorem EqDeg.k_pos {d : Nat} {poly : Poly} (h : EqDeg p d poly) : degU poly / d ≠ 0 := by
  rw [degU_nd p h.1]
  have hd := h.d_pos p
  have := Nat.le_of_dvd (by have := h.2.1; omega) (h.dvd p)
  exact Nat.ne_of_gt (Nat.div_pos this hd)

/-- when k = 1 the piece has degree exactly d (the degree assertion of the caller holds) -/
theorem EqDeg.deg_of_k_one {d : Nat} {poly : Poly} (h : EqDeg p d poly) (hk : degU poly / d = 1) :
    degU poly = d := by
  rw [degU_nd p h.1] at hk ⊢
  obtain ⟨c, hc⟩ := h.dvd p
  have hd := h.d_pos p
  rw [hc, Nat.mul_div_cancel_left c hd] at hk
  rw [hc, hk, mul_one]

theorem EqDeg.two_mul_le {d : Nat} {poly : Poly} (h : EqDeg p d poly) (hk : degU poly / d ≠ 1) :
    2 * d ≤ nd p poly := by
  have hk0 := h.k_pos p
  rw [degU_nd p h.1] at hk hk0
  obtain ⟨c, hc⟩ := h.dvd p
  rw [hc, Nat.mul_div_cancel_left c (h.d_pos p)] at hk hk0
  rw [hc, mul_comm]
  exact Nat.mul_le_mul_left d (by omega)

theorem EqDeg.split {d : Nat} {poly b : Poly} (h : EqDeg p d poly) (hb : GoodNZ p b) (hdvd : mp p b ∣ mp p poly)
    (hb0 : degU b ≠ 0) (hb1 : degU b ≠ degU poly) :
    EqDeg p d b ∧ EqDeg p d (polyDivrem poly b p).1 := by
  obtain ⟨e1, e2⟩ := divide_out p h.1 hb hdvd
  have hn := nd_mul p h.1 e1
  rw [degU_nd p hb] at hb0 hb1
  rw [degU_nd p h.1] at hb1
  refine ⟨⟨hb, by omega, fun q hq hqb => h.2.2 q hq (hqb.trans hdvd)⟩, e2, by omega, fun q hq hqb => ?_⟩
  exact h.2.2 q hq (hqb.trans ⟨mp p b, e1⟩)

omit hp in
theorem drawCoeffs_length (n : Nat) : ∀ (s : NTV.Draw.Stream) (acc raw : List Int) (s1 : NTV.Draw.Stream),
    drawCoeffs (p : Int) n s acc = some (raw, s1) → s1.length + n ≤ s.length := by
  induction n with
  | zero =>
    intro s acc raw s1 h
    simp only [drawCoeffs, Option.some.injEq, Prod.mk.injEq] at h
    rw [h.2]; omega
  | succ n ih =>
    intro s acc raw s1 h
    simp only [drawCoeffs] at h
    split at h
    · simp at h
    · rename_i c s2 hdraw
      have := range_length _ _ _ _ _ hdraw
      have := ih _ _ _ _ h
      omega

/-- outcome allowed for a stage that reads the draw stream: `inconclusive stream`, or a result satisfying Q -/
def PostQ {α : Type} (Q : α → Prop) : M α → Prop
  | .error e => e = "inconclusive stream"
  | .ok a => Q a

omit hp in
theorem PostQ.mono {α : Type} {Q R : α → Prop} {x : M α} (hx : PostQ Q x) (h : ∀ a, Q a → R a) : PostQ R x := by
  cases x with
  | error e => exact hx
  | ok a => exact h a hx

omit hp in
theorem PostQ.bind {α β : Type} {Q : α → Prop} {R : β → Prop} {x : M α} {f : α → M β} (hx : PostQ Q x)
    (hf : ∀ a, Q a → PostQ R (f a)) : PostQ R (x >>= f) := by
  cases x with
  | error e => exact hx
  | ok a => exact hf a hx

theorem finalSplitOdd_post (d : Nat) : ∀ (fuel : Nat) (poly : Poly) (result : List Poly) (s : NTV.Draw.Stream),
    EqDeg p d poly → (∀ x ∈ result, degU x = d) → s.length < fuel →
    PostQ (fun r => r.2.length ≤ s.length ∧ ∀ x ∈ r.1, degU x = d) (finalSplitOdd (p : Int) d fuel poly result s) := by
  intro fuel
  induction fuel with
  | zero => intro poly result s _ _ h; omega
  | succ fuel ih =>
    intro poly result s hpoly hres hs
    have hd := hpoly.d_pos p
    simp only [finalSplitOdd]
    rw [if_neg (by omega), if_neg (hpoly.k_pos p)]
    split
    · rename_i hk
      exact ⟨Nat.le_refl _, forall_mem_snoc hres (hpoly.deg_of_k_one p hk)⟩
    split
    · rfl
    rename_i raw s1 hdraw
    have hs1 := drawCoeffs_length p _ _ _ _ _ hdraw
    obtain ⟨b, hg⟩ := polyGcd_total_good p
      (polyModSub (polyModpow (fromRaw raw) (Int.tdiv ((p : Int) ^ d - 1) 2) poly p) [1] p) poly
      (good_polyModSub p hp.out.pos _ _) hpoly.1.1
    rw [hg, ok_bind']
    split
    · exact (ih _ _ _ hpoly hres (by omega)).mono fun r hr => ⟨by omega, hr.2⟩
    · rename_i hcond
      simp only [Bool.or_eq_true, decide_eq_true_eq, not_or] at hcond
      obtain ⟨g1, g2⟩ := gcd_out p (good_polyModSub p hp.out.pos _ _) hpoly.1.1 (Or.inr hpoly.1.2) hg
      obtain ⟨hb, hdiv⟩ := hpoly.split p g2 g1.2.1 hcond.1.2 hcond.2
      refine (ih b result s1 hb hres (by omega)).bind fun ⟨r1, s2⟩ ⟨(hs2 : s2.length ≤ s1.length), hr1⟩ => ?_
      exact (ih _ r1 s2 hdiv hr1 (by omega)).mono fun r hr => ⟨by omega, hr.2⟩

omit hp in
/-- the degree assertion of the normalisation loop never fires on pieces of degree d -/
theorem normaliseAll_total (d e : Nat) : ∀ (l : List Poly) (result : Factors), (∀ x ∈ l, degU x = d) →
    ∃ r, normaliseAll (p : Int) d e l result = .ok r := by
  intro l
  induction l with
  | nil => intro result _; exact ⟨_, rfl⟩
  | cons factor rest ih =>
    intro result h
    simp only [normaliseAll]
    rw [if_neg (by simpa using h factor List.mem_cons_self)]
    exact ih _ (fun x hx => h x (List.mem_cons_of_mem _ hx))

end prime
end NTV.PolyMod
