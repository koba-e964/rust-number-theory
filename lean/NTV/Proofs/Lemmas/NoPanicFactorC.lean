import NTV.Proofs.Lemmas.NoPanicFactorB
import NTV.Proofs.Lemmas.NoPanicTraceAlg
/-! Panic-freedom of `factorize_mod_p`, part C: `final_split_2` (p = 2) is TOTAL — the fuel |poly|² + 8 of the
model is never exhausted, because the trace map splits a squarefree product of ≥ 2 irreducibles of degree d
at some odd power X^m with m < deg — and the assembly stages: on legal input they fail only with
`inconclusive stream`. -/
open Polynomial
namespace NTV.PolyMod
open NTV.PolyG NTV.Hensel NTV.TraceAlg

theorem traceIter_spec (poly t : Poly) (hpoly : GoodNZ 2 poly) : ∀ (n : Nat) (c : Poly), Good 2 c →
    qm 2 (mp 2 poly) (mp 2 (traceIter poly t n c)) =
      (fun y => y ^ 2 + qm 2 (mp 2 poly) (mp 2 t))^[n] (qm 2 (mp 2 poly) (mp 2 c)) := by
  intro n
  induction n with
  | zero => intro c _; rfl
  | succ n ih =>
    intro c hc
    simp only [traceIter]
    obtain ⟨r1, r2⟩ := rem_spec 2 (polyMod (add (mul c c) t) 2) poly (good_polyMod 2 (by norm_num) _) hpoly
    rw [← qm_eq_iff] at r1
    simp only [Nat.cast_ofNat] at r1 r2
    rw [ih _ r2, Function.iterate_succ_apply]
    congr 1
    have e := mp_polyMod 2 (add (mul c c) t)
    simp only [Nat.cast_ofNat] at e
    rw [r1, e, mp_add, mp_mul, RingHom.map_add, RingHom.map_mul, pow_two]

theorem qm_iterate (P t : (ZMod 2)[X]) (u : (ZMod 2)[X]) : ∀ k : ℕ,
    (fun y => y ^ 2 + qm 2 P t)^[k] (qm 2 P u) = qm 2 P ((fun y => y ^ 2 + t)^[k] u) := by
  intro k
  induction k with
  | zero => rfl
  | succ k ih =>
    rw [Function.iterate_succ_apply', Function.iterate_succ_apply', ih, RingHom.map_add, RingHom.map_pow]

/-- the polynomial `c` of `final_split_2` is the trace Σ_{i<d} t^(2^i) modulo poly -/
theorem traceIter_trace (poly t : Poly) (d : Nat) (hd : 1 ≤ d) (hpoly : GoodNZ 2 poly) (ht : Good 2 t) :
    mp 2 poly ∣ mp 2 (traceIter poly t (d - 1) t) - S d (mp 2 t) := by
  rw [← qm_eq_iff, traceIter_spec poly t hpoly (d - 1) t ht, qm_iterate, iterate_eq_S,
    show d - 1 + 1 = d by omega]

theorem squarefree_of_sqF {P : (ZMod 2)[X]} (hP0 : P ≠ 0) (h : SqF 2 P) : Squarefree P := by
  rw [squarefree_iff_no_irreducibles hP0]
  intro q hq hd
  rw [← pow_two] at hd
  exact h q hq hd

/-- the trace is trivial on the odd powers X^m with m < 2j + 1 (the rounds already tried) -/
def NoSplitBelow (d : Nat) (P : (ZMod 2)[X]) (j : Nat) : Prop :=
  ∀ m, m < 2 * j + 1 → m % 2 = 1 → Triv d P (X ^ m)

theorem NoSplitBelow.zero (d : Nat) (P : (ZMod 2)[X]) : NoSplitBelow d P 0 := by
  intro m hm hodd; omega

theorem NoSplitBelow.succ {d : Nat} {P : (ZMod 2)[X]} {j : Nat} (h : NoSplitBelow d P j)
    (ht : Triv d P (X ^ (2 * j + 1))) : NoSplitBelow d P (j + 1) := by
  intro m hm hodd
  by_cases hlt : m < 2 * j + 1
  · exact h m hlt hodd
  · have : m = 2 * j + 1 := by omega
    rw [this]; exact ht

/-- a `continue` of `final_split_2` means that the trace of t is trivial modulo poly -/
theorem triv_of_continue {d : Nat} {poly t b : Poly} (hpoly : EqDeg 2 d poly) (hsq : SqF 2 (mp 2 poly))
    (ht : Good 2 t) (hg : IsGcd (mp 2 b) (mp 2 poly) (mp 2 (traceIter poly t (d - 1) t))) (hb : GoodNZ 2 b)
    (hcont : degU b = 0 ∨ degU b = degU poly) : Triv d (mp 2 poly) (mp 2 t) := by
  have hd := hpoly.d_pos 2
  have hP0 := GoodNZ.mp_ne_zero 2 hpoly.1
  have htr := traceIter_trace poly t d hd hpoly.1 ht
  set P := mp 2 poly with hP
  set C := mp 2 (traceIter poly t (d - 1) t) with hC
  rcases hcont with h0 | h1
  · -- coprime: every irreducible factor of P divides the trace + 1
    right
    have hu : IsUnit (mp 2 b) := isUnit_mp_of_degU_zero 2 hb h0
    apply dvd_of_irreducible_factors P _ hP0 (squarefree_of_sqF hP0 hsq)
    intro q hq hqP
    have hqd := hpoly.2.2 q hq hqP
    have htq := (irreducible_trace hq).1 (mp 2 t)
    rw [hqd] at htq
    rcases htq with h | h
    · exfalso
      have hqC : q ∣ C := by
        rw [← sub_add_cancel C (S d (mp 2 t))]
        exact dvd_add (hqP.trans htr) h
      exact hq.not_isUnit (isUnit_of_dvd_unit (hg.2.2 q hqP hqC) hu)
    · exact h
  · -- gcd = P: P divides the trace
    left
    have hnd : (mp 2 poly).natDegree ≤ (mp 2 b).natDegree := by
      rw [← degU_eq_natDegree 2 b hb.1 hb.2, ← degU_eq_natDegree 2 poly hpoly.1.1 hpoly.1.2, h1]
    have hass := associated_of_dvd_of_natDegree_le hg.1 hP0 hnd
    have hPC : P ∣ C := hass.symm.dvd.trans hg.2.1
    rw [← sub_sub_cancel C (S d (mp 2 t))]
    exact dvd_sub hPC htr

theorem mp_x2 : mp 2 [0, 0, 1] = X ^ 2 := by
  rw [mp, toPoly_x2, Polynomial.map_pow, map_X]

/-- fuel for the two recursive calls of `final_split_2`: both parts have degree n' ≤ n − 1, and j ≤ n / 2
rounds were spent -/
theorem fuel_split {n n' fuel j : ℕ} (hn' : n' + 1 ≤ n) (hj : 2 * j ≤ n) (hf : n * n + 1 ≤ fuel + 1 + j) :
    n' * n' + 1 ≤ fuel + 0 := by
  obtain ⟨m, rfl⟩ : ∃ m, n = m + 1 := ⟨n - 1, by omega⟩
  have h1 : n' * n' ≤ m * m := Nat.mul_le_mul (by omega) (by omega)
  have e : (m + 1) * (m + 1) = m * m + 2 * m + 1 := by ring
  omega

/-- **`final_split_2` is total**: on a squarefree product of irreducibles of degree d, started at
t = X^(2j+1) after j fruitless rounds, fuel ≥ (deg)² + 1 − j suffices; the pieces have degree d -/
theorem finalSplit2_total (d : Nat) : ∀ (fuel : Nat) (poly t : Poly) (j : Nat) (result : List Poly),
    EqDeg 2 d poly → SqF 2 (mp 2 poly) → Good 2 t → mp 2 t = X ^ (2 * j + 1) →
    NoSplitBelow d (mp 2 poly) j → 2 * j ≤ nd 2 poly → nd 2 poly * nd 2 poly + 1 ≤ fuel + j →
    (∀ x ∈ result, degU x = d) →
    ∃ r, finalSplit2 d fuel poly t result = .ok r ∧ ∀ x ∈ r, degU x = d := by
  intro fuel
  induction fuel with
  | zero =>
    intro poly t j result _ _ _ _ _ hj hf _
    have := Nat.le_mul_self (nd 2 poly)
    omega
  | succ fuel ih =>
    intro poly t j result hpoly hsq ht htX hno hj hf hres
    have hd := hpoly.d_pos 2
    have hP0 := GoodNZ.mp_ne_zero 2 hpoly.1
    simp only [finalSplit2]
    rw [if_neg (by omega), if_neg (hpoly.k_pos 2)]
    split
    · rename_i hk
      exact ⟨_, rfl, forall_mem_snoc hres (hpoly.deg_of_k_one 2 hk)⟩
    rename_i hk1
    have h2d := hpoly.two_mul_le 2 hk1
    have hsplit := exists_odd_split d (mp 2 poly) hP0 (squarefree_of_sqF hP0 hsq) hpoly.2.2 h2d hd
    have hbound : ∀ j', NoSplitBelow d (mp 2 poly) j' → 2 * j' + 2 ≤ nd 2 poly := by
      intro j' hno'
      by_contra hlt
      apply hsplit
      intro m hm hodd
      exact hno' m (by unfold nd at hlt; omega) hodd
    have hc : Good 2 (traceIter poly t (d - 1) t) := traceIter_good poly t hpoly.1 _ t ht
    obtain ⟨b, hg⟩ := polyGcd_total_good 2 poly _ hpoly.1.1 hc
    simp only [Nat.cast_ofNat] at hg
    rw [hg, ok_bind']
    obtain ⟨g1, g2⟩ := gcd_out 2 hpoly.1.1 hc (Or.inl hpoly.1.2) (by simpa using hg)
    split
    · rename_i hcond
      simp only [Bool.or_eq_true, decide_eq_true_eq] at hcond
      have htriv := triv_of_continue hpoly hsq ht g1 g2 hcond
      rw [htX] at htriv
      have hno' := hno.succ htriv
      have hb' := hbound (j + 1) hno'
      apply ih poly (mul t [0, 0, 1]) (j + 1) result hpoly hsq (good_mul_x2 2 t ht) ?_ hno' (by omega)
        (by omega) hres
      rw [mp_mul, htX, mp_x2, ← pow_add, mul_add_one, add_right_comm]
    · rename_i hcond
      simp only [Bool.or_eq_true, decide_eq_true_eq, not_or] at hcond
      obtain ⟨hb, hdiv⟩ := hpoly.split 2 g2 g1.1 hcond.1 hcond.2
      simp only [Nat.cast_ofNat] at hdiv
      obtain ⟨e1, e2⟩ := divide_out 2 hpoly.1 g2 g1.1
      simp only [Nat.cast_ofNat] at e1
      have hn := nd_mul 2 hpoly.1 e1
      have hb1 := hb.2.1
      have hd1 := hdiv.2.1
      have hx1 : mp 2 [0, 1] = X ^ (2 * 0 + 1) := by rw [mp_x]; simp
      have hsqb : SqF 2 (mp 2 b) := hsq.of_dvd 2 g1.1
      have hsqd : SqF 2 (mp 2 (polyDivrem poly b 2).1) := hsq.of_dvd 2 ⟨mp 2 b, e1⟩
      obtain ⟨r1, hr1, hr1d⟩ := ih b [0, 1] 0 result hb hsqb (good_x 2) hx1 (NoSplitBelow.zero _ _)
        (by omega) (fuel_split (by omega) hj hf) hres
      rw [hr1, ok_bind']
      exact ih _ [0, 1] 0 r1 hdiv hsqd (good_x 2) hx1 (NoSplitBelow.zero _ _) (by omega)
        (fuel_split (by omega) hj hf) hr1d

/-- `final_split(poly, 2, d)` always returns (no draws, no fuel exhaustion), with pieces of degree d -/
theorem finalSplit_two_total (poly : Poly) (d : Nat) (s : NTV.Draw.Stream) (hpoly : EqDeg 2 d poly)
    (hsq : SqF 2 (mp 2 poly)) : ∃ res, finalSplit poly 2 d s = .ok (res, s) ∧ ∀ x ∈ res, degU x = d := by
  unfold finalSplit
  rw [if_neg (by decide)]
  have hl := nd_length 2 hpoly.1
  have hx1 : mp 2 [0, 1] = X ^ (2 * 0 + 1) := by rw [mp_x]; simp
  obtain ⟨r, hr, hrd⟩ := finalSplit2_total d (poly.length * poly.length + 8) poly [0, 1] 0 [] hpoly hsq
    (good_x 2) hx1 (NoSplitBelow.zero _ _) (by omega) (by
      rw [hl]
      have : nd 2 poly * nd 2 poly ≤ (nd 2 poly + 1) * (nd 2 poly + 1) := Nat.mul_le_mul (by omega) (by omega)
      omega) (by simp)
  rw [hr, ok_bind']
  exact ⟨r, rfl, hrd⟩

section prime
variable (p : ℕ) [hp : Fact p.Prime]

theorem finalSplit_post (poly : Poly) (d : Nat) (s : NTV.Draw.Stream) (hpoly : EqDeg p d poly)
    (hsq : SqF p (mp p poly)) : PostQ (fun r => ∀ x ∈ r.1, degU x = d) (finalSplit poly (p : Int) d s) := by
  rcases hp.out.eq_two_or_odd with rfl | h2
  · obtain ⟨res, hr, hrd⟩ := finalSplit_two_total poly d s hpoly hsq
    rw [Nat.cast_ofNat, hr]
    exact hrd
  · unfold finalSplit
    rw [if_pos (by omega)]
    exact (finalSplitOdd_post p d (s.length + poly.length + 2) poly [] s hpoly (by simp) (by omega)).mono
      fun _ hr => hr.2

theorem splitAll_post (e : Nat) : ∀ (ds result : Factors) (s : NTV.Draw.Stream),
    (∀ x ∈ ds, GoodNZ p x.1 ∧ DegPart p x ∧ SqF p (mp p x.1)) →
    PostQ (fun _ => True) (splitAll (p : Int) e ds result s) := by
  intro ds
  induction ds with
  | nil => intro result s _; trivial
  | cons x rest ih =>
    obtain ⟨prod, d⟩ := x
    intro result s hds
    obtain ⟨(hprod : GoodNZ p prod), hpart, (hsqp : SqF p (mp p prod))⟩ := hds (prod, d) List.mem_cons_self
    have hrest : ∀ x ∈ rest, GoodNZ p x.1 ∧ DegPart p x ∧ SqF p (mp p x.1) := fun x hx => hds x (List.mem_cons_of_mem _ hx)
    simp only [splitAll]
    split
    · exact ih _ _ hrest
    · rename_i hd0
      have heq : EqDeg p d prod := ⟨hprod, by have := degU_nd p hprod; omega, hpart⟩
      refine (finalSplit_post p prod d s heq hsqp).bind fun ⟨spl, s1⟩ hfs => ?_
      obtain ⟨r1, hn⟩ := normaliseAll_total p d e spl result hfs
      simp only
      rw [hn, ok_bind']
      exact ih _ _ hrest

theorem factorAll_post : ∀ (sqs result : Factors) (s : NTV.Draw.Stream),
    (∀ x ∈ sqs, Entry p x ∧ SqF p (mp p x.1)) → PostQ (fun _ => True) (factorAll (p : Int) sqs result s) := by
  intro sqs
  induction sqs with
  | nil => intro result s _; trivial
  | cons x rest ih =>
    obtain ⟨sq, e⟩ := x
    intro result s hsqs
    obtain ⟨⟨hsq, he⟩, hsqf⟩ := hsqs (sq, e) List.mem_cons_self
    simp only [factorAll]
    obtain ⟨degrees, h1⟩ := degree_total p sq hsq
    rw [h1, ok_bind']
    obtain ⟨d1, d2⟩ := degree_product p sq degrees hsq h1
    have d3 := degree_sound p sq degrees hsq hsqf h1
    refine (splitAll_post p e degrees result s
      (fun x hx => ⟨d2 x hx, d3 x hx, hsqf.of_dvd p ((mem_dvd_pprod p hx).trans d1.dvd)⟩)).bind fun ⟨r1, s1⟩ _ => ?_
    exact ih _ _ (fun x hx => hsqs x (List.mem_cons_of_mem _ hx))

end prime
end NTV.PolyMod
