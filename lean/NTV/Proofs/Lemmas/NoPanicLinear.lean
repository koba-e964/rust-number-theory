import NTV.Proofs.Lemmas.PolyModLinearMain
import Mathlib.FieldTheory.Finite.Basic
/-! What the panic-freedom of `find_linear_factors` (src/poly_mod/linear.rs, `C12.no_panic`) rests on, for prime p:
the Fermat `debug_assert!` never fires, `poly_gcd` has fuel enough, and the recursion with more fuel than chunks in
the draw stream can only fail with `inconclusive stream` (the stream ran out). -/
open Polynomial
namespace NTV.PolyMod
open NTV.PolyG NTV.Hensel

theorem tmod_range (x m : Int) (hx : 0 ≤ x) (hm : 0 < m) : 0 ≤ Int.tmod x m ∧ Int.tmod x m < m := by
  rw [Int.tmod_eq_emod_of_nonneg hx]
  exact ⟨Int.emod_nonneg _ (by omega), Int.emod_lt_of_pos _ hm⟩

theorem modpowLoop_range (m : Int) (hm : 0 < m) : ∀ (n : Nat) (e product current : Int), e.toNat = n →
    0 ≤ product → product < m → 0 ≤ current →
    0 ≤ modpowLoop m e product current ∧ modpowLoop m e product current < m := by
  intro n
  induction n using Nat.strong_induction_on with
  | _ n ih =>
    intro e product current hn h0 h1 hc
    rw [modpowLoop]
    by_cases hpos : e > 0
    · rw [dif_pos hpos]
      have hlt := (toNat_halve e hpos).1
      rw [hn] at hlt
      have hpc := tmod_range (product * current) m (mul_nonneg h0 hc) hm
      apply ih _ hlt (e / 2) _ _ rfl
      · split
        · exact hpc.1
        · exact h0
      · split
        · exact hpc.2
        · exact h1
      · exact (tmod_range (current * current) m (mul_nonneg hc hc) hm).1
    · rw [dif_neg hpos]
      exact ⟨h0, h1⟩

/-- the `debug_assert!(modpow(a, p, p) == a)` never fires for a prime p and a shift in [0, p) -/
theorem modpow_fermat (p : ℕ) [Fact p.Prime] (a : Int) (ha0 : 0 ≤ a) (ha1 : a < p) :
    modpow a (p : Int) (p : Int) = a := by
  have hpp : p.Prime := Fact.out
  have hp1 : (1 : Int) < p := by exact_mod_cast hpp.one_lt
  have hr := modpowLoop_range (p : Int) (by omega) _ (p : Int) 1 a rfl (by omega) hp1 ha0
  have hm := modpow_modEq a (p : Int) (p : Int)
  simp only [Int.toNat_natCast] at hm
  have hf : a ^ p ≡ a [ZMOD (p : Int)] := by
    rw [← ZMod.intCast_eq_intCast_iff]
    push_cast
    exact ZMod.pow_card _
  have := hm.trans hf
  unfold modpow at this hr
  rw [Int.ModEq, Int.emod_eq_of_lt hr.1 hr.2, Int.emod_eq_of_lt ha0 ha1] at this
  exact this

theorem polyGcd_total (p : ℕ) (hp : p.Prime) (a b : List Int)
    (hra : Reduced (p : Int) a) (hrb : Reduced (p : Int) b) (hca : Canon a) (hcb : Canon b) (hb : b ≠ []) :
    ∃ g, polyGcd a b (p : Int) = .ok g :=
  (polyGcdAux_run p hp _ a b hra hrb hca hcb hb (by omega)).imp fun _ h => h.1

theorem below_length (bound : Nat) : ∀ (s : NTV.Draw.Stream) (v : Nat) (rest : NTV.Draw.Stream),
    NTV.Draw.below bound s = some (v, rest) → rest.length < s.length := by
  intro s
  induction s with
  | nil => intro v rest h; simp [NTV.Draw.below] at h
  | cons c cs ih =>
    intro v rest h
    simp only [NTV.Draw.below] at h
    split at h
    · simp at h
    · split at h
      · simp only [Option.some.injEq, Prod.mk.injEq] at h
        obtain ⟨_, rfl⟩ := h; simp
      · have := ih v rest h
        simp only [List.length_cons]; omega

theorem range_length (lo hi : Int) (s : NTV.Draw.Stream) (a : Int) (rest : NTV.Draw.Stream)
    (h : NTV.Draw.range lo hi s = some (a, rest)) : rest.length < s.length := by
  unfold NTV.Draw.range at h
  split at h
  · simp at h
  · rename_i v r hb
    simp only [Option.some.injEq, Prod.mk.injEq] at h
    obtain ⟨_, rfl⟩ := h
    exact below_length _ _ _ _ hb

/-- outcome allowed for a call started with `n` chunks left: an `inconclusive stream` error, or success
with at most `n` chunks left -/
def Post (n : Nat) : M (List Int × NTV.Draw.Stream) → Prop
  | .error e => e = "inconclusive stream"
  | .ok (_, s') => s'.length ≤ n

theorem Post.mono {n m : Nat} (h : n ≤ m) {r : M (List Int × NTV.Draw.Stream)} (hr : Post n r) : Post m r := by
  cases r with
  | error e => exact hr
  | ok v => obtain ⟨_, s'⟩ := v; exact Nat.le_trans hr h

/-- deflation never fails; `k` is the rest of the round -/
theorem deflate_post (p : ℕ) [Fact p.Prime] (poly result : List Int) (a : Int) (hg : GoodL p poly) (n : Nat)
    (k : Poly × List Int → M (List Int × NTV.Draw.Stream))
    (hk : ∀ poly1 result1, GoodL p poly1 → Post n (k (poly1, result1))) :
    Post n (deflate p poly result a k) := by
  have hp : 0 < p := (Fact.out : p.Prime).pos
  rw [deflate]
  by_cases hz : polyOfMod poly a p = 0
  · rw [if_pos hz]
    obtain ⟨q, hq⟩ := divideByXA_ok p hp poly a hg.ne_nil ((polyOfMod_eq_zero_iff p hp poly a).mp hz)
    rw [hq, ok_bind']
    exact hk q _ (divideByXA_good p hp poly a q hg hq).1
  · rw [if_neg hz]
    exact hk poly result hg

/-- the same for one gcd stage: only the recursive call can fail, by running out of stream -/
theorem gcdSplit_post (p : ℕ) [Fact p.Prime] (fuel : Nat)
    (rec : Poly → List Int → NTV.Draw.Stream → M (List Int × NTV.Draw.Stream))
    (hrec : ∀ (poly result : List Int) (s : NTV.Draw.Stream), GoodL p poly → s.length < fuel →
      Post s.length (rec poly result s))
    (x poly result : List Int) (s : NTV.Draw.Stream) (hrx : Reduced (p : Int) x) (hcx : Canon x)
    (hg : GoodL p poly) (hs : s.length < fuel) (n : Nat)
    (k : Poly × List Int × NTV.Draw.Stream → M (List Int × NTV.Draw.Stream))
    (hk : ∀ poly' result' s', GoodL p poly' → s'.length ≤ s.length → Post n (k (poly', result', s'))) :
    Post n (polyGcd x poly p >>= fun gcd => splitAfter p rec gcd poly result s k) := by
  have hpp : p.Prime := Fact.out
  obtain ⟨gcd, hgcd⟩ := polyGcd_total p hpp x poly hrx hg.1 hcx hg.2.1 hg.ne_nil
  rw [hgcd, ok_bind', splitAfter]
  by_cases hd : degU gcd > 0
  · rw [if_pos hd]
    obtain ⟨hgg, hgq, -, -⟩ := split_quotient p x gcd poly hrx hcx hg hgcd hd
    have hpost := hrec gcd result s hgg hs
    cases hr : rec gcd result s with
    | error e => rw [hr] at hpost; exact hpost
    | ok v =>
      obtain ⟨res, s2⟩ := v
      rw [hr] at hpost
      exact hk _ res s2 hgq hpost
  · rw [if_neg hd]
    exact hk poly result s hg (Nat.le_refl _)

/-- `find_linear_factors_impl` with more fuel than chunks in the stream: no panic, no fuel exhaustion -/
theorem findLinearImpl_post (p : ℕ) [Fact p.Prime] : ∀ (fuel : Nat) (poly result : List Int)
    (s : NTV.Draw.Stream), GoodL p poly → s.length < fuel →
    Post s.length (findLinearImpl p fuel poly result s) := by
  intro fuel
  induction fuel with
  | zero => intro poly result s _ h; omega
  | succ fuel ih =>
    intro poly result s hg hs
    rw [findLinearImpl_succ]
    by_cases h0 : degU poly = 0
    · rw [if_pos h0]; exact Nat.le_refl _
    rw [if_neg h0]
    by_cases h1 : degU poly = 1
    · rw [if_pos h1]; exact Nat.le_refl _
    rw [if_neg h1]
    cases hdraw : NTV.Draw.range 0 p s with
    | none => rfl
    | some v =>
      obtain ⟨a, s1⟩ := v
      obtain ⟨ha0, ha1⟩ := draw_shift_range p s a s1 hdraw
      have hs1 := range_length _ _ _ _ _ hdraw
      dsimp only
      rw [if_neg (not_not.mpr (modpow_fermat p a ha0 ha1))]
      apply deflate_post p poly result a hg
      intro poly1 result1 G1
      obtain ⟨-, ⟨pr, pc, -⟩, mr, mc, -⟩ := xapow_spec p a poly1 G1
      apply gcdSplit_post p fuel _ ih _ poly1 result1 s1 pr pc G1 (by omega)
      intro poly2 result2 s2 G2 hs2
      apply gcdSplit_post p fuel _ ih _ poly2 result2 s2 mr mc G2 (by omega)
      intro poly3 result3 s3 G3 hs3
      dsimp only
      by_cases hne : poly ≠ poly3
      · rw [if_pos hne]
        exact Post.mono (by omega) (ih poly3 result3 s3 G3 (by omega))
      · rw [if_neg hne]
        show s3.length ≤ s.length
        omega

end NTV.PolyMod
