import Mathlib.FieldTheory.Finite.Trace
import Mathlib.FieldTheory.Finite.Extension
import Mathlib.RingTheory.AdjoinRoot
import Mathlib.Algebra.CharP.Lemmas
import Mathlib.Algebra.Squarefree.Basic
import Mathlib.RingTheory.PrincipalIdealDomain
import Mathlib.Tactic
/-! The algebra behind `final_split_2` (equal-degree splitting over 𝔽₂ with the trace map; no model here).

`S d u = Σ_{i<d} u^(2^i)`. For a squarefree `P ∈ 𝔽₂[X]` all of whose irreducible factors have degree `d` and
which is not irreducible, the trace map `u ↦ S d u mod P` is not "trivial" (≡ 0 or ≡ 1 modulo P) on all odd
powers `X^m`, `m < deg P`: some `gcd(P, S d (X^m))` with `m` odd, `m < deg P`, is a proper factor. -/
open Polynomial
namespace NTV.TraceAlg

noncomputable def S (d : ℕ) (u : (ZMod 2)[X]) : (ZMod 2)[X] := ∑ i ∈ Finset.range d, u ^ (2 ^ i)

theorem S_add (d : ℕ) (u v : (ZMod 2)[X]) : S d (u + v) = S d u + S d v := by
  unfold S
  rw [← Finset.sum_add_distrib]
  exact Finset.sum_congr rfl fun i _ => add_pow_char_pow u v 2 i

theorem S_sq (d : ℕ) (u : (ZMod 2)[X]) : S d (u ^ 2) = S d u ^ 2 := by
  unfold S
  rw [sum_pow_char 2]
  exact Finset.sum_congr rfl fun i _ => pow_right_comm u 2 _

theorem S_succ (d : ℕ) (u : (ZMod 2)[X]) : S (d + 1) u = S d u ^ 2 + u := by
  rw [← S_sq, S, S, Finset.sum_range_succ', pow_zero, pow_one]
  simp only [pow_succ', pow_mul]

theorem S_zero (d : ℕ) : S d 0 = 0 :=
  Finset.sum_eq_zero fun i _ => zero_pow (by positivity)

theorem S_one (d : ℕ) : S d 1 = C (d : ZMod 2) := by
  simp [S]

theorem dvd_S_of_dvd {q u : (ZMod 2)[X]} (d : ℕ) (h : q ∣ u) : q ∣ S d u :=
  Finset.dvd_sum fun i _ => h.trans (dvd_pow_self u (by positivity))

theorem S_congr {P u v : (ZMod 2)[X]} (d : ℕ) (h : P ∣ u - v) : P ∣ S d u - S d v := by
  unfold S
  rw [← Finset.sum_sub_distrib]
  exact Finset.dvd_sum fun i _ => h.trans (sub_dvd_pow_sub_pow u v _)

theorem zmod2_cases : ∀ t : ZMod 2, t = 0 ∨ t = 1 := by decide

section
variable (d : ℕ) (P : (ZMod 2)[X])

/-- the trace of u is constant modulo P -/
def Triv (u : (ZMod 2)[X]) : Prop := P ∣ S d u ∨ P ∣ S d u + 1

end

variable {d : ℕ} {P u v : (ZMod 2)[X]}

theorem triv_iff : Triv d P u ↔ ∃ c : ZMod 2, P ∣ S d u + C c := by
  constructor
  · rintro (h | h)
    · exact ⟨0, by rwa [C_0, add_zero]⟩
    · exact ⟨1, by rwa [C_1]⟩
  · rintro ⟨c, h⟩
    rcases zmod2_cases c with rfl | rfl
    · left; rwa [C_0, add_zero] at h
    · right; rwa [C_1] at h

/-- an irreducible q of degree d: the trace is 0 or 1 modulo q, and it is not identically 0 -/
theorem irreducible_trace {q : (ZMod 2)[X]} (hq : Irreducible q) :
    (∀ u, q ∣ S q.natDegree u ∨ q ∣ S q.natDegree u + 1) ∧ ∃ w, ¬ q ∣ S q.natDegree w := by
  have : Fact (Irreducible q) := ⟨hq⟩
  have := (AdjoinRoot.powerBasis hq.ne_zero).finite
  have : Finite (AdjoinRoot q) := Finite.of_equiv _ (AdjoinRoot.powerBasis hq.ne_zero).basis.equivFun.symm.toEquiv
  -- `S (deg q)` is the trace of the field `𝔽₂[X]/(q)` over `𝔽₂`
  have key (u : (ZMod 2)[X]) :
      q ∣ S q.natDegree u + C (Algebra.trace (ZMod 2) (AdjoinRoot q) (AdjoinRoot.mk q u)) := by
    rw [← CharTwo.sub_eq_add, ← AdjoinRoot.mk_eq_mk, AdjoinRoot.mk_C, ← AdjoinRoot.algebraMap_eq,
      FiniteField.algebraMap_trace_eq_sum_pow, (AdjoinRoot.powerBasis hq.ne_zero).finrank,
      AdjoinRoot.powerBasis_dim, Nat.card_zmod, S]
    -- through the additive hom, for which `map_sum` needs no search for the class
    exact (map_sum (AdjoinRoot.mk q).toAddMonoidHom _ _).trans
      (Finset.sum_congr rfl fun i _ => RingHom.map_pow (AdjoinRoot.mk q) u _)
  refine ⟨fun u => triv_iff.mpr ⟨_, key u⟩, ?_⟩
  obtain ⟨a, ha⟩ := Algebra.trace_surjective (ZMod 2) (AdjoinRoot q) 1
  obtain ⟨w, rfl⟩ := AdjoinRoot.mk_surjective a
  refine ⟨w, fun hw => hq.not_dvd_one ?_⟩
  have := key w
  rwa [ha, C_1, dvd_add_right hw] at this

theorem isCoprime_of_squarefree_mul {i a : (ZMod 2)[X]} (hi : Irreducible i) (hsq : Squarefree (i * a)) :
    IsCoprime i a :=
  (EuclideanDomain.dvd_or_coprime i a hi).resolve_left fun hd => hi.not_isUnit (hsq i (mul_dvd_mul_left i hd))

/-- a squarefree polynomial divides everything its irreducible factors divide -/
theorem dvd_of_irreducible_factors (P : (ZMod 2)[X]) : ∀ Y : (ZMod 2)[X], P ≠ 0 → Squarefree P →
    (∀ q, Irreducible q → q ∣ P → q ∣ Y) → P ∣ Y := by
  induction P using WfDvdMonoid.induction_on_irreducible with
  | zero => intro Y h; exact absurd rfl h
  | unit u hu => intro Y _ _ _; exact hu.dvd
  | mul a i ha hi ih =>
    intro Y _ hsq h
    exact (isCoprime_of_squarefree_mul hi hsq).mul_dvd (h i hi (dvd_mul_right i a))
      (ih Y ha hsq.of_mul_right fun q hq hqa => h q hq (hqa.trans (dvd_mul_left a i)))

theorem Triv.add (hu : Triv d P u) (hv : Triv d P v) : Triv d P (u + v) := by
  obtain ⟨a, ha⟩ := triv_iff.mp hu
  obtain ⟨b, hb⟩ := triv_iff.mp hv
  refine triv_iff.mpr ⟨a + b, ?_⟩
  rw [S_add, C_add, add_add_add_comm]
  exact dvd_add ha hb

theorem Triv.sq (hu : Triv d P u) : Triv d P (u ^ 2) := by
  obtain ⟨a, ha⟩ := triv_iff.mp hu
  refine triv_iff.mpr ⟨a ^ 2, ?_⟩
  rw [S_sq, C_pow, ← CharTwo.add_sq]
  exact dvd_pow ha two_ne_zero

theorem Triv.zero : Triv d P 0 := by left; rw [S_zero]; exact dvd_zero P

theorem Triv.one : Triv d P 1 :=
  triv_iff.mpr ⟨d, by rw [S_one, CharTwo.add_self_eq_zero]; exact dvd_zero P⟩

theorem Triv.congr (h : P ∣ u - v) (hv : Triv d P v) : Triv d P u := by
  obtain ⟨c, hc⟩ := triv_iff.mp hv
  refine triv_iff.mpr ⟨c, ?_⟩
  rw [← sub_add_cancel (S d u) (S d v), add_assoc]
  exact dvd_add (S_congr d h) hc

/-- if the trace is trivial on the odd powers of `X` below `n`, it is trivial on everything of degree below `n` -/
theorem triv_of_natDegree_lt (n : ℕ) (hodd : ∀ m, m < n → m % 2 = 1 → Triv d P (X ^ m)) (hu : u.natDegree < n) :
    Triv d P u := by
  -- even powers are squares of lower powers
  have hpow (m : ℕ) : m < n → Triv d P (X ^ m) := by
    induction m using Nat.strong_induction_on with
    | _ m ih =>
      intro hm
      rcases Nat.mod_two_eq_zero_or_one m with h | h
      · obtain ⟨k, rfl⟩ := Nat.dvd_of_mod_eq_zero h
        rcases k.eq_zero_or_pos with rfl | hk
        · rw [mul_zero, pow_zero]; exact Triv.one
        · have hlt := lt_two_mul_self hk
          rw [pow_mul']; exact (ih k hlt (hlt.trans hm)).sq
      · exact hodd m hm h
  rw [u.as_sum_range' n hu]
  apply Finset.sum_induction _ (Triv d P) (fun a b ha hb => ha.add hb) Triv.zero
  intro i hi
  rcases zmod2_cases (u.coeff i) with h | h
  · rw [h, monomial_zero_right]; exact Triv.zero
  · rw [h, monomial_one_right_eq_X_pow]; exact hpow i (Finset.mem_range.mp hi)

/-- **the trace map splits**: P squarefree, all irreducible factors of degree d, at least two of them
(deg P ≥ 2d): the trace cannot be trivial on all odd powers of X below deg P -/
theorem exists_odd_split (d : ℕ) (P : (ZMod 2)[X]) (hP0 : P ≠ 0) (hsq : Squarefree P)
    (hdeg : ∀ q, Irreducible q → q ∣ P → q.natDegree = d) (h2 : 2 * d ≤ P.natDegree) (hd : 1 ≤ d) :
    ¬ ∀ m, m < P.natDegree → m % 2 = 1 → Triv d P (X ^ m) := by
  intro hodd
  have hpos : 0 < P.natDegree := (Nat.mul_pos two_pos hd).trans_le h2
  -- every u is congruent to its remainder modulo P
  have hall (u : (ZMod 2)[X]) : Triv d P u :=
    Triv.congr ⟨u / P, sub_eq_iff_eq_add.mpr (EuclideanDomain.div_add_mod u P).symm⟩
      (triv_of_natDegree_lt _ hodd (natDegree_mod_lt u hpos.ne'))
  -- an irreducible factor and a cofactor of positive degree: P = q1 * Q
  obtain ⟨q1, hq1, Q, rfl⟩ := exists_irreducible_of_natDegree_pos hpos
  have hq1d : q1.natDegree = d := hdeg q1 hq1 (dvd_mul_right q1 Q)
  rw [natDegree_mul hq1.ne_zero (right_ne_zero_of_mul hP0), hq1d, two_mul, add_le_add_iff_left] at h2
  obtain ⟨a, b, hab⟩ := isCoprime_of_squarefree_mul hq1 hsq
  -- the witness: u ≡ w modulo q1, u ≡ 0 modulo Q
  obtain ⟨w, hw⟩ := (irreducible_trace hq1).2
  rw [hq1d] at hw
  have hcong : q1 ∣ b * Q * w - w := by
    rw [eq_sub_of_add_eq' hab, sub_mul, one_mul, sub_sub_cancel_left, dvd_neg]
    exact (dvd_mul_left q1 a).mul_right w
  have hQ : Q ∣ S d (b * Q * w) := dvd_S_of_dvd d ((dvd_mul_left Q b).mul_right w)
  rcases hall (b * Q * w) with h | h
  · exact hw ((dvd_sub_right ((dvd_mul_right q1 Q).trans h)).mp (S_congr d hcong))
  · exact Nat.ne_of_gt (hd.trans h2) (natDegree_eq_zero_of_isUnit
      (isUnit_of_dvd_one ((dvd_add_right hQ).mp ((dvd_mul_left Q q1).trans h))))

/-- the closed form of the iteration `c ← c² + t` started at `t` -/
theorem iterate_eq_S (t : (ZMod 2)[X]) : ∀ k : ℕ, (fun y => y ^ 2 + t)^[k] t = S (k + 1) t := by
  intro k
  induction k with
  | zero => simp [S]
  | succ k ih => rw [Function.iterate_succ_apply', ih, ← S_succ]

end NTV.TraceAlg
