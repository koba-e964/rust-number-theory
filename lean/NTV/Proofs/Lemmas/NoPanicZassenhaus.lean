import NTV.Proofs.Lemmas.ZassenhausMain
import NTV.Proofs.Lemmas.PolyZProofs4
import Mathlib.RingTheory.Polynomial.GaussLemma
/-! Panic-freedom of `factorize` (src/poly_z/mod.rs) on a canonical input of degree ≤ 25, the ingredients (the
theorems are `NTV.C07.no_panic`, `squarefree_stage_no_panic`, `combine_no_panic`): whatever the draws
are, the model fails only with `inconclusive stream` / `inconclusive fuel`. The `expect`s of the exact
divisions, the `assert!(lifted.len() <= 25)`, the exponent assertion after `factorize_mod_p`, the
`prod.deg() + 1` overflow on a zero product, the `% 0` of the prime search and every panic of the stages
called (`resultant_gcd`, `factorize_mod_p`, `lift_factorization`) are unreachable. -/
open Polynomial
namespace NTV.Res
open NTV.PolyG NTV.Subres

theorem canon_resPolyMul (f : List Int) (m : Int) (hf : Canon f) : Canon (Res.polyMul f m) := by
  unfold Res.polyMul
  split
  · exact hf
  · exact canon_fromRaw _

theorem canon_resPolyDiv (f r : List Int) (d : Int) (hf : Canon f) (h : Res.polyDiv f d = .ok r) : Canon r := by
  unfold Res.polyDiv at h
  split at h
  · cases h; exact hf
  · split at h
    · cases h
    · cases h; exact canon_fromRaw _

theorem gcd_result_canon (f g r : List Int) (hf : f ≠ []) (hg : g ≠ []) (hcf : Canon f) (hcg : Canon g)
    (h : resultantSmartGcdE f g = some (.ok (r, true))) : Canon r := by
  obtain ⟨f2, -, hc2, hne2, rfl⟩ := resultantSmartGcdE_exact f g r hf hg hcf hcg h
  exact canon_resPolyMul _ _ (contPP_spec f2 hne2 hc2).2.2.2

end NTV.Res

namespace NTV.PolyZ
open NTV.PolyG NTV.PolyMod NTV.Hensel NTV.Zas NTV.Res

theorem polyGcdAux_error (p : Int) : ∀ (fuel : Nat) (a b : Poly) (e : String),
    polyGcdAux p fuel a b = .error e → e = "inconclusive fuel" := by
  intro fuel
  induction fuel with
  | zero => intro a b e h; simp only [polyGcdAux, Except.error.injEq] at h; exact h.symm
  | succ fuel ih =>
    intro a b e h
    simp only [polyGcdAux] at h
    split at h
    · cases h
    · exact ih _ _ _ h

theorem polyGcd_error (p : Int) (a b : Poly) (e : String) (h : polyGcd a b p = .error e) :
    e = "inconclusive fuel" := polyGcdAux_error p _ a b e h

theorem powerAbove_error (p bound : Int) : ∀ (fuel e0 : Nat) (pe0 : Int) (err : String),
    powerAbove p bound fuel e0 pe0 = .error err → err = "inconclusive fuel" := by
  intro fuel
  induction fuel with
  | zero =>
    intro e0 pe0 err h
    simp only [powerAbove, throw, throwThe, MonadExceptOf.throw, Except.error.injEq] at h
    exact h.symm
  | succ fuel ih =>
    intro e0 pe0 err h
    simp only [powerAbove] at h
    split at h
    · exact ih _ _ _ h
    · cases h

theorem multiplicity_error (factor : Poly) : ∀ (fuel : Nat) (a : Poly) (e : Nat) (err : String),
    multiplicity factor fuel a e = .error err → err = "inconclusive fuel" := by
  intro fuel
  induction fuel with
  | zero =>
    intro a e err h
    simp only [multiplicity, throw, throwThe, MonadExceptOf.throw, Except.error.injEq] at h
    exact h.symm
  | succ fuel ih =>
    intro a e err h
    simp only [multiplicity] at h
    split at h
    · exact ih _ _ _ h
    · cases h

theorem multiplicities_error : ∀ (fs : List Poly) (a : Poly) (res : List (Poly × Nat)) (err : String),
    multiplicities fs a res = .error err → err = "inconclusive fuel" := by
  intro fs
  induction fs with
  | nil => intro a res err h; cases h
  | cons f rest ih =>
    intro a res err h
    simp only [multiplicities, bind, Except.bind] at h
    split at h
    · rename_i e1 he1
      cases h
      exact multiplicity_error f _ _ _ _ he1
    · exact ih _ _ _ h

/-- the prime search never evaluates `x % 0` (the primes tried are below 2³¹: `as i32` does not wrap) -/
theorem primeSearch_error (a : List Int) (n : Nat) : ∀ (fuel state : Nat) (err : String),
    Nat.count Nat.Prime state + fuel ≤ 100000 →
    primeSearch a n fuel state = .error err → err = "inconclusive fuel" := by
  intro fuel
  induction fuel with
  | zero => intro state err _ h; cases h; rfl
  | succ fuel ih =>
    intro state err hinv h
    rcases primeSearch_succ a n fuel state hinv with he | ⟨now, -, -, hrec, he⟩
    · rw [he] at h; cases h; rfl
    rw [he] at h
    split at h
    · exact ih (now + 1) err hrec h
    · cases hg : NTV.PolyMod.polyGcd (NTV.PolyMod.polyMod a (now : Int))
          (NTV.PolyMod.differentialMod (NTV.PolyMod.polyMod a (now : Int)) (now : Int)) (now : Int) with
      | error e' =>
        rw [hg] at h
        cases h
        exact polyGcd_error _ _ _ _ hg
      | ok g =>
        rw [hg] at h
        simp only [bind, Except.bind] at h
        split at h
        · cases h
        · exact ih (now + 1) err hrec h

/-- no `prod.deg() + 1` overflow: the product of a subset is never the zero polynomial -/
theorem subsetProd_ne_nil (pe lca : Int) (L : List Poly) (hmon : ∀ f ∈ L, (toPoly f).Monic)
    (hlca : ¬ pe ∣ lca) (bits : Nat) : subsetProd pe L bits (fromRaw [lca]) ≠ [] := by
  intro h0
  have hc := subsetProd_cong pe L bits (fromRaw [lca])
  rw [h0, toPoly_fromRaw_single] at hc
  have hM : (((selBits L bits).map toPoly).prod).Monic := by
    apply monic_list_prod'
    intro G hG
    obtain ⟨f, hf, rfl⟩ := List.mem_map.mp hG
    exact hmon f ((selBits_perm L bits).symm.subset (List.mem_append_left _ hf))
  have := (pcong_iff pe _ _).mp hc (((selBits L bits).map toPoly).prod).natDegree
  simp only [toPoly, zero_sub, coeff_neg, coeff_C_mul] at this
  rw [show (((selBits L bits).map toPoly).prod).coeff (((selBits L bits).map toPoly).prod).natDegree = 1 from hM,
    mul_one, Int.dvd_neg] at this
  exact hlca this

/-- Gauss: if the candidate divides `lc(a)·a` then its primitive part divides the primitive `a`
(the `expect` of the second exact division cannot fail) -/
theorem pp_divExact_of_cand {a c : List Int} (lca : Int) (hlca : lca ≠ 0) (ha : a ≠ []) (hca : Canon a)
    (hcc : Canon c) (q : List Int) (hq : divExact (NTV.PolyMod.polyMul a lca) c = some q) :
    ∃ a', divExact a (contPP c).2 = some a' := by
  obtain ⟨hcne, hfac, _⟩ := divExact_sound _ _ q hq
  obtain ⟨s1, s2, _, s4⟩ := contPP_spec c hcne hcc
  have hppne := pp_ne_nil c hcne hcc
  have hprim : (toPoly (contPP c).2).IsPrimitive := isPrimitive_of_list _ s2
  rw [toPoly_polyMul] at hfac
  have hd : toPoly (contPP c).2 ∣ C lca * toPoly a := by
    rw [hfac, ← s1]
    exact ⟨toPoly q * C (contPP c).1, by ring⟩
  have hd2 : toPoly (contPP c).2 ∣ toPoly a := by
    rw [IsPrimitive.Int.dvd_iff_map_cast_dvd_map_cast _ _ hprim]
    have := Polynomial.map_dvd (Int.castRingHom ℚ) hd
    rw [Polynomial.map_mul, map_C] at this
    have hu : IsUnit (C ((Int.castRingHom ℚ) lca) : ℚ[X]) := by
      rw [isUnit_C]
      exact IsUnit.mk0 _ (by simpa using hlca)
    exact (hu.dvd_mul_left).mp this
  obtain ⟨k, hk⟩ := hd2
  obtain ⟨q', hq'⟩ := exists_list k
  exact divExact_complete a (contPP c).2 q' ha hppne hca s4 (by rw [hk, hq']; ring)

section
variable {P e : ℕ} {pe pe2 : Int} {A : ℤ[X]}

theorem length_le_natDegree_prod (hP : P.Prime) : ∀ (L : List ℤ[X]), (∀ G ∈ L, G.Monic) →
    (∀ G ∈ L, Irreducible (rd P G)) → L.length ≤ L.prod.natDegree := by
  have _ : Fact P.Prime := ⟨hP⟩
  intro L
  induction L with
  | nil => intro _ _; simp
  | cons G rest ih =>
    intro hm hi
    have hG := hm G (by simp)
    have hr : rest.prod.Monic := monic_list_prod' rest (fun x hx => hm x (by simp [hx]))
    rw [List.prod_cons, hG.natDegree_mul hr, List.length_cons]
    have h1 : 1 ≤ G.natDegree := by
      have := (hi G (by simp)).natDegree_pos
      rwa [rd, hG.natDegree_map] at this
    have := ih (fun x hx => hm x (by simp [hx])) (fun x hx => hi x (by simp [hx]))
    omega

theorem _root_.NTV.Zas.Inv.length_le {a : ℤ[X]} {L : List ℤ[X]} {d : ℕ} (I : Inv P e A a L d) : L.length ≤ A.natDegree := by
  have h1 := length_le_natDegree_prod I.lifted.prime L I.lifted.monic I.lifted.irr
  have h2 := I.lifted.natDegree_eq
  have h3 := natDegree_le_of_dvd I.dvd I.prim.ne_zero
  omega

/-- `pe ∤ lc a` by the Mignotte window applied to the constant `lc a` -/
theorem subsetLoop_ok (S : Setup P e pe pe2 A) {a : List Int} {L : List Poly} {d : Nat} (ha : a ≠ []) (hca : Canon a)
    (I : Inv P e A (toPoly a) (L.map toPoly) d) (left b : Nat) (err : String) :
    subsetLoop pe pe2 a (coefAt a (degU a)) L d left b ≠ .error err := by
  obtain ⟨p1, p2, p3⟩ := S.pe_pos I.lifted.prime
  have hlc0 : (toPoly a).leadingCoeff ≠ 0 := leadingCoeff_ne_zero.mpr (natDegree_toPoly a ha hca).2.2
  rw [coefAt_degU a ha hca]
  have hnd : ¬ pe ∣ (toPoly a).leadingCoeff := by
    obtain ⟨g, hg⟩ := I.dvd
    have hb := S.bound g 1 (toPoly a) (by rw [hg]; ring) 0
    simp only [mul_one, coeff_C_zero] at hb
    intro hdvd
    apply hlc0
    apply Int.eq_zero_of_abs_lt_dvd hdvd
    rw [abs_lt]
    constructor <;> omega
  intro h
  rcases subsetLoop_run pe pe2 a _ L d left b with ⟨h1, -⟩ | ⟨bits, -, -, -, ⟨h0, -⟩ | ⟨q, hq, he⟩⟩
  · rw [h1] at h; cases h
  · exact subsetProd_ne_nil pe _ L (fun f hf => I.lifted.monic _ (List.mem_map_of_mem hf)) hnd bits h0
  · obtain ⟨a', ha'⟩ := pp_divExact_of_cand (c := cand pe pe2 _ L bits) _ hlc0 ha hca (canon_symres _ _ _) q hq
    rw [he, divExactExpect, ha'] at h
    cases h

end

end NTV.PolyZ
