import NTV.Proofs.Lemmas.NoPanicZassenhaus
/-! Panic-freedom of `factorize`, part 2: termination, the ingredients (the theorems are `NTV.C07.squarefree_stage_fuel`,
`fuel_only_prime_search`). The fuels of `powerAbove`, `combine` and `multiplicity`
are never exhausted, so the ONLY way `factorize` can report `inconclusive fuel` is the prime search: none of
the first 100000 primes is admissible for the squarefree part. -/
open Polynomial
namespace NTV.PolyZ
open NTV.PolyG NTV.PolyMod NTV.Hensel NTV.Zas NTV.Res

/-- each round at least doubles `pe`: `fuel + 1` rounds are enough as soon as `bound < pe0 · 2^fuel` -/
theorem powerAbove_total (p bound : Int) (hp : 2 ≤ p) : ∀ (fuel e0 : Nat) (pe0 : Int),
    1 ≤ pe0 → bound < pe0 * 2 ^ fuel → ∃ r, powerAbove p bound (fuel + 1) e0 pe0 = .ok r := by
  intro fuel
  induction fuel with
  | zero =>
    intro e0 pe0 _ hb
    rw [pow_zero, mul_one] at hb
    exact ⟨_, by rw [powerAbove, if_neg (not_le.mpr hb)]; rfl⟩
  | succ fuel ih =>
    intro e0 pe0 hpe hb
    rw [powerAbove]
    split
    · refine ih (e0 + 1) (pe0 * p) (one_le_mul_of_one_le_of_one_le hpe (by omega)) (hb.trans_le ?_)
      rw [pow_succ', ← mul_assoc]
      exact mul_le_mul_of_nonneg_right (mul_le_mul_of_nonneg_left hp (by omega)) (by positivity)
    · exact ⟨_, rfl⟩

/-- the call made by `get_factors_of_squarefree` -/
theorem powerAbove_top (p bound : Int) (hp : 2 ≤ p) :
    ∃ r, powerAbove p bound (bound.natAbs.log2 + 3) 0 1 = .ok r := by
  refine powerAbove_total p bound hp _ 0 1 (le_refl 1) ?_
  have h1 : ((bound.natAbs : Nat) : Int) < 2 ^ (bound.natAbs.log2 + 1) := by exact_mod_cast Nat.lt_log2_self
  rw [one_mul, pow_succ]
  have := Int.le_natAbs (a := bound)
  omega

theorem multiplicity_total (f : List Int) (hcf : Canon f) (hdeg : 2 ≤ f.length) :
    ∀ (fuel : Nat) (a : List Int) (e : Nat), a ≠ [] → Canon a → a.length < fuel →
    ∃ r, multiplicity f fuel a e = .ok r ∧ r.1 ≠ [] ∧ Canon r.1 := by
  have hf : f ≠ [] := by rintro rfl; simp at hdeg
  intro fuel
  induction fuel with
  | zero => intro a e _ _ h; omega
  | succ fuel ih =>
    intro a e ha hca hfu
    simp only [multiplicity]
    cases hd : divExact a f with
    | none => exact ⟨(a, e), rfl, ha, hca⟩
    | some q =>
      obtain ⟨_, hq, hcq⟩ := divExact_sound a f q hd
      have hqne := quot_ne_nil ha hca hq
      have d1 := natDegree_toPoly a ha hca
      have d2 := natDegree_toPoly q hqne hcq
      have d3 := natDegree_toPoly f hf hcf
      have hdeg' : (toPoly a).natDegree = (toPoly q).natDegree + (toPoly f).natDegree := by
        rw [hq]; exact natDegree_mul d2.2.2 d3.2.2
      have hl := List.length_pos_of_ne_nil hqne
      exact ih q (e + 1) hqne hcq (by omega)

theorem multiplicities_total : ∀ (fs : List Poly) (a : Poly) (res : List (Poly × Nat)),
    (∀ f ∈ fs, Canon f ∧ 2 ≤ f.length) → a ≠ [] → Canon a → ∃ r, multiplicities fs a res = .ok r := by
  intro fs
  induction fs with
  | nil => intro a res _ _ _; exact ⟨_, rfl⟩
  | cons f rest ih =>
    intro a res hfs ha hca
    obtain ⟨hcf, hlf⟩ := hfs f (by simp)
    obtain ⟨⟨a', e⟩, hm, hne, hc⟩ := multiplicity_total f hcf hlf (a.length + 2) a 0 ha hca (by omega)
    simp only [multiplicities]
    rw [hm, ok_bind']
    exact ih a' _ (fun x hx => hfs x (by simp [hx])) hne hc

section
variable {P e : ℕ} {pe pe2 : Int} {A : ℤ[X]}

/-- `combine` with the fuel of the model never fails: every round removes d ≥ 1 lifted factors or
increments d ≤ |lifted|/2 -/
theorem combine_ne_error (S : Setup P e pe pe2 A) (hA : A.natDegree ≤ 25) : ∀ (fuel : Nat) (a : List Int)
    (L : List Poly) (d : Nat) (result : List Poly) (err : String), a ≠ [] → Canon a →
    Inv P e A (toPoly a) (L.map toPoly) d →
    L.length + L.length / 2 + 2 ≤ fuel + d → d ≤ L.length + 1 →
    combine pe pe2 fuel a L d result ≠ .error err := by
  intro fuel
  induction fuel with
  | zero => intro a L d result err _ _ _ h1 h2; omega
  | succ fuel ih =>
    intro a L d result err ha hca I hf hd h
    have hlen25 := I.length_le
    rw [List.length_map] at hlen25
    rcases combine_succ S ha hca I fuel result with
      ⟨-, he⟩ | ⟨hlen, ⟨h25, -⟩ | ⟨err', hv, -⟩ | ⟨pp, a1, l1, -, s2, s3, s4, s5, he⟩ | ⟨I', he⟩⟩
    · rw [he] at h; cases h
    · omega
    · exact absurd hv (subsetLoop_ok S ha hca I _ _ _)
    · rw [he] at h
      have hdpos := I.dpos
      exact ih a1 l1 d _ err s2 s3 s4 (by omega) (by omega) h
    · rw [he] at h
      exact ih a L (d + 1) result err ha hca I' (by omega) (by omega) h

end

/-- the stages of `factorize` before the recombination are total (the `expect` of the division by the gcd included) -/
theorem squarefree_part_total (a : List Int) (ha : a ≠ []) (hca : Canon a) (hlen : 2 ≤ a.length) :
    ∃ g sq, resultantGcd (contPP a).2 (differential (contPP a).2) = .ok g ∧
      (if degU g ≠ 0 then divExactExpect (contPP a).2 g else pure (contPP a).2) = .ok sq ∧
      Canon sq ∧ toPoly sq ∣ toPoly (contPP a).2 ∧ 2 ≤ sq.length ∧ sq.length ≤ a.length := by
  obtain ⟨p1, p2, p3, p4, _⟩ := pp_facts ha hca
  obtain ⟨_, _, s3, s4⟩ := contPP_spec a ha hca
  have hne := pp_ne_nil a ha hca
  obtain ⟨hpos, hder0, hdne⟩ := differential_pp_facts ha hca hlen
  obtain ⟨g, hres⟩ := resultantSmartGcd_total _ _ hne hdne s4 (canon_differential _)
  have hAlen : (contPP a).2.length = a.length := by
    have h1 := (natDegree_toPoly _ hne s4).1
    have h2 := List.length_pos_of_ne_nil hne
    omega
  have hgcd : resultantGcd (contPP a).2 (differential (contPP a).2) = .ok g := by
    unfold resultantGcd; rw [hres]; rfl
  by_cases hdg : degU g ≠ 0
  · obtain ⟨⟨k, hk⟩, g2, _⟩ := NTV.C10.is_gcd_partial _ _ g hne hdne s4 (canon_differential _) hres
    rw [toPoly_differential] at g2
    have hg0 : toPoly g ≠ 0 := by intro h0; rw [h0, zero_mul] at hk; exact p2 hk
    have hgne : g ≠ [] := by rintro rfl; exact hg0 rfl
    obtain ⟨q', hq'⟩ := exists_list k
    have hgc : Canon g := gcd_result_canon _ _ g hne hdne s4 (canon_differential _) hres
    obtain ⟨sq, hsq⟩ := divExact_complete (contPP a).2 g q' hne hgne s4 hgc (by rw [hk, hq', mul_comm])
    obtain ⟨_, hfac, hsqc⟩ := divExact_sound _ _ sq hsq
    have hsqne := quot_ne_nil hne s4 hfac
    have hs0 : toPoly sq ≠ 0 := by intro h0; rw [h0, zero_mul] at hfac; exact p2 hfac
    have hdegA := natDegree_mul hs0 hg0
    rw [← hfac] at hdegA
    have hgle := natDegree_le_of_dvd g2 hder0
    have hdlt : (derivative (toPoly (contPP a).2)).natDegree < (toPoly (contPP a).2).natDegree :=
      natDegree_derivative_lt hpos
    have hsl := (natDegree_toPoly sq hsqne hsqc).1
    have hsl0 := List.length_pos_of_ne_nil hsqne
    have hl : 2 ≤ sq.length ∧ sq.length ≤ a.length := by omega
    refine ⟨g, sq, hgcd, ?_, hsqc, ⟨toPoly g, hfac⟩, hl⟩
    rw [if_pos hdg]
    exact divExactExpect_ok.mpr hsq
  · exact ⟨g, _, hgcd, if_neg hdg, s4, dvd_refl _, hAlen ▸ hlen, hAlen.le⟩

end NTV.PolyZ
