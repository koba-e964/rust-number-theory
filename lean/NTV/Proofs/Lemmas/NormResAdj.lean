import NTV.Proofs.Lemmas.NormResMat
import Mathlib.RingTheory.AdjoinRoot
import Mathlib.RingTheory.Norm.Defs
import Mathlib.LinearAlgebra.Matrix.Charpoly.Minpoly
/-! C14 (norm = resultant), quotient part: in `k[X]/(F)` over a field, `F ≠ 0`, the norm of the class
of `G` satisfies `N(G) · lc(F)^{deg G} = Res(F, G)`. -/
open Polynomial Matrix
namespace NTV.NormRes

variable {k : Type*} [Field k]

/-- the norm is `det G(M)` for `M` the matrix of the multiplication by the root in the power basis, whose
characteristic polynomial is the minimal polynomial `F / lc(F)` of the root -/
theorem norm_mk_eq_resultant_normalized (F G : k[X]) (hF : F ≠ 0) :
    Algebra.norm k (AdjoinRoot.mk F G) = resultant (F * C F.leadingCoeff⁻¹) G := by
  rw [Algebra.norm_eq_matrix_det (AdjoinRoot.powerBasis hF).basis, ← AdjoinRoot.aeval_eq,
    ← AdjoinRoot.powerBasis_gen hF, ← Polynomial.aeval_algHom_apply, det_aeval_eq_resultant,
    charpoly_leftMulMatrix, AdjoinRoot.minpoly_powerBasis_gen hF]

theorem norm_mk_mul_pow (F G : k[X]) (hF : F ≠ 0) :
    Algebra.norm k (AdjoinRoot.mk F G) * F.leadingCoeff ^ G.natDegree = resultant F G := by
  have hl : F.leadingCoeff ≠ 0 := leadingCoeff_ne_zero.mpr hF
  have hi : F.leadingCoeff⁻¹ ≠ 0 := inv_ne_zero hl
  rw [norm_mk_eq_resultant_normalized F G hF, natDegree_mul_C hi, mul_comm,
    ← resultant_C_mul_left, mul_left_comm, ← C_mul, mul_inv_cancel₀ hl, C_1, mul_one]

end NTV.NormRes
