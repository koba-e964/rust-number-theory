import NTV.Proofs.Lemmas.TableAbs
import Mathlib.RingTheory.Norm.Defs
import Mathlib.RingTheory.Trace.Defs
import Mathlib.LinearAlgebra.Dimension.Constructions
import Mathlib.LinearAlgebra.FiniteDimensional.Lemmas
/-! C14 (norm = resultant), table part: in the abstract setting of `NTV.TableAbs`, when `Ω` has as many
members as the dimension of `K` over ℚ, `det (reg T a)` is the algebra norm of `Σ a_i Ω_i`, and the trace computed from
the table is the algebra trace (`Ctx.algebra_trace`, used for the inverse different). -/
open Matrix
namespace NTV.TableAbs

variable {K : Type*} [CommRing K] [Algebra ℚ K] {n : ℕ}
variable {q : ℚ →+* K} {Ω : Fin n → K} {T : Fin n → Fin n → Fin n → ℤ}

theorem psi_eq_sum_smul (x : Fin n → ℚ) : psi q Ω x = ∑ i, x i • Ω i := by
  rw [RingHom.ext_rat q (algebraMap ℚ K)]
  exact Finset.sum_congr rfl fun i _ => (Algebra.smul_def _ _).symm

theorem linearIndependent_of_psi (h : ∀ x : Fin n → ℚ, psi q Ω x = 0 → x = 0) : LinearIndependent ℚ Ω :=
  Fintype.linearIndependent_iff.mpr fun g hg => congrFun (h g ((psi_eq_sum_smul g).trans hg))

theorem Ctx.linearIndependent (h : Ctx q Ω T) : LinearIndependent ℚ Ω := linearIndependent_of_psi h.indep

variable [NeZero n] (h : Ctx q Ω T) (hdim : Module.finrank ℚ K = n)
include h hdim

noncomputable def Ctx.basis : Module.Basis (Fin n) ℚ K :=
  basisOfLinearIndependentOfCardEqFinrank h.linearIndependent ((Fintype.card_fin n).trans hdim.symm)

theorem Ctx.basis_apply (i : Fin n) : h.basis hdim i = Ω i := by
  simp [Ctx.basis]

theorem Ctx.repr_psi (x : Fin n → ℚ) (i : Fin n) : (h.basis hdim).repr (psi q Ω x) i = x i := by
  rw [psi_eq_sum_smul]
  simp only [← h.basis_apply hdim]
  rw [Module.Basis.repr_sum_self]

/-- the matrix of the multiplication by `Σ a_i Ω_i` in the basis `Ω` is the transpose of `reg T a` -/
theorem Ctx.leftMulMatrix_eq (a : Fin n → ℤ) :
    Algebra.leftMulMatrix (h.basis hdim) (psi q Ω (castV a)) = (castM (reg T a))ᵀ := by
  ext i j
  rw [Algebra.leftMulMatrix_eq_repr_mul, h.basis_apply hdim, ← psi_single (q := q) (Ω := Ω) j,
    h.reg_is_mult, h.repr_psi hdim, Matrix.single_one_vecMul]
  rfl

theorem Ctx.norm_eq_det (a : Fin n → ℤ) :
    Algebra.norm ℚ (psi q Ω (castV a)) = (((reg T a).det : ℤ) : ℚ) := by
  rw [Algebra.norm_eq_matrix_det (h.basis hdim), h.leftMulMatrix_eq hdim, Matrix.det_transpose, det_castM]

theorem Ctx.algebra_trace (a : Fin n → ℤ) :
    Algebra.trace ℚ K (psi q Ω (castV a)) = (((reg T a).trace : ℤ) : ℚ) := by
  rw [Algebra.trace_eq_matrix_trace (h.basis hdim), h.leftMulMatrix_eq hdim, Matrix.trace_transpose]
  exact (AddMonoidHom.map_trace (Int.castAddHom ℚ) _).symm

end NTV.TableAbs
