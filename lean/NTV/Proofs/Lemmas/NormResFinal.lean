import NTV.Proofs.Lemmas.TableProofs2
import NTV.Proofs.Lemmas.NormResAdj
import NTV.Proofs.Lemmas.NormResCtx
import NTV.Proofs.Lemmas.OrdUnionPower
/-! C14 (norm = resultant), the list-level facts for the assembly in `NTV.C14.norm_is_resultant`: the modulus as the image of
the integer polynomial, its rank, and the polynomial (degree < n) representing an element. -/
open Polynomial Matrix
namespace NTV.Ord
open NTV.RowOps (toM Rect ent)
open NTV.PolyG
open NTV.Alg (Reduced modulus cls)
open NTV.TableAbs (psi castV castM reg Ctx)

theorem toPoly_map_ringHom {R S : Type} [CommRing R] [CommRing S] (φ : R →+* S) (l : List R) :
    toPoly (l.map φ) = (toPoly l).map φ := by
  induction l with
  | nil => simp [toPoly]
  | cons c cs ih => simp [toPoly, ih]

theorem modulus_eq_map (f : List Int) : modulus f = (toPoly f).map (Int.castRingHom ℚ) := by
  unfold modulus NTV.Alg.intsToRats
  exact toPoly_map_ringHom (Int.castRingHom ℚ) f

theorem modulus_leadingCoeff (f : List Int) (hf : Canon f) (hne : f ≠ []) :
    (modulus f).leadingCoeff = ((lc f : Int) : ℚ) := by
  rw [modulus_eq_map, leadingCoeff_map_of_injective (Int.cast_injective (α := ℚ)),
    (natDegree_toPoly f hne hf).2.1]
  rfl

variable {f : List Int} {basis : QMat} {n : Nat}

theorem Setup.finrank (S : Setup f basis n) : Module.finrank ℚ (AdjoinRoot (modulus f)) = n := by
  obtain ⟨hdeg, hF⟩ := NTV.Alg.modulus_facts f S.canon S.two_le
  rw [(AdjoinRoot.powerBasis hF).finrank, AdjoinRoot.powerBasis_dim, hdeg, S.len, Nat.add_sub_cancel]

theorem elt_getD (basis : QMat) (a : List Int) (c : Nat) (hc : c < basis.length) :
    (elt basis a).getD c 0 = ∑ i ∈ Finset.range basis.length, ((a.getD i 0 : Int) : Rat) * ent basis i c := by
  unfold elt comb
  rw [getD_fromRaw, getD_map_range _ _ _ c hc]
  exact Finset.sum_congr rfl fun i _ => by rw [getD_map_intCast]

theorem elt_length_le (basis : QMat) (a : List Int) : (elt basis a).length ≤ basis.length :=
  length_fromRaw_le _ _ fun j hj =>
    getD_of_length_le _ j (by rw [List.length_map, List.length_range]; exact hj)

/-- in the power basis the element with integer coordinates `g` is the polynomial `g` -/
theorem toPoly_elt_identityQ (n : Nat) (g : List Int) (hg : g.length ≤ n) :
    toPoly (elt (identityQ n) g) = (toPoly g).map (Int.castRingHom ℚ) := by
  ext c
  rw [coeff_toPoly, coeff_map, coeff_toPoly]
  have hl : (identityQ n).length = n := (identityQ_rect n).1
  by_cases hc : c < n
  · rw [elt_getD _ _ _ (hl.symm ▸ hc), hl, Finset.sum_eq_single c]
    · rw [identityQ_ent n c c hc hc, if_pos rfl, mul_one, eq_intCast]
    · intro i hi hic
      rw [identityQ_ent n i c (Finset.mem_range.mp hi) hc, if_neg hic, mul_zero]
    · exact fun h => absurd (Finset.mem_range.mpr hc) h
  · have hc := not_lt.mp hc
    rw [getD_of_length_le _ c (((elt_length_le _ g).trans hl.le).trans hc), getD_of_length_le _ c (hg.trans hc),
      RingHom.map_zero]

end NTV.Ord
