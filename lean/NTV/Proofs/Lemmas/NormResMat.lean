import Mathlib.RingTheory.Polynomial.Resultant.Basic
import Mathlib.LinearAlgebra.Matrix.Charpoly.Basic
import Mathlib.LinearAlgebra.Matrix.Charpoly.Coeff
import Mathlib.FieldTheory.SplittingField.Construction
/-! C14 (norm = resultant), matrix part: for a square matrix `M` over a field with characteristic
polynomial `χ` and any polynomial `G`, `det G(M) = Res(χ, G)`. -/
open Polynomial Matrix
namespace NTV.NormRes

variable {k : Type*} [Field k] {n : ℕ} (M : Matrix (Fin n) (Fin n) k)

/-- `G ↦ det G(M)` as a monoid homomorphism: matrices do not commute, so the product over the roots
of `G` is taken after `det`. -/
noncomputable def detAeval : k[X] →* k :=
  Matrix.detMonoidHom.comp (aeval M : k[X] →ₐ[k] Matrix (Fin n) (Fin n) k).toRingHom.toMonoidHom

theorem detAeval_X_sub_C (b : k) :
    detAeval M (X - C b) = (-1) ^ n * M.charpoly.eval b := by
  calc _ = (-(scalar (Fin n) b - M)).det :=
        congrArg det (show aeval M (X - C b) = _ by rw [neg_sub, aeval_sub, aeval_X, aeval_C]; rfl)
    _ = _ := by rw [det_neg, Fintype.card_fin, eval_charpoly]

/-- the split case: with `G = c ∏ (X - a)`, `det G(M) = cⁿ ∏ det (M - a) = cⁿ ∏ (-1)ⁿ χ(a)` -/
theorem det_aeval_of_splits (G : k[X]) (hG : G.Splits) :
    (aeval M G).det = resultant M.charpoly G := by
  have hdeg : M.charpoly.natDegree = n := by
    rw [Matrix.charpoly_natDegree_eq_dim, Fintype.card_fin]
  rw [resultant_comm, hdeg, resultant_eq_prod_eval G M.charpoly n hdeg.le hG]
  conv_lhs => rw [hG.eq_prod_roots, C_mul', AlgHom.map_smul_of_tower, det_smul, Fintype.card_fin]
  change _ * detAeval M _ = _
  rw [← Multiset.prod_hom', _root_.funext (detAeval_X_sub_C M), Multiset.prod_map_mul,
    Multiset.map_const', Multiset.prod_replicate, ← hG.natDegree_eq_card_roots, ← pow_mul,
    mul_left_comm]

/-- `det G(M) = Res(χ_M, G)` (formal degrees `n` and `deg G`): pass to a splitting field of `G` -/
theorem det_aeval_eq_resultant (G : k[X]) :
    (aeval M G).det = resultant M.charpoly G := by
  let L := G.SplittingField
  apply (algebraMap k L).injective
  have h := det_aeval_of_splits (M.map (algebraMap k L)) (G.map (algebraMap k L))
    (SplittingField.splits G)
  rw [Matrix.charpoly_map] at h
  simp only [natDegree_map, resultant_map_map, aeval_map_algebraMap] at h
  rw [← h]
  -- `det` and `aeval` commute with the base change of matrices
  exact (AlgHom.map_det (Algebra.ofId k L) _).trans
    (congrArg det (aeval_algHom_apply (Algebra.ofId k L).mapMatrix M G).symm)

end NTV.NormRes
