import NTV.Proofs.Lemmas.OrdProofs
import NTV.Proofs.Lemmas.HnfCanon
/-! `hnf_reduce` (`Order::from_basis`) of the model `NTV.Ord`: the lcm of the denominators, the scaled integer matrix
`L · A`, the routine as a function of that matrix and its normal form, and canonical storage — two bases of the same
ℤ-module are stored identically (C15). -/
open Matrix
namespace NTV.Ord
open NTV.RowOps (toM Rect ent)

theorem mapM_ok {α β : Type} (l : List α) (f : α → M β) (g : α → β) (h : ∀ x ∈ l, f x = .ok (g x)) :
    l.mapM f = .ok (l.map g) := by
  induction l with
  | nil => rfl
  | cons x xs ih =>
    rw [List.mapM_cons, h x (by simp), ih (fun y hy => h y (by simp [hy]))]
    rfl

theorem tabulate_ok {α : Type} (n : Nat) (f : Nat → M α) (g : Nat → α) (h : ∀ i < n, f i = .ok (g i)) :
    tabulate n f = .ok ((List.range n).map g) :=
  mapM_ok _ f g (fun i hi => h i (List.mem_range.mp hi))

theorem idx_ok {α : Type} (v : List α) (i : Nat) (h : i < v.length) : idx v i = .ok v[i] := by
  simp [idx, List.getElem?_eq_getElem h]

theorem tabulate_idx2 {α β : Type} (A : List (List α)) (n : Nat) (hlen : A.length = n)
    (hrow : ∀ r ∈ A, r.length = n) (g : α → β) (d : α) :
    tabulate n (fun i => tabulate n (fun j => do
      let row ← idx A i
      let e ← idx row j
      pure (g e))) = .ok ((List.range n).map fun i => (List.range n).map fun j => g ((A.getD i []).getD j d)) := by
  apply tabulate_ok
  intro i hi
  apply tabulate_ok
  intro j hj
  have hi' : i < A.length := by rw [hlen]; exact hi
  have hj' : j < (A[i]).length := by rw [hrow _ (List.getElem_mem hi')]; exact hj
  rw [idx_ok A i hi']
  simp only [bind, Except.bind]
  rw [idx_ok _ j hj']
  simp only [pure, Except.pure, List.getD_eq_getElem?_getD, List.getElem?_eq_getElem hi', Option.getD_some,
    List.getElem?_eq_getElem hj']

def AllDenDvd (A : QMat) (L : Int) : Prop := ∀ row ∈ A, ∀ e ∈ row, ((e.den : Nat) : Int) ∣ L

theorem rowFold_spec (row : List Rat) (start : Int) :
    start ∣ row.foldl (fun l e => (Int.lcm l e.den : Int)) start ∧
    (∀ e ∈ row, ((e.den : Nat) : Int) ∣ row.foldl (fun l e => (Int.lcm l e.den : Int)) start) ∧
    (∀ L' : Int, start ∣ L' → (∀ e ∈ row, ((e.den : Nat) : Int) ∣ L') →
      row.foldl (fun l e => (Int.lcm l e.den : Int)) start ∣ L') := by
  induction row generalizing start with
  | nil => exact ⟨dvd_rfl, fun _ h => absurd h List.not_mem_nil, fun _ h _ => h⟩
  | cons x xs ih =>
    simp only [List.foldl_cons]
    obtain ⟨h1, h2, h3⟩ := ih ((Int.lcm start x.den : Nat) : Int)
    refine ⟨dvd_trans (Int.dvd_lcm_left _ _) h1, ?_, ?_⟩
    · intro e he
      rcases List.mem_cons.mp he with rfl | he
      · exact dvd_trans (Int.dvd_lcm_right _ _) h1
      · exact h2 e he
    · intro L' hs hall
      apply h3 L'
      · exact Int.coe_lcm_dvd hs (hall x (by simp))
      · intro e he; exact hall e (by simp [he])

/-- the double fold of `lcmDen` is one fold over all entries -/
theorem lcmDen_eq (A : QMat) (s : Int) :
    lcmDen A s = A.flatten.foldl (fun l e => (Int.lcm l e.den : Int)) s :=
  List.foldl_flatten.symm

theorem lcmDen_spec (A : QMat) (start : Int) :
    start ∣ lcmDen A start ∧ AllDenDvd A (lcmDen A start) ∧
    (∀ L' : Int, start ∣ L' → AllDenDvd A L' → lcmDen A start ∣ L') := by
  rw [lcmDen_eq]
  obtain ⟨h1, h2, h3⟩ := rowFold_spec A.flatten start
  refine ⟨h1, fun row hr e he => h2 e (List.mem_flatten.mpr ⟨row, hr, he⟩), fun L' hs hall => h3 L' hs ?_⟩
  intro e he
  obtain ⟨row, hr, he'⟩ := List.mem_flatten.mp he
  exact hall row hr e he'

theorem rowFold_pos (row : List Rat) (start : Int) (hs : 0 < start) :
    0 < row.foldl (fun l e => (Int.lcm l e.den : Int)) start := by
  induction row generalizing start with
  | nil => exact hs
  | cons x xs ih =>
    exact ih _ (Int.natCast_pos.mpr (Nat.pos_of_ne_zero
      (Int.lcm_ne_zero hs.ne' (Int.natCast_ne_zero.mpr x.den_nz))))

theorem lcmDen_pos (A : QMat) (s : Int) (hs : 0 < s) : 0 < lcmDen A s := by
  rw [lcmDen_eq]
  exact rowFold_pos _ s hs

theorem lcmDen_nonneg (A : QMat) : 0 ≤ lcmDen A 1 := (lcmDen_pos A 1 one_pos).le

theorem den_dvd_iff (e : Rat) (L : Int) : ((e.den : Nat) : Int) ∣ L ↔ ∃ z : Int, e * (L : Rat) = (z : Rat) := by
  constructor
  · rintro ⟨k, rfl⟩
    refine ⟨e.num * k, ?_⟩
    have := Rat.mul_den_eq_num e
    push_cast
    rw [← mul_assoc, this]
  · rintro ⟨z, hz⟩
    by_cases hL : L = 0
    · subst hL; exact dvd_zero _
    · have hL' : (L : Rat) ≠ 0 := Int.cast_ne_zero.mpr hL
      have he : e = (z : Rat) / (L : Rat) := by field_simp; exact hz
      rw [he, ← Rat.divInt_eq_div]
      exact Rat.den_dvd z L

/-- for a square matrix the entries are the `toM n n A i j` -/
theorem allDenDvd_iff {A : QMat} {n : Nat} (hA : Rect n n A) (L : Int) :
    AllDenDvd A L ↔ ∀ i j : Fin n, (((toM n n A i j).den : Nat) : Int) ∣ L := by
  have hent : ∀ (i j : Nat) (hi : i < A.length) (hj : j < (A[i]).length), ent A i j = (A[i])[j] :=
    fun i j hi hj => by
      simp only [ent, List.getD_eq_getElem?_getD, List.getElem?_eq_getElem hi, Option.getD_some,
        List.getElem?_eq_getElem hj]
  constructor
  · intro h i j
    have hi : (i : Nat) < A.length := by rw [hA.1]; exact i.2
    have hj : (j : Nat) < (A[(i : Nat)]).length := by rw [hA.2 _ (List.getElem_mem hi)]; exact j.2
    rw [show toM n n A i j = (A[(i : Nat)])[(j : Nat)] from hent i j hi hj]
    exact h _ (List.getElem_mem hi) _ (List.getElem_mem hj)
  · intro h row hrow e he
    obtain ⟨i, hi, rfl⟩ := List.mem_iff_getElem.mp hrow
    obtain ⟨j, hj, rfl⟩ := List.mem_iff_getElem.mp he
    rw [← hent i j hi hj]
    exact h ⟨i, hA.1 ▸ hi⟩ ⟨j, hA.2 _ (List.getElem_mem hi) ▸ hj⟩

/-- the integer matrix `L · A` (`L` a common multiple of the denominators) computed by `hnf_reduce` and
`union` -/
def scaledBy (L : Int) (A : QMat) (n : Nat) : IMat :=
  (List.range n).map (fun i => (List.range n).map (fun j => toInteger (ent A i j * (L : Rat))))

theorem scaledBy_rect (L : Int) (A : QMat) (n : Nat) : NTV.Hnf.Rect n n (scaledBy L A n) :=
  rect_tabulated n n _

theorem scaledBy_ent (L : Int) (A : QMat) (n : Nat) (i j : Nat) (hi : i < n) (hj : j < n) :
    NTV.Hnf.ent (scaledBy L A n) i j = toInteger (ent A i j * (L : Rat)) := by
  rw [NTV.Hnf.ent, scaledBy, getD_map_range n _ _ i hi, getD_map_range n _ _ j hj]

theorem scaledBy_cast (L : Int) (A : QMat) (n : Nat) (hA : Rect n n A) (hL : AllDenDvd A L) (i j : Fin n) :
    ((NTV.Hnf.toM n n (scaledBy L A n) i j : Int) : Rat) = (L : Rat) * toM n n A i j := by
  obtain ⟨z, hz⟩ := (den_dvd_iff _ _).mp ((allDenDvd_iff hA L).mp hL i j)
  simp only [NTV.Hnf.toM, toM] at hz ⊢
  rw [scaledBy_ent L A n i j i.isLt j.isLt, hz, toInteger_intCast, ← hz, mul_comm]

theorem scaledBy_map (L : Int) (A : QMat) (n : Nat) (hA : Rect n n A) (hL : AllDenDvd A L) :
    (NTV.Hnf.toM n n (scaledBy L A n)).map (Int.castRingHom ℚ) = (L : Rat) • toM n n A := by
  ext i j
  exact scaledBy_cast L A n hA hL i j

theorem scaledBy_det_ne (L : Int) (A : QMat) (n : Nat) (hA : Rect n n A) (hL : AllDenDvd A L) (hL0 : L ≠ 0)
    (hdet : (toM n n A).det ≠ 0) : (NTV.Hnf.toM n n (scaledBy L A n)).det ≠ 0 := by
  intro h0
  have := congrArg Matrix.det (scaledBy_map L A n hA hL)
  rw [det_map_intCast, h0, Int.cast_zero, Matrix.det_smul] at this
  exact mul_ne_zero (pow_ne_zero _ (Int.cast_ne_zero.mpr hL0)) hdet this.symm

/-- the conversion loops of `hnf_reduce` and `union` -/
theorem toInt_ok (A : QMat) (n : Nat) (hA : Rect n n A) (L : Int) :
    tabulate n (fun i => tabulate n (fun j => do
      let row ← idx A i
      let e ← idx row j
      pure (toInteger (e * (L : Rat))))) = .ok (scaledBy L A n) :=
  tabulate_idx2 A n hA.1 hA.2 (fun e => toInteger (e * (L : Rat))) 0

/-- the integer matrix `lcm · A` computed by `hnf_reduce` -/
def scaled (A : QMat) (n : Nat) : IMat :=
  (List.range n).map (fun i => (List.range n).map (fun j => toInteger (ent A i j * ((lcmDen A 1 : Int) : Rat))))

theorem scaled_rect (A : QMat) (n : Nat) : NTV.Hnf.Rect n n (scaled A n) := scaledBy_rect _ A n

theorem scaled_cast (A : QMat) (n : Nat) (hA : Rect n n A) (i j : Fin n) :
    ((NTV.Hnf.toM n n (scaled A n) i j : Int) : Rat) = ((lcmDen A 1 : Int) : Rat) * toM n n A i j :=
  scaledBy_cast _ A n hA (lcmDen_spec A 1).2.1 i j

theorem scaled_map (A : QMat) (n : Nat) (hA : Rect n n A) :
    (NTV.Hnf.toM n n (scaled A n)).map (Int.castRingHom ℚ) = ((lcmDen A 1 : Int) : Rat) • toM n n A :=
  scaledBy_map _ A n hA (lcmDen_spec A 1).2.1

/-- the final rescaling of `hnf_reduce` as a function of the normal form -/
def unscale (n : Nat) (L : Int) (hnf : IMat) : M QMat :=
  tabulate n (fun i => tabulate n (fun j => do
    let row ← idx hnf i
    let e ← idx row j
    pure ((e : Rat) / (L : Rat))))

/-- `hnf_reduce` depends on its argument only through the scaled integer matrix and the lcm -/
theorem hnfReduce_unfold (A : QMat) (n : Nat) (hA : Rect n n A) :
    hnfReduce A = (match NTV.Hnf.hnfNew (scaled A n) with
      | none => .error "inconclusive fuel"
      | some hnf => unscale n (lcmDen A 1) hnf) := by
  unfold hnfReduce
  have hib := toInt_ok A n hA (lcmDen A 1)
  simp only [bind, Except.bind, hA.1] at hib ⊢
  rw [hib]
  rfl

/-- if `A' = U · A` with `U` integral then `lcmDen A' ∣ lcmDen A` (so the lcm of the denominators depends only on the
ℤ-module) -/
theorem lcmDen_dvd_of_rel (A A' : QMat) (n : Nat) (hA : Rect n n A) (hA' : Rect n n A')
    (U : Matrix (Fin n) (Fin n) ℤ) (hrel : toM n n A' = U.map (Int.castRingHom ℚ) * toM n n A) :
    lcmDen A' 1 ∣ lcmDen A 1 := by
  apply (lcmDen_spec A' 1).2.2 _ (one_dvd _)
  rw [allDenDvd_iff hA']
  intro i j
  -- `L • A' = (U * S).map cast` for the scaled integer matrix `S` of `A`
  have h : ((lcmDen A 1 : Int) : Rat) • toM n n A' =
      (U * NTV.Hnf.toM n n (scaled A n)).map (Int.castRingHom ℚ) := by
    rw [Matrix.map_mul, scaled_map A n hA, hrel, Matrix.mul_smul]
  rw [den_dvd_iff]
  exact ⟨_, (mul_comm _ _).trans (congrFun (congrFun h i) j)⟩

theorem rel_inv {n : Nat} {X Y : Matrix (Fin n) (Fin n) ℚ} {U : Matrix (Fin n) (Fin n) ℤ} (hU : IsUnit U.det)
    (h : Y = U.map (Int.castRingHom ℚ) * X) : X = (U⁻¹).map (Int.castRingHom ℚ) * Y := by
  rw [h, ← Matrix.mul_assoc, ← Matrix.map_mul, Matrix.nonsing_inv_mul _ hU]
  simp

/-- C15 canonical storage: two rational bases of the same ℤ-module (B = U·A with U an integer matrix of
unit determinant) are stored as the same order — `hnf_reduce` returns literally the same value -/
theorem hnfReduce_canonical (A A' : QMat) (n : Nat) (hn : 0 < n) (hA : Rect n n A) (hA' : Rect n n A')
    (U : Matrix (Fin n) (Fin n) ℤ) (hU : IsUnit U.det)
    (hrel : toM n n A' = U.map (Int.castRingHom ℚ) * toM n n A) :
    hnfReduce A' = hnfReduce A := by
  have hrel' := rel_inv hU hrel
  -- same lcm of denominators
  have hL : lcmDen A' 1 = lcmDen A 1 :=
    Int.dvd_antisymm (lcmDen_nonneg A') (lcmDen_nonneg A)
      (lcmDen_dvd_of_rel A A' n hA hA' U hrel) (lcmDen_dvd_of_rel A' A n hA' hA U⁻¹ hrel')
  -- the scaled integer matrices are related by U
  have hS : NTV.Hnf.toM n n (scaled A' n) = U * NTV.Hnf.toM n n (scaled A n) := by
    apply Matrix.map_injective (RingHom.injective_int (Int.castRingHom ℚ))
    show (NTV.Hnf.toM n n (scaled A' n)).map _ = (U * NTV.Hnf.toM n n (scaled A n)).map _
    rw [Matrix.map_mul, scaled_map A' n hA', scaled_map A n hA, hL, hrel, Matrix.mul_smul]
  have hS' : NTV.Hnf.toM n n (scaled A n) = U⁻¹ * NTV.Hnf.toM n n (scaled A' n) := by
    rw [hS, ← Matrix.mul_assoc, Matrix.nonsing_inv_mul _ hU, Matrix.one_mul]
  -- hence the same row lattice, hence the same Hermite normal form
  have hcanon : NTV.Hnf.hnfNew (scaled A' n) = NTV.Hnf.hnfNew (scaled A n) := by
    apply NTV.Hnf.hnf_canonical (scaled A' n) (scaled A n) n n n (scaled_rect A' n) (scaled_rect A n) hn hn hn
    intro v
    constructor
    · rintro ⟨c, rfl⟩
      exact ⟨c ᵥ* U, by rw [hS, Matrix.vecMul_vecMul]⟩
    · rintro ⟨c, rfl⟩
      exact ⟨c ᵥ* U⁻¹, by rw [hS', Matrix.vecMul_vecMul]⟩
  rw [hnfReduce_unfold A' n hA', hnfReduce_unfold A n hA, hcanon, hL]

end NTV.Ord
