import NTV.Model.Order
import NTV.Proofs.Lemmas.LinAlgProofs
/-! Helper lemmas for C15: `order::index` and `Order::discriminant` of the model `NTV.Ord` in terms of
Mathlib determinants (through `NTV.LinAlg.determinant_eq`). -/
open Matrix
namespace NTV.Ord
open NTV.RowOps (toM Rect)

theorem getD_map_range {α : Type} (n : Nat) (g : Nat → α) (d : α) (i : Nat) (hi : i < n) :
    ((List.range n).map g).getD i d = g i := by
  simp only [List.getD_eq_getElem?_getD, List.length_map, List.length_range, hi, getElem?_pos,
    List.getElem_map, List.getElem_range, Option.getD_some]

theorem rect_tabulated {R : Type} (n m : Nat) (g : Nat → Nat → R) :
    Rect n m ((List.range n).map fun i => (List.range m).map (g i)) := by
  refine ⟨by rw [List.length_map, List.length_range], fun r hr => ?_⟩
  obtain ⟨i, _, rfl⟩ := List.mem_map.mp hr
  rw [List.length_map, List.length_range]

theorem det_map_intCast {n : Nat} (M : Matrix (Fin n) (Fin n) ℤ) :
    (M.map (Int.castRingHom ℚ)).det = ((M.det : ℤ) : ℚ) :=
  ((Int.castRingHom ℚ).map_det M).symm

theorem det_map_intCast_ne_zero {n : Nat} {M : Matrix (Fin n) (Fin n) ℤ} (h : M.det ≠ 0) :
    (M.map (Int.castRingHom ℚ)).det ≠ 0 := by
  rw [det_map_intCast]
  exact Int.cast_ne_zero.mpr h

theorem det_of_determinant {A : QMat} {n : Nat} (hA : Rect n n A) {v : Rat}
    (h : NTV.LinAlg.determinant A = .ok v) : (toM n n A).det = v := by
  rw [NTV.LinAlg.determinant_eq A n hA] at h
  exact Except.ok.inj h

theorem isInteger_iff (r : Rat) : isInteger r = true ↔ ∃ z : Int, r = (z : Rat) := by
  unfold isInteger
  constructor
  · intro h
    exact ⟨r.num, ((Rat.den_eq_one_iff r).mp (by simpa using h)).symm⟩
  · rintro ⟨z, rfl⟩
    simp

theorem toInteger_intCast (z : Int) : toInteger (z : Rat) = z := by
  simp [toInteger]

/-- `index` after the two determinants have been evaluated -/
theorem index_unfold (A B : QMat) (n : Nat) (hA : Rect n n A) (hB : Rect n n B) :
    index A B =
      (if (toM n n A).det = 0 then
        (if (toM n n B).det = 0 then .error "panic div0" else .error "panic other")
       else if isInteger ((toM n n B).det / (toM n n A).det)
        then .ok (toInteger ((toM n n B).det / (toM n n A).det)) else .error "panic other") := by
  unfold index
  rw [NTV.LinAlg.determinant_eq B n hB, NTV.LinAlg.determinant_eq A n hA]
  rfl

theorem intCheck_ok_iff (v : Rat) (e : String) (x : Int) :
    (if isInteger v then (.ok (toInteger v) : M Int) else .error e) = .ok x ↔ v = (x : Rat) := by
  constructor
  · intro h
    split at h
    · rename_i hint
      obtain ⟨z, rfl⟩ := (isInteger_iff _).mp hint
      rw [toInteger_intCast] at h
      injection h with h
      rw [h]
    · cases h
  · rintro rfl
    rw [if_pos ((isInteger_iff _).mpr ⟨x, rfl⟩), toInteger_intCast]

theorem index_ok_iff (A B : QMat) (n : Nat) (hA : Rect n n A) (hB : Rect n n B)
    (hdet : (toM n n A).det ≠ 0) (i : Int) :
    index A B = .ok i ↔ (toM n n B).det = (i : Rat) * (toM n n A).det := by
  rw [index_unfold A B n hA hB, if_neg hdet, intCheck_ok_iff, div_eq_iff hdet]

/-- the value computed by `discriminant_with_min_poly` before the integrality assertion -/
noncomputable def discValue (d : Int) (f : List Int) (detA : Rat) : Rat :=
  (d : Rat) * detA * detA / (((NTV.PolyG.coefAt f (NTV.PolyG.degU f)) ^ (2 * (NTV.PolyG.degU f - 1)) : Int) : Rat)

theorem discriminantOrd_ok_iff (A : QMat) (n : Nat) (hA : Rect n n A) (f : List Int) (x : Int) :
    discriminantOrd A f = .ok x ↔
      ∃ d fl, NTV.Res.discriminant f = .ok (d, fl) ∧ NTV.PolyG.degU f ≠ 0 ∧
        (((NTV.PolyG.coefAt f (NTV.PolyG.degU f)) ^ (2 * (NTV.PolyG.degU f - 1)) : Int) : Rat) ≠ 0 ∧
        discValue d f (toM n n A).det = (x : Rat) := by
  unfold discriminantOrd discValue
  rw [NTV.LinAlg.determinant_eq A n hA]
  cases hd : NTV.Res.discriminant f with
  | error e => exact ⟨fun h => (nomatch h), fun ⟨_, _, h, _⟩ => nomatch h⟩
  | ok p =>
    obtain ⟨d, fl⟩ := p
    simp only [bind, Except.bind]
    by_cases h0 : NTV.PolyG.degU f = 0
    · rw [if_pos h0]
      exact ⟨fun h => (nomatch h), fun ⟨_, _, _, h, _⟩ => absurd h0 h⟩
    rw [if_neg h0]
    by_cases hden : (((NTV.PolyG.coefAt f (NTV.PolyG.degU f)) ^ (2 * (NTV.PolyG.degU f - 1)) : Int) : Rat) = 0
    · rw [if_pos hden]
      exact ⟨fun h => (nomatch h), fun ⟨_, _, _, _, h, _⟩ => absurd hden h⟩
    rw [if_neg hden, intCheck_ok_iff]
    constructor
    · exact fun h => ⟨d, fl, rfl, h0, hden, h⟩
    · rintro ⟨d', fl', he, _, _, hv⟩
      injection he with he
      injection he with h1 _
      rw [h1]
      exact hv

end NTV.Ord
