import NTV.Proofs.Lemmas.OrdCanon
/-! `Order::from_basis` / `hnf_reduce` on a non-singular rational matrix: never panics, and the stored
basis is a basis of the SAME ℤ-module (an integer change of basis of unit determinant). -/
open Matrix
namespace NTV.Ord
open NTV.RowOps (toM Rect ent)

def unscaled (n : Nat) (L : Int) (H : IMat) : QMat :=
  (List.range n).map (fun i => (List.range n).map (fun j => ((NTV.Hnf.ent H i j : Int) : Rat) / (L : Rat)))

theorem unscale_ok (n : Nat) (L : Int) (H : IMat) (hH : NTV.Hnf.Rect n n H) :
    unscale n L H = .ok (unscaled n L H) :=
  tabulate_idx2 H n hH.1 hH.2 (fun e => ((e : Int) : Rat) / (L : Rat)) 0

theorem unscaled_rect (n : Nat) (L : Int) (H : IMat) : Rect n n (unscaled n L H) :=
  rect_tabulated n n _

theorem unscaled_toM (n : Nat) (L : Int) (H : IMat) :
    toM n n (unscaled n L H) = ((L : Rat))⁻¹ • (NTV.Hnf.toM n n H).map (Int.castRingHom ℚ) := by
  ext i j
  simp only [unscaled, toM, ent, Matrix.smul_apply, Matrix.map_apply, Int.coe_castRingHom, smul_eq_mul, NTV.Hnf.toM]
  rw [getD_map_range n _ _ i i.isLt, getD_map_range n _ _ j j.isLt, div_eq_inv_mul]

/-- C15 (stored basis spans the input module): for every non-singular n×n rational matrix A,
`Order::from_basis` returns (no panic) an n×n matrix O = U·A with U an integer matrix of unit
determinant — the rows of O are a ℤ-basis of the module generated by the rows of A -/
theorem fromBasis_spans (A : QMat) (n : Nat) (hn : 0 < n) (hA : Rect n n A) (hdet : (toM n n A).det ≠ 0) :
    ∃ O : QMat, fromBasis A = .ok O ∧ Rect n n O ∧
      ∃ U : Matrix (Fin n) (Fin n) ℤ, IsUnit U.det ∧ toM n n O = U.map (Int.castRingHom ℚ) * toM n n A := by
  have hL0 := (lcmDen_pos A 1 Int.one_pos).ne'
  have hLq : ((lcmDen A 1 : Int) : Rat) ≠ 0 := Int.cast_ne_zero.mpr hL0
  have hSr := scaled_rect A n
  obtain ⟨H, Ul, k, W, pv, -, hH, R⟩ := NTV.Hnf.Result.exists _ n n hSr hn hn
  -- det S ≠ 0, hence det W ≠ 0, hence k = 0
  have hdetW : (NTV.Hnf.toM n n W).det ≠ 0 := by
    rw [← R.ua, Matrix.det_mul]
    exact mul_ne_zero R.det.ne_zero (scaledBy_det_ne _ A n hA (lcmDen_spec A 1).2.1 hL0 hdet)
  obtain rfl : k = 0 := by
    by_contra hk
    exact hdetW (Matrix.det_eq_zero_of_row_eq_zero ⟨0, hn⟩ fun j => R.zero 0 (Nat.pos_of_ne_zero hk) j j.isLt)
  obtain rfl : H = W := R.hH
  refine ⟨unscaled n (lcmDen A 1) H, ?_, unscaled_rect n _ H, NTV.Hnf.toM n n Ul, R.det, ?_⟩
  · rw [fromBasis, hnfReduce_unfold A n hA, hH]
    exact unscale_ok n (lcmDen A 1) H R.rW
  · -- toM O = (1/L) • cast W = (1/L) • cast (U S) = cast U * A
    rw [unscaled_toM, ← R.ua, Matrix.map_mul, scaled_map A n hA, Matrix.mul_smul, inv_smul_smul₀ hLq]

end NTV.Ord
