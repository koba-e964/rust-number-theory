import NTV.Proofs.Lemmas.OrdUnionSpan
/-! ℤ-modules of rational matrices and canonical storage: two non-singular matrices with the same module
are stored as the same order; `union` returns a stored order whose module is the sum. -/
open Matrix
namespace NTV.Ord
open NTV.RowOps (toM Rect ent)

def InMod {n : Nat} (X : Matrix (Fin n) (Fin n) ℚ) (v : Fin n → ℚ) : Prop :=
  ∃ c : Fin n → ℤ, castV c ᵥ* X = v

theorem castV_single {n : Nat} (i : Fin n) : castV (Pi.single i 1) = Pi.single i (1 : ℚ) := by
  ext j
  simp only [castV, Pi.single_apply]
  split <;> simp only [Int.cast_one, Int.cast_zero]

theorem castV_zero {n : Nat} : castV (0 : Fin n → ℤ) = 0 :=
  funext fun _ => Int.cast_zero

theorem InMod.row {n : Nat} (X : Matrix (Fin n) (Fin n) ℚ) (i : Fin n) : InMod X (X i) :=
  ⟨Pi.single i 1, by rw [castV_single, Matrix.single_one_vecMul]; rfl⟩

theorem exists_mul_of_rows_inMod {n : Nat} (X Y : Matrix (Fin n) (Fin n) ℚ) (h : ∀ i, InMod X (Y i)) :
    ∃ C : Matrix (Fin n) (Fin n) ℤ, Y = C.map (Int.castRingHom ℚ) * X := by
  choose C hC using h
  refine ⟨Matrix.of C, ?_⟩
  ext i j
  rw [Matrix.mul_apply_eq_vecMul, ← congrFun (hC i) j]
  rfl

theorem InMod.of_rel {n : Nat} {X Y : Matrix (Fin n) (Fin n) ℚ} {U : Matrix (Fin n) (Fin n) ℤ}
    (h : Y = U.map (Int.castRingHom ℚ) * X) {v : Fin n → ℚ} : InMod Y v → InMod X v := by
  rintro ⟨c, rfl⟩
  exact ⟨c ᵥ* U, by rw [h, castV_vecMul, Matrix.vecMul_vecMul]⟩

theorem inMod_unimodular {n : Nat} (X Y : Matrix (Fin n) (Fin n) ℚ) (U : Matrix (Fin n) (Fin n) ℤ)
    (hU : IsUnit U.det) (h : Y = U.map (Int.castRingHom ℚ) * X) (v : Fin n → ℚ) : InMod Y v ↔ InMod X v :=
  ⟨InMod.of_rel h, InMod.of_rel (rel_inv hU h)⟩

theorem unimodular_of_same_module {n : Nat} (X Y : Matrix (Fin n) (Fin n) ℚ) (hX : X.det ≠ 0)
    (h : ∀ v, InMod Y v ↔ InMod X v) :
    ∃ U : Matrix (Fin n) (Fin n) ℤ, IsUnit U.det ∧ Y = U.map (Int.castRingHom ℚ) * X := by
  obtain ⟨C, hC⟩ := exists_mul_of_rows_inMod X Y (fun i => (h _).mp (InMod.row Y i))
  obtain ⟨D, hD⟩ := exists_mul_of_rows_inMod Y X (fun i => (h _).mpr (InMod.row X i))
  refine ⟨C, ?_, hC⟩
  -- `X = D·C·X`, so `det D · det C = 1`
  have hd : ((D.det * C.det : ℤ) : ℚ) * X.det = X.det := by
    rw [Int.cast_mul, ← det_map_intCast, ← det_map_intCast, mul_assoc, ← Matrix.det_mul, ← hC, ← Matrix.det_mul, ← hD]
  exact IsUnit.of_mul_eq_one_right D.det (Int.cast_eq_one.mp ((mul_left_eq_self₀.mp hd).resolve_right hX))

/-- canonical storage in module form: non-singular stored matrices with the same ℤ-module are equal -/
theorem stored_eq_of_same_module (X Y : QMat) (n : Nat) (hn : 0 < n) (hX : Rect n n X) (hY : Rect n n Y)
    (hdX : (toM n n X).det ≠ 0) (sX : fromBasis X = .ok X) (sY : fromBasis Y = .ok Y)
    (h : ∀ v, InMod (toM n n Y) v ↔ InMod (toM n n X) v) : Y = X := by
  obtain ⟨U, hU, hrel⟩ := unimodular_of_same_module _ _ hdX h
  have : fromBasis Y = fromBasis X := hnfReduce_canonical X Y n hn hX hY U hU hrel
  rw [sX, sY] at this
  injection this

/-- C15: `union` of two non-singular matrices never panics; the result is a non-singular stored order
(a fixed point of `from_basis`) whose ℤ-module is the sum of the modules of the arguments -/
theorem union_full (A B : QMat) (n : Nat) (hn : 0 < n) (hA : Rect n n A) (hB : Rect n n B)
    (hdA : (toM n n A).det ≠ 0) (hdB : (toM n n B).det ≠ 0) :
    ∃ O : QMat, union A B = .ok O ∧ Rect n n O ∧ (toM n n O).det ≠ 0 ∧ fromBasis O = .ok O ∧
      ∀ v : Fin n → ℚ, InMod (toM n n O) v ↔
        ∃ c d : Fin n → ℤ, castV c ᵥ* toM n n A + castV d ᵥ* toM n n B = v := by
  obtain ⟨N, rN, dN, hu, hmod⟩ := union_core A B n hn hA hB hdA hdB
  obtain ⟨O, hO, rO, U, hU, hrel⟩ := fromBasis_spans N n hn rN dN
  refine ⟨O, hu.trans hO, rO, ?_, (hnfReduce_canonical N O n hn rN rO U hU hrel).trans hO,
    fun v => (inMod_unimodular _ _ U hU hrel v).trans (hmod v)⟩
  rw [hrel, Matrix.det_mul]
  exact mul_ne_zero (det_map_intCast_ne_zero hU.ne_zero) dN

end NTV.Ord
