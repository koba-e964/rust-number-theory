import NTV.Proofs.Lemmas.HnfCanon
import Mathlib.LinearAlgebra.Matrix.Rank
/-! Integer row lattices for C15 (`order::union`): the lattice of `hnfNew X` is the lattice of `X`
(`hnfNew_lattice`), the lattice of stacked generators is the sum of the lattices (`lattice_append`), and a
matrix whose lattice contains a full-rank sublattice has a square non-singular normal form (`hnfNew_full`). -/
open Matrix Finset
namespace NTV.Hnf

namespace InLattice
variable {n m : Nat} {X : Mat}

theorem row (i : Fin n) : InLattice n m X (toM n m X i) := ⟨Pi.single i 1, Matrix.single_one_vecMul _ _⟩

/- the ascription on the product keeps the elaborator from looking for coercions between the two
rectangular matrix types -/
theorem exists_mul {n' : Nat} {Y : Matrix (Fin n') (Fin m) ℤ} (h : ∀ i : Fin n', InLattice n m X (Y i)) :
    ∃ C : Matrix (Fin n') (Fin n) ℤ, Y = (C * toM n m X : Matrix _ _ ℤ) := by
  choose C hC using h
  refine ⟨Matrix.of C, ?_⟩
  ext i j
  rw [Matrix.mul_apply_eq_vecMul]
  exact (congrFun (hC i) j).symm

theorem mono {n' : Nat} {Y : Matrix (Fin n') (Fin m) ℤ} (h : ∀ i : Fin n', InLattice n m X (Y i))
    (c : Fin n' → ℤ) : InLattice n m X (c ᵥ* Y) := by
  obtain ⟨C, rfl⟩ := exists_mul h
  exact ⟨c ᵥ* C, Matrix.vecMul_vecMul _ _ _⟩

end InLattice

/-- C02 as a reusable fact: `HNF::new` never fails on a rectangular matrix, its result is rectangular with
at most `m` rows, and generates the same row lattice -/
theorem hnfNew_lattice (X : Mat) (n m : Nat) (hr : Rect n m X) (hn : 0 < n) (hm : 0 < m) :
    ∃ H r, hnfNew X = some H ∧ Rect r m H ∧ r ≤ m ∧ (∀ v, InLattice r m H v ↔ InLattice n m X v) := by
  obtain ⟨H, U, k, W, pv, -, hH, R⟩ := Result.exists X n m hr hn hm
  have hlen : pv.length = n - k := R.lenPv
  refine ⟨H, n - k, hH, R.rectH, ?_, ?_⟩
  · -- the pivot columns are distinct and below `m`
    rw [← hlen, ← List.length_range (n := m)]
    exact (List.Nodup.subperm (R.shape.incr.imp Nat.ne_of_lt)
      fun p hp => List.mem_range.mpr (R.shape.lt p hp)).length_le
  · intro v
    constructor
    · rintro ⟨c, rfl⟩
      exact InLattice.mono (fun t => R.row_in_lattice t.val (t.isLt.trans_eq hlen.symm)) c
    · intro hv
      obtain ⟨c, hc⟩ := R.lattice_as_sum v hv
      refine ⟨fun t => c t.val, funext fun col => ?_⟩
      rw [hc col.val col.isLt, hlen]
      exact Fin.sum_univ_eq_sum_range (fun s => c s * ent H s col.val) (n - k)

theorem ent_append (X Y : Mat) (i j : Nat) :
    ent (X ++ Y) i j = if i < X.length then ent X i j else ent Y (i - X.length) j := by
  simp only [ent, List.getD_eq_getElem?_getD, List.getElem?_append]
  split <;> rfl

theorem rect_append (X Y : Mat) (n1 n2 m : Nat) (hX : Rect n1 m X) (hY : Rect n2 m Y) :
    Rect (n1 + n2) m (X ++ Y) :=
  ⟨by rw [List.length_append, hX.1, hY.1], fun r hr => (List.mem_append.mp hr).elim (hX.2 r) (hY.2 r)⟩

theorem vecMul_append (X Y : Mat) (n1 n2 m : Nat) (hX : Rect n1 m X) (c : Fin (n1 + n2) → ℤ) :
    c ᵥ* toM (n1 + n2) m (X ++ Y) =
      (fun i => c (Fin.castAdd n2 i)) ᵥ* toM n1 m X + (fun i => c (Fin.natAdd n1 i)) ᵥ* toM n2 m Y := by
  ext col
  simp only [Matrix.vecMul, dotProduct, Pi.add_apply, toM]
  rw [Fin.sum_univ_add]
  refine congrArg₂ _ (Finset.sum_congr rfl fun i _ => ?_) (Finset.sum_congr rfl fun i _ => ?_)
  · rw [Fin.val_castAdd, ent_append, hX.1, if_pos i.isLt]
  · rw [Fin.val_natAdd, ent_append, hX.1, if_neg (Nat.not_lt.mpr (Nat.le_add_right _ _)),
      Nat.add_sub_cancel_left]

theorem lattice_append (X Y : Mat) (n1 n2 m : Nat) (hX : Rect n1 m X) (v : Fin m → ℤ) :
    InLattice (n1 + n2) m (X ++ Y) v ↔
      ∃ (c : Fin n1 → ℤ) (d : Fin n2 → ℤ), c ᵥ* toM n1 m X + d ᵥ* toM n2 m Y = v := by
  constructor
  · rintro ⟨c, rfl⟩
    exact ⟨_, _, (vecMul_append X Y n1 n2 m hX c).symm⟩
  · rintro ⟨c, d, rfl⟩
    refine ⟨Fin.addCases c d, ?_⟩
    rw [vecMul_append X Y n1 n2 m hX]
    simp only [Fin.addCases_left, Fin.addCases_right]

/-- a rectangular `p×n` matrix whose row lattice contains a full-rank sublattice (the rows of a
non-singular `F`): the normal form is a non-singular `n×n` matrix with the same lattice -/
theorem hnfNew_full (X : Mat) (p n : Nat) (hr : Rect p n X) (hp : 0 < p) (hn : 0 < n)
    (F : Matrix (Fin n) (Fin n) ℤ) (hF : F.det ≠ 0) (hFX : ∀ i, InLattice p n X (F i)) :
    ∃ H, hnfNew X = some H ∧ Rect n n H ∧ (toM n n H).det ≠ 0 ∧
      ∀ v, InLattice n n H v ↔ InLattice p n X v := by
  obtain ⟨H, r, h1, hH, hrn, hlat⟩ := hnfNew_lattice X p n hr hp hn
  obtain ⟨C, hC⟩ := InLattice.exists_mul fun i => (hlat _).mpr (hFX i)
  -- n = rank F ≤ rank C ≤ r
  have hrk := Matrix.rank_of_det_ne_zero hF
  rw [hC, Fintype.card_fin] at hrk
  obtain rfl : r = n := le_antisymm hrn (hrk ▸ (Matrix.rank_mul_le_left C _).trans (Matrix.rank_le_width C))
  refine ⟨H, h1, hH, ?_, hlat⟩
  intro h0
  apply hF
  rw [hC, Matrix.det_mul, h0, mul_zero]

end NTV.Hnf
