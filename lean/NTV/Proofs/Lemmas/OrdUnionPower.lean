import NTV.Proofs.Lemmas.OrdUnionCanon
import NTV.Proofs.Lemmas.AlgLaws
/-! `hnfNew` fixes a matrix already in Hermite normal form, in particular the identity, so `hnf_reduce` stores the
identity matrix as itself; `singly_gen` stores the identity matrix for every canonical `f` of degree ≥ 2 (the rows
1, θ, …, θ^(n−1) are the unit vectors). Used by C15 for the power-basis order and by NormResFinal for `identityQ`. -/
open Matrix Finset
namespace NTV.Hnf

theorem hnfNew_of_isHNF (H : Mat) (r m : Nat) (hr : Rect r m H) (hr0 : 0 < r) (hm : 0 < m) (pv : List Nat)
    (hH : IsHNF H m pv) : hnfNew H = some H := by
  obtain ⟨H', U, k, W, pv', -, hH', R⟩ := Result.exists H r m hr hr0 hm
  have hpl : pv.length = r := by rw [hH.len, hr.1]
  obtain ⟨hpv, hent⟩ := NTV.HnfU.hnf_unique_F hH.toF R.shape.toF
    -- row `t` of `H'` is row `k + t` of `W = U · H`
    (fun t ht => ⟨fun s => ent U (k + t) s, fun col hcol => by
      rw [hpl, Finset.sum_range, R.hH, ent_drop]
      exact (congrFun (congrFun R.ua ⟨k + t, Nat.add_lt_of_lt_sub' (R.lenPv ▸ ht)⟩) ⟨col, hcol⟩).symm⟩)
    (fun t ht => R.lattice_as_sum _ (InLattice.row (X := H) (m := m) ⟨t, hpl ▸ ht⟩))
  have rH' := R.rectH
  rw [← R.lenPv, ← hpv, hpl] at rH'
  rw [hH', mat_ext H' H rH' hr (fun i hi j hj => (hent i (hpl ▸ hi) j hj).symm)]

theorem isHNF_idMat (n : Nat) : IsHNF (idMat n) n (List.range n) := by
  have hlen : (idMat n).length = n := (Rect_idMat n).1
  refine ⟨by rw [List.length_range, hlen], List.pairwise_lt_range, fun p => List.mem_range.mp, ?_, ?_, ?_⟩
  all_goals
    intro t ht
    rw [List.length_range] at ht
    simp only [List.getElem_range]
  · rw [ent_idMat n t t ht ht, if_pos rfl]
    exact Int.one_pos
  · intro col hc hcol
    rw [ent_idMat n t col ht hcol, if_neg hc.ne]
  · intro t' htt' ht'
    rw [ent_idMat n t' t (hlen ▸ ht') ht, if_neg htt'.ne', ent_idMat n t t ht ht, if_pos rfl]
    exact ⟨Int.le_refl 0, Int.one_pos⟩

theorem hnfNew_idMat (n : Nat) (hn : 0 < n) : hnfNew (idMat n) = some (idMat n) :=
  hnfNew_of_isHNF (idMat n) n n (Rect_idMat n) hn hn _ (isHNF_idMat n)

end NTV.Hnf

namespace NTV.Ord
open NTV.RowOps (toM Rect ent)
open NTV.PolyG (degU coefAt Canon toPoly)

theorem identityQ_rect (n : Nat) : Rect n n (identityQ n) := rect_tabulated n n _

theorem identityQ_ent (n i j : Nat) (hi : i < n) (hj : j < n) :
    ent (identityQ n) i j = if i = j then 1 else 0 := by
  rw [ent, identityQ, getD_map_range n _ _ i hi, getD_map_range n _ _ j hj]

theorem identityQ_toM (n : Nat) : toM n n (identityQ n) = 1 := by
  ext i j
  rw [Matrix.one_apply, toM, identityQ_ent n i.val j.val i.isLt j.isLt]
  exact if_congr Fin.val_inj rfl rfl

theorem identityQ_lcm (n : Nat) : lcmDen (identityQ n) 1 = 1 := by
  apply Int.eq_one_of_dvd_one (lcmDen_nonneg _)
  apply (lcmDen_spec (identityQ n) 1).2.2 1 dvd_rfl
  intro row hrow e he
  obtain ⟨i, _, rfl⟩ := List.mem_map.mp hrow
  obtain ⟨j, _, rfl⟩ := List.mem_map.mp he
  split <;> exact dvd_rfl

theorem identityQ_scaled (n : Nat) : scaled (identityQ n) n = NTV.Hnf.idMat n := by
  apply List.map_congr_left
  intro i hi
  apply List.map_congr_left
  intro j hj
  rw [identityQ_ent n i j (List.mem_range.mp hi) (List.mem_range.mp hj), identityQ_lcm, Int.cast_one, mul_one]
  split <;> rfl

theorem hnfReduce_identityQ (n : Nat) (hn : 0 < n) : hnfReduce (identityQ n) = .ok (identityQ n) := by
  rw [hnfReduce_unfold (identityQ n) n (identityQ_rect n), identityQ_scaled, NTV.Hnf.hnfNew_idMat n hn]
  simp only
  rw [unscale_ok n _ _ (NTV.Hnf.Rect_idMat n), identityQ_lcm]
  congr 1
  apply List.map_congr_left
  intro i hi
  apply List.map_congr_left
  intro j hj
  rw [NTV.Hnf.ent_idMat n i j (List.mem_range.mp hi) (List.mem_range.mp hj), Int.cast_one, div_one,
    Int.cast_ite, Int.cast_one, Int.cast_zero]

def xpow (j : Nat) : List Rat := List.replicate j 0 ++ [1]

theorem xpow_length (j : Nat) : (xpow j).length = j + 1 := by simp [xpow]

theorem xpow_canon (j : Nat) : Canon (xpow j) := by
  intro h
  simp [xpow]

open Polynomial in
theorem xpow_toPoly (j : Nat) : toPoly (xpow j) = (X : ℚ[X]) ^ j := by
  unfold xpow
  rw [NTV.PolyG.toPoly_replicate_append]
  simp only [toPoly, C_1, mul_zero, add_zero, mul_one]

theorem xpow_reduced (f : List Int) (n : Nat) (hfl : f.length = n + 1) (j : Nat) (hj : j < n) :
    NTV.Alg.Reduced f (xpow j) :=
  ⟨xpow_canon j, by rw [xpow_length, hfl]; exact hj⟩

/-- θ^j · θ = θ^(j+1) as stored lists while j + 1 < n = deg f; always defined for j < n (n ≥ 2) -/
theorem mul_xpow (f : List Int) (hf : Canon f) (n : Nat) (hn : 2 ≤ n) (hfl : f.length = n + 1) (j : Nat)
    (hj : j < n) :
    ∃ r, NTV.Alg.mul f (xpow j) [0, 1] = .ok r ∧ (j + 1 < n → r = xpow (j + 1)) := by
  have h2f : 2 ≤ f.length := hfl ▸ Nat.le_succ_of_le hn
  obtain ⟨r, h1, h2, h3⟩ := NTV.Alg.mul_ok f hf h2f (xpow j) (xpow 1) (xpow_reduced f n hfl j hj)
    (xpow_reduced f n hfl 1 hn)
  refine ⟨r, h1, fun hj1 => NTV.PolyG.toPoly_inj r (xpow (j + 1)) h2.1 (xpow_canon _) ?_⟩
  rw [h3, xpow_toPoly, xpow_toPoly, ← pow_add, ← xpow_toPoly,
    NTV.Alg.mod_self_of_reduced f hf h2f _ (xpow_reduced f n hfl (j + 1) hj1)]

def unitRow (n i : Nat) : List Rat := (List.range n).map (fun j => if i = j then 1 else 0)

theorem padTo_xpow (n j : Nat) (hj : j < n) : padTo n (xpow j) = unitRow n j := by
  unfold padTo unitRow
  apply List.ext_getElem
  · rw [List.length_append, List.length_replicate, xpow_length, List.length_map, List.length_range]
    exact Nat.add_sub_cancel' hj
  intro t _ _
  rw [List.getElem_map, List.getElem_range]
  rcases Nat.lt_or_ge t (j + 1) with h | h
  · rw [List.getElem_append_left (by rwa [xpow_length])]
    unfold xpow
    rcases Nat.lt_succ_iff_lt_or_eq.mp h with h' | rfl
    · rw [List.getElem_append_left (by rwa [List.length_replicate]), List.getElem_replicate, if_neg h'.ne']
    · rw [List.getElem_append_right (by rw [List.length_replicate]), List.getElem_singleton, if_pos rfl]
  · rw [List.getElem_append_right (by rwa [xpow_length]), List.getElem_replicate,
      if_neg (Nat.lt_of_succ_le h).ne]

/-- the loop of `singly_gen` started at θ^j with `k = n - j` rows to go stores the unit rows `j, …, n - 1`;
the product computed after the last row is not θ^n, but it is not stored either -/
theorem powerRows_units (f : List Int) (hf : Canon f) (n : Nat) (hn : 2 ≤ n) (hfl : f.length = n + 1) :
    ∀ k j cur, j + k = n → (0 < k → cur = xpow j) →
      powerRowsOf f [0, 1] k cur = .ok ((List.range' j k).map (unitRow n)) := by
  intro k
  induction k with
  | zero => exact fun _ _ _ _ => rfl
  | succ k ih =>
    intro j cur hjk hc
    obtain rfl := hc k.succ_pos
    have hj : j < n := hjk ▸ Nat.lt_add_of_pos_right k.succ_pos
    have hjk' : j + 1 + k = n := (Nat.succ_add_eq_add_succ j k).trans hjk
    obtain ⟨r, h1, h2⟩ := mul_xpow f hf n hn hfl j hj
    simp only [powerRowsOf, h1, Except.mapError, bind, Except.bind, pure, Except.pure,
      ih (j + 1) r hjk' (fun hk => h2 (hjk' ▸ Nat.lt_add_of_pos_right hk))]
    rw [hfl, Nat.add_sub_cancel, padTo_xpow n j hj]
    rfl

/-- `Order::singly_gen(θ)` for monic-or-not canonical f of degree n ≥ 2: the rows 1, θ, …, θ^(n−1) are
the unit vectors, and the stored order is the identity matrix -/
theorem singlyGen_identity (f : List Int) (hf : Canon f) (n : Nat) (hn : 2 ≤ n) (hfl : f.length = n + 1) :
    singlyGen f = .ok (identityQ n) := by
  have hne : f.isEmpty = false := List.isEmpty_eq_false_iff.mpr (List.ne_nil_of_length_eq_add_one hfl)
  have hdeg : degU f = n := NTV.PolyG.degU_of_length hfl
  simp only [singlyGen, singlyGenOf, hne, Bool.false_eq_true, if_false, hdeg, bind, Except.bind,
    powerRows_units f hf n hn hfl n 0 [1] (Nat.zero_add n) (fun _ => rfl), ← List.range_eq_range']
  exact hnfReduce_identityQ n (Nat.zero_lt_of_lt hn)

end NTV.Ord
