import NTV.Proofs.Lemmas.OrdSpan
import NTV.Proofs.Lemmas.OrdUnionLat
/-! `order::union` on two non-singular rational matrices: never a panic; the result is `hnf_reduce` of a
non-singular matrix `N` whose ℤ-module is the sum of the two modules. -/
open Matrix
namespace NTV.Ord
open NTV.RowOps (toM Rect ent)

def castV {n : Nat} (c : Fin n → ℤ) : Fin n → ℚ := fun i => (c i : ℚ)

theorem castV_vecMul {p n : Nat} (c : Fin p → ℤ) (M : Matrix (Fin p) (Fin n) ℤ) :
    castV (c ᵥ* M) = castV c ᵥ* M.map (Int.castRingHom ℚ) := by
  ext j
  simp only [castV, Matrix.vecMul, dotProduct, Int.cast_sum, Int.cast_mul, Int.coe_castRingHom, Matrix.map_apply]

theorem castV_add {n : Nat} (a b : Fin n → ℤ) : castV (a + b) = castV a + castV b :=
  funext fun _ => Int.cast_add _ _

theorem exists_cons_of_rect {α : Type} {M : List (List α)} {n : Nat} (hn : 0 < n) (hl : M.length = n)
    (hr : ∀ r ∈ M, r.length = n) : ∃ r t, M = r :: t ∧ r.length = n := by
  obtain ⟨r, t, rfl⟩ := List.exists_cons_of_length_pos (hl ▸ hn)
  exact ⟨r, t, rfl, hr r List.mem_cons_self⟩

theorem idx_cons_zero {α : Type} (r : α) (t : List α) : idx (r :: t) 0 = .ok r := rfl

theorem ok_bind {α β : Type} (a : α) (f : α → M β) : (Except.ok a >>= f) = f a := rfl

/-- `union` evaluated, given the three normal forms -/
theorem union_eval (A B : QMat) (n : Nat) (hn : 0 < n) (hA : Rect n n A) (hB : Rect n n B)
    (L : Int) (hL : lcmDen B (lcmDen A 1) = L) (ha hb H : IMat)
    (hha : NTV.Hnf.hnfNew (scaledBy L A n) = some ha) (hhb : NTV.Hnf.hnfNew (scaledBy L B n) = some hb)
    (rha : NTV.Hnf.Rect n n ha) (rhb : NTV.Hnf.Rect n n hb)
    (hH : NTV.Hnf.hnfNew (ha ++ hb) = some H) (rH : NTV.Hnf.Rect n n H) :
    union A B = hnfReduce (unscaled n L H) := by
  subst hL
  have hun := unscale_ok n (lcmDen B (lcmDen A 1)) H rH
  -- `n` becomes `ra.length`, the width `union` reads off the first row
  obtain ⟨ra, ta, rfl, rfl⟩ := exists_cons_of_rect hn hA.1 hA.2
  obtain ⟨rb, tb, rfl, wb⟩ := exists_cons_of_rect hn hB.1 hB.2
  obtain ⟨xa, sa, rfl, va⟩ := exists_cons_of_rect hn rha.1 rha.2
  obtain ⟨xb, sb, rfl, vb⟩ := exists_cons_of_rect hn rhb.1 rhb.2
  obtain ⟨r0, t0, rfl, w0⟩ := exists_cons_of_rect hn rH.1 rH.2
  unfold unscale at hun
  dsimp only [union, idx_cons_zero, ok_bind]
  simp only [wb, hA.1, hB.1, toInt_ok _ _ hA, toInt_ok _ _ hB, ok_bind]
  simp only [hha, hhb, NTV.Hnf.union, va, vb, hH, w0, hun, ne_eq, not_true_eq_false, if_false, if_true, idx_cons_zero,
    ok_bind]

/-- from the integer lattices to the rational modules: if `L(H) = L(ia) + L(ib)` and the three rational
matrices are the integer ones divided by `L`, the module of `N` is the sum of the modules of `A` and `B` -/
theorem module_of_lattice {n : Nat} {L : ℚ} (hL : L ≠ 0) {H ia ib : Matrix (Fin n) (Fin n) ℤ}
    {N A B : Matrix (Fin n) (Fin n) ℚ}
    (hN : N = L⁻¹ • H.map (Int.castRingHom ℚ))
    (hA : ia.map (Int.castRingHom ℚ) = L • A) (hB : ib.map (Int.castRingHom ℚ) = L • B)
    (hlat : ∀ w : Fin n → ℤ, (∃ c : Fin n → ℤ, c ᵥ* H = w) ↔ ∃ c d : Fin n → ℤ, c ᵥ* ia + d ᵥ* ib = w)
    (v : Fin n → ℚ) :
    (∃ c : Fin n → ℤ, castV c ᵥ* N = v) ↔ ∃ c d : Fin n → ℤ, castV c ᵥ* A + castV d ᵥ* B = v := by
  -- so both modules are the images of the two lattices under `w ↦ L⁻¹ • w`
  obtain rfl := (eq_inv_smul_iff₀ hL).mpr hA.symm
  obtain rfl := (eq_inv_smul_iff₀ hL).mpr hB.symm
  simp only [hN, Matrix.vecMul_smul, ← castV_vecMul, ← smul_add, ← castV_add]
  constructor
  · rintro ⟨c, rfl⟩
    obtain ⟨c', d', h⟩ := (hlat _).mp ⟨c, rfl⟩
    exact ⟨c', d', by rw [h]⟩
  · rintro ⟨c, d, rfl⟩
    obtain ⟨c', h⟩ := (hlat _).mpr ⟨c, d, rfl⟩
    exact ⟨c', by rw [h]⟩

/-- C15 core of `union`: on non-singular `A`, `B` the routine reaches the final `hnf_reduce` (no panic before
it) with a non-singular matrix `N` whose ℤ-module is the sum of the modules of `A` and `B` -/
theorem union_core (A B : QMat) (n : Nat) (hn : 0 < n) (hA : Rect n n A) (hB : Rect n n B)
    (hdA : (toM n n A).det ≠ 0) (hdB : (toM n n B).det ≠ 0) :
    ∃ N : QMat, Rect n n N ∧ (toM n n N).det ≠ 0 ∧ union A B = hnfReduce N ∧
      ∀ v : Fin n → ℚ, (∃ c : Fin n → ℤ, castV c ᵥ* toM n n N = v) ↔
        ∃ c d : Fin n → ℤ, castV c ᵥ* toM n n A + castV d ᵥ* toM n n B = v := by
  have hL0 := (lcmDen_pos B _ (lcmDen_pos A 1 Int.one_pos)).ne'
  have hLs := lcmDen_spec B (lcmDen A 1)
  generalize hLdef : lcmDen B (lcmDen A 1) = L at hL0 hLs
  have hLq : (L : Rat) ≠ 0 := Int.cast_ne_zero.mpr hL0
  have hLB := hLs.2.1
  have hLA : AllDenDvd A L := fun row hr e he => dvd_trans ((lcmDen_spec A 1).2.1 row hr e he) hLs.1
  have hdia := scaledBy_det_ne L A n hA hLA hL0 hdA
  obtain ⟨ha, hha, rha, _, lha⟩ := NTV.Hnf.hnfNew_full (scaledBy L A n) n n (scaledBy_rect L A n) hn hn
    _ hdia NTV.Hnf.InLattice.row
  obtain ⟨hb, hhb, rhb, _, lhb⟩ := NTV.Hnf.hnfNew_full (scaledBy L B n) n n (scaledBy_rect L B n) hn hn
    _ (scaledBy_det_ne L B n hB hLB hL0 hdB) NTV.Hnf.InLattice.row
  -- the lattice of the stacked normal forms is L(ia) + L(ib)
  have hsum : ∀ w : Fin n → ℤ, NTV.Hnf.InLattice (n + n) n (ha ++ hb) w ↔
      ∃ c d : Fin n → ℤ, c ᵥ* NTV.Hnf.toM n n (scaledBy L A n) + d ᵥ* NTV.Hnf.toM n n (scaledBy L B n) = w := by
    intro w
    have split : ∀ X Y : IMat, (∃ c d : Fin n → ℤ, c ᵥ* NTV.Hnf.toM n n X + d ᵥ* NTV.Hnf.toM n n Y = w) ↔
        ∃ u, NTV.Hnf.InLattice n n X u ∧ ∃ v, NTV.Hnf.InLattice n n Y v ∧ u + v = w := fun X Y => by
      simp only [NTV.Hnf.InLattice, exists_exists_eq_and]
    rw [NTV.Hnf.lattice_append ha hb n n n rha, split, split]
    simp only [lha, lhb]
  obtain ⟨H, hH, rH, dH, lH⟩ := NTV.Hnf.hnfNew_full (ha ++ hb) (n + n) n (NTV.Hnf.rect_append ha hb n n n rha rhb)
    (Nat.add_pos_left hn n) hn
    _ hdia (fun i => (hsum _).mpr ⟨Pi.single i 1, 0, by rw [Matrix.single_one_vecMul, Matrix.zero_vecMul, add_zero]; rfl⟩)
  refine ⟨unscaled n L H, unscaled_rect n L H, ?_, union_eval A B n hn hA hB L hLdef ha hb H hha hhb rha rhb hH rH,
    module_of_lattice hLq (unscaled_toM n L H) (scaledBy_map L A n hA hLA) (scaledBy_map L B n hB hLB)
      fun w => (lH w).trans (hsum w)⟩
  rw [unscaled_toM, Matrix.det_smul]
  exact mul_ne_zero (pow_ne_zero _ (inv_ne_zero hLq)) (det_map_intCast_ne_zero dH)

end NTV.Ord
