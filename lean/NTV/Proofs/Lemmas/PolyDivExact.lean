import NTV.Proofs.Lemmas.PolyDivZ
/-! Completeness of `div_exact`: when `b` divides `a` in ℤ[x] the loop never takes its early exit. -/
open Polynomial
namespace NTV.PolyG

theorem all_zero_of_toPoly_zero (r : List Int) (h : toPoly r = 0) : r.all (· == 0) = true := by
  rw [List.all_eq_true]
  intro x hx
  obtain ⟨i, hi, rfl⟩ := List.mem_iff_getElem.mp hx
  have := congrArg (fun p => p.coeff i) h
  simp only [coeff_toPoly, coeff_zero] at this
  simp only [List.getD_eq_getElem?_getD, List.getElem?_eq_getElem hi, Option.getD_some] at this
  simp [this]

theorem toPoly_take_add (s : List Int) (i : Nat) (hs : s.length ≤ i + 1) :
    toPoly (s.take i) + C (s.getD i 0) * X ^ i = toPoly s := by
  induction s generalizing i with
  | nil => simp [toPoly]
  | cons x xs ih =>
    cases i with
    | zero =>
      obtain rfl := List.length_eq_zero_iff.mp (Nat.le_zero.mp (Nat.le_of_succ_le_succ hs))
      simp [toPoly]
    | succ k =>
      rw [List.take_succ_cons, List.getD_cons_succ, toPoly, toPoly, ← ih k (Nat.le_of_succ_le_succ hs), pow_succ]
      ring

/-- if `tmp = s·b` with `deg s < i`, the loop of `div_exact` never exits early and leaves a zero remainder -/
theorem divExactLoop_complete (b : List Int) (hb : b ≠ []) (hcb : Canon b) :
    ∀ (i : Nat) (tmp acc s : List Int), s.length ≤ i → toPoly tmp = toPoly s * toPoly b →
    ∃ q r, divExactLoop b (lc b) (b.length - 1) i tmp acc = some (q, r) ∧ r.all (· == 0) = true := by
  intro i
  induction i with
  | zero =>
    intro tmp acc s hs htmp
    have : s = [] := List.length_eq_zero_iff.mp (by omega)
    subst this
    refine ⟨acc, tmp, rfl, all_zero_of_toPoly_zero tmp (by simpa [toPoly] using htmp)⟩
  | succ i ih =>
    intro tmp acc s hs htmp
    have hlc0 := lc_ne_zero b hb hcb
    have hblen : 0 < b.length := List.length_pos_of_ne_nil hb
    have hbd := natDegree_toPoly b hb hcb
    have htop : tmp.getD (i + (b.length - 1)) 0 = s.getD i 0 * lc b := by
      rw [← coeff_toPoly, htmp,
        coeff_mul_add_eq_of_natDegree_le (le_trans (natDegree_toPoly_le s) (by omega)) (le_of_eq hbd.1),
        coeff_toPoly, coeff_toPoly, lc_eq_getD b hb]
    simp only [divExactLoop, htop]
    have hmod : (s.getD i 0 * lc b).fmod (lc b) = 0 := Int.mul_fmod_left _ _
    have hdiv : (s.getD i 0 * lc b).fdiv (lc b) = s.getD i 0 := Int.mul_fdiv_cancel _ hlc0
    simp only [hmod, ne_eq, not_true_eq_false, ↓reduceIte, hdiv]
    apply ih _ _ (s.take i) (by simp)
    rw [toPoly_sub_shift, htmp]
    have := toPoly_take_add s i hs
    rw [← this]; ring

/-- completeness of exact division: if `a = q'·b` in ℤ[x] with `a, b ≠ 0` (canonical), then
`div_exact` returns a quotient (which by soundness is the canonical form of q') -/
theorem divExact_complete (a b q' : List Int) (ha : a ≠ []) (hb : b ≠ []) (hca : Canon a) (hcb : Canon b)
    (h : toPoly a = toPoly q' * toPoly b) : ∃ q, divExact a b = some q := by
  have hda := natDegree_toPoly a ha hca
  have hdb := natDegree_toPoly b hb hcb
  have hq0 : toPoly q' ≠ 0 := by intro e; rw [e, zero_mul] at h; exact hda.2.2 h
  have hdeg : (toPoly a).natDegree = (toPoly q').natDegree + (toPoly b).natDegree := by
    rw [h]; exact natDegree_mul hq0 hdb.2.2
  have halen : 0 < a.length := List.length_pos_of_ne_nil ha
  have hblen : 0 < b.length := List.length_pos_of_ne_nil hb
  have hlen : b.length ≤ a.length := by omega
  set s := fromRaw q' with hs
  have hsP : toPoly s = toPoly q' := toPoly_fromRaw q'
  have hsne : s ≠ [] := by intro e; rw [e] at hsP; exact hq0 (by simpa [toPoly] using hsP.symm)
  have hsd := natDegree_toPoly s hsne (canon_fromRaw q')
  have hslen : s.length ≤ a.length - b.length + 1 := by
    have : 0 < s.length := List.length_pos_of_ne_nil hsne
    rw [hsP] at hsd; omega
  obtain ⟨q, r, hloop, hall⟩ := divExactLoop_complete b hb hcb (a.length - b.length + 1) a [] s hslen
    (by rw [hsP]; exact h)
  refine ⟨fromRaw q, ?_⟩
  unfold divExact
  have h1 : b.isEmpty = false := List.isEmpty_eq_false_iff.mpr hb
  have h2 : a.isEmpty = false := List.isEmpty_eq_false_iff.mpr ha
  have h3 : ¬ a.length < b.length := Nat.not_lt.mpr hlen
  simp only [h1, h2, Bool.false_eq_true, ↓reduceIte, h3, hloop, hall]

end NTV.PolyG
