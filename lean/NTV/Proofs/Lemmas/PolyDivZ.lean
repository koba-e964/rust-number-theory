import NTV.Proofs.Lemmas.PolyRing
/-! Pseudo-division (`pseudo_div_rem_bigint`) and soundness of exact division (`div_exact`) over ℤ. -/
open Polynomial
namespace NTV.PolyG

theorem toPoly_map_mul_right (c : Int) (l : List Int) : toPoly (l.map (· * c)) = C c * toPoly l :=
  toPoly_map_of_mul c _ l fun x _ => mul_comm x c

theorem getD_map_mul_right (c : Int) (l : List Int) (j : Nat) : (l.map (· * c)).getD j 0 = l.getD j 0 * c := by
  simp only [List.getD_eq_getElem?_getD, List.getElem?_map]
  cases l[j]? <;> simp

/-- Degree part of the pseudo-division contract: with every coefficient of `tmp` divisible by
`lcb^i` and `tmp` vanishing from index `i + bdeg` on, the loop ends with a remainder vanishing from
index `bdeg` on; every truncated division `top / lcb` performed on the way is exact. -/
theorem pdivLoop_degree (b : List Int) (bdeg : Nat) (hb : b.length = bdeg + 1) (lcb : Int)
    (hlc : b.getD bdeg 0 = lcb) (hlc0 : lcb ≠ 0) (i : Nat) (tmp acc : List Int)
    (hD : ∀ j, lcb ^ i ∣ tmp.getD j 0) (hZ : ∀ j, i + bdeg ≤ j → tmp.getD j 0 = 0) :
    ∀ j, bdeg ≤ j → (divLoop b (fun top => Int.tdiv top lcb) bdeg i tmp acc).2.getD j 0 = 0 := by
  induction i generalizing tmp acc with
  | zero => intro j hj; exact hZ j (by rwa [Nat.zero_add])
  | succ i ih =>
    simp only [divLoop]
    set top := tmp.getD (i + bdeg) 0 with htop
    set coef := Int.tdiv top lcb with hcoef
    have hdvd : lcb ∣ top := Dvd.dvd.trans (Dvd.intro_left (lcb ^ i) (by ring)) (hD (i + bdeg))
    have hexact : coef * lcb = top := Int.tdiv_mul_cancel hdvd
    have hcoefD : lcb ^ i ∣ coef := by
      obtain ⟨w, hw⟩ := hD (i + bdeg)
      rw [← htop] at hw
      refine ⟨w, ?_⟩
      have : coef * lcb = lcb ^ i * w * lcb := by rw [hexact, hw]; ring
      exact mul_right_cancel₀ hlc0 this
    apply ih
    · intro j
      rw [getD_subRaw, getD_shift_smul]
      have h1 : lcb ^ i ∣ tmp.getD j 0 := Dvd.dvd.trans (Dvd.intro (lcb) (by ring)) (hD j)
      split
      · simpa using h1
      · exact Dvd.dvd.sub h1 (Dvd.dvd.mul_right hcoefD _)
    · exact getD_sub_shift b bdeg hb i tmp coef (by rw [hlc]; exact hexact) hZ

/-- the pseudo-division contract, main branch (deg a ≥ deg b, both non-zero, b canonical):
`lc(b)^(deg a − deg b + 1) · a = q·b + r`, `r = 0 ∨ deg r < deg b`, results canonical. -/
theorem pseudoDivRem_spec (a b : List Int) (ha : a ≠ []) (hb : b ≠ []) (hcb : Canon b) (hab : b.length ≤ a.length) :
    C (lc b ^ (a.length - b.length + 1)) * toPoly a
      = toPoly (pseudoDivRem a b).1 * toPoly b + toPoly (pseudoDivRem a b).2 ∧
    (pseudoDivRem a b).2.length < b.length ∧ Canon (pseudoDivRem a b).1 ∧ Canon (pseudoDivRem a b).2 := by
  unfold pseudoDivRem
  have h1 : a.isEmpty = false := List.isEmpty_eq_false_iff.mpr ha
  have h2 : b.isEmpty = false := List.isEmpty_eq_false_iff.mpr hb
  have h3 : ¬ a.length < b.length := Nat.not_lt.mpr hab
  simp only [h1, h2, Bool.or_self, h3, decide_false, Bool.false_eq_true, ↓reduceIte]
  have hblen : b.length = (b.length - 1) + 1 := (Nat.sub_add_cancel (List.length_pos_of_ne_nil hb)).symm
  have hid := divLoop_identity b (fun top => Int.tdiv top (lc b)) (b.length - 1) (a.length - b.length + 1)
    (a.map (· * lc b ^ (a.length - b.length + 1))) []
  have hdg := pdivLoop_degree b (b.length - 1) hblen (lc b) (lc_eq_getD b hb) (lc_ne_zero b hb hcb)
    (a.length - b.length + 1) (a.map (· * lc b ^ (a.length - b.length + 1))) []
    (by intro j; rw [getD_map_mul_right]; exact Dvd.intro_left _ rfl)
    (by intro j hj; rw [getD_map_mul_right, getD_of_length_le a j (by omega)]; ring)
  refine ⟨?_, ?_, canon_fromRaw _, canon_fromRaw _⟩
  · simp only [toPoly_fromRaw]
    simp only [toPoly, mul_zero, zero_mul, add_zero, toPoly_map_mul_right] at hid
    rw [← hid]; ring
  · exact (length_fromRaw_le _ (b.length - 1) hdg).trans_lt
      (Nat.sub_lt (List.length_pos_of_ne_nil hb) Nat.one_pos)

/-- identity kept by the loop of `div_exact` whenever it does not exit early -/
theorem divExactLoop_identity (b : List Int) (lcb : Int) (bdeg : Nat) (i : Nat) (tmp acc q r : List Int)
    (h : divExactLoop b lcb bdeg i tmp acc = some (q, r)) :
    toPoly r + toPoly q * toPoly b = toPoly tmp + X ^ i * toPoly acc * toPoly b := by
  induction i generalizing tmp acc with
  | zero => simp only [divExactLoop, Option.some.injEq, Prod.mk.injEq] at h; obtain ⟨rfl, rfl⟩ := h; simp
  | succ i ih =>
    simp only [divExactLoop] at h
    split at h
    · exact absurd h (by simp)
    · rw [ih _ _ h, toPoly_sub_shift]
      simp only [toPoly]
      ring

theorem toPoly_eq_zero_of_all_zero (r : List Int) (h : r.all (· == 0) = true) : toPoly r = 0 := by
  induction r with
  | nil => rfl
  | cons x xs ih =>
    simp only [List.all_cons, Bool.and_eq_true, beq_iff_eq] at h
    simp [toPoly, h.1, ih h.2]

/-- soundness of exact division: a returned quotient satisfies `a = q·b` (and `b ≠ 0`). -/
theorem divExact_sound (a b q : List Int) (h : divExact a b = some q) :
    b ≠ [] ∧ toPoly a = toPoly q * toPoly b ∧ Canon q := by
  unfold divExact at h
  split at h
  · exact absurd h (by simp)
  · rename_i hb
    have hbne : b ≠ [] := by intro e; simp [e] at hb
    split at h
    · rename_i ha
      simp only [Option.some.injEq] at h; subst h
      obtain rfl := List.isEmpty_iff.mp ha
      exact ⟨hbne, by simp [toPoly], canon_nil⟩
    · split at h
      · exact absurd h (by simp)
      · split at h
        · exact absurd h (by simp)
        · rename_i q' r heq
          split at h
          · rename_i hall
            simp only [Option.some.injEq] at h; subst h
            have hid := divExactLoop_identity b (lc b) (b.length - 1) _ a [] q' r heq
            rw [toPoly_eq_zero_of_all_zero r hall] at hid
            refine ⟨hbne, ?_, canon_fromRaw _⟩
            simp only [toPoly, mul_zero, zero_mul, add_zero, zero_add] at hid
            rw [toPoly_fromRaw, hid]
          · exact absurd h (by simp)

end NTV.PolyG
