import NTV.Proofs.Lemmas.HenselModel
import NTV.Proofs.Lemmas.PolyModBasics
/-! `poly_divrem(a, b, p)` in ℤ[X] modulo an integer p: one row operation, the loop invariants (identity, length,
degree), the equations of the shortcut and main branches, and the contract of the main branch. -/
open Polynomial
namespace NTV.PolyMod
open NTV.PolyG NTV.Hensel

theorem pcong_iff (p : ℤ) (F G : ℤ[X]) : PCong p F G ↔ ∀ j, p ∣ (F - G).coeff j := by
  rw [← C_dvd_iff_dvd_coeff]
  constructor
  · rintro ⟨h, hh⟩; exact ⟨h, hh⟩
  · rintro ⟨h, hh⟩; exact ⟨h, hh⟩

theorem rowUpdate_length (coef p : Int) : ∀ (ts b : List Int), (rowUpdate coef p ts b).length = ts.length := by
  intro ts
  induction ts with
  | nil => intro b; cases b <;> simp [rowUpdate]
  | cons t ts ih => intro b; cases b <;> simp [rowUpdate, ih]

theorem rowUpdate_getD (coef p : Int) : ∀ (ts b : List Int) (j : Nat), b.length ≤ ts.length →
    (rowUpdate coef p ts b).getD j 0 =
      if j < b.length then Int.fmod (ts.getD j 0 - coef * b.getD j 0) p else ts.getD j 0 := by
  intro ts
  induction ts with
  | nil => intro b j h; cases b <;> simp_all [rowUpdate]
  | cons t ts ih =>
    intro b j h
    cases b with
    | nil => simp [rowUpdate]
    | cons c cs =>
      simp only [rowUpdate]
      cases j with
      | zero => simp
      | succ j =>
        have := ih cs j (by simpa using h)
        simp only [List.getD_eq_getElem?_getD, List.getElem?_cons_succ, List.length_cons,
          Nat.add_lt_add_iff_right] at this ⊢
        exact this

/-- one row operation of `poly_divrem` -/
def stepTmp (b : List Int) (coef p : Int) (i : Nat) (tmp : List Int) : List Int :=
  tmp.take i ++ rowUpdate coef p (tmp.drop i) b

theorem stepTmp_length (b : List Int) (coef p : Int) (i : Nat) (tmp : List Int) (h : i ≤ tmp.length) :
    (stepTmp b coef p i tmp).length = tmp.length := by
  simp [stepTmp, rowUpdate_length]; omega

theorem stepTmp_getD (b : List Int) (coef p : Int) (i : Nat) (tmp : List Int) (h : i + b.length ≤ tmp.length) (j : Nat) :
    (stepTmp b coef p i tmp).getD j 0 =
      if i ≤ j ∧ j < i + b.length then Int.fmod (tmp.getD j 0 - coef * b.getD (j - i) 0) p else tmp.getD j 0 := by
  have hlen : (tmp.take i).length = i := by rw [List.length_take]; omega
  rw [stepTmp]
  by_cases hj : j < i
  · rw [if_neg (by omega), List.getD_eq_getElem?_getD, List.getElem?_append_left (by rw [hlen]; exact hj),
      List.getElem?_take_of_lt hj, ← List.getD_eq_getElem?_getD]
  · have e : (tmp.drop i).getD (j - i) 0 = tmp.getD j 0 := by
      rw [List.getD_eq_getElem?_getD, List.getD_eq_getElem?_getD, List.getElem?_drop,
        Nat.add_sub_cancel' (not_lt.mp hj)]
    rw [List.getD_eq_getElem?_getD, List.getElem?_append_right (by rw [hlen]; omega), hlen,
      ← List.getD_eq_getElem?_getD, rowUpdate_getD coef p (tmp.drop i) b (j - i) (by rw [List.length_drop]; omega), e]
    by_cases hw : j - i < b.length
    · rw [if_pos hw, if_pos ⟨not_lt.mp hj, by omega⟩]
    · rw [if_neg hw, if_neg (by omega)]

theorem stepTmp_pcong (b : List Int) (coef p : Int) (i : Nat) (tmp : List Int) (h : i + b.length ≤ tmp.length) :
    PCong p (toPoly (stepTmp b coef p i tmp)) (toPoly tmp - C coef * (X ^ i * toPoly b)) := by
  rw [pcong_iff]
  intro j
  simp only [coeff_sub, coeff_toPoly, coeff_C_mul, coeff_X_pow_mul', stepTmp_getD b coef p i tmp h j]
  by_cases hw : i ≤ j ∧ j < i + b.length
  · simp only [hw, and_self, ↓reduceIte]
    have := (fmod_modEq (tmp.getD j 0 - coef * b.getD (j - i) 0) p)
    rw [Int.modEq_iff_dvd] at this
    have e : Int.fmod (tmp.getD j 0 - coef * b.getD (j - i) 0) p - (tmp.getD j 0 - coef * b.getD (j - i) 0)
        = -((tmp.getD j 0 - coef * b.getD (j - i) 0) - Int.fmod (tmp.getD j 0 - coef * b.getD (j - i) 0) p) := by ring
    rw [e]; exact (Int.dvd_neg).mpr this
  · simp only [hw, ↓reduceIte]
    by_cases hij : i ≤ j
    · have : b.getD (j - i) 0 = 0 := getD_of_length_le b _ (by omega)
      simp only [List.getD_eq_getElem?_getD] at this
      simp [hij, this]
    · simp [hij]

theorem divremLoop_succ (b : List Int) (invlc p : Int) (bdeg i : Nat) (tmp quo : List Int) :
    divremLoop b invlc p bdeg (i + 1) tmp quo =
      divremLoop b invlc p bdeg i (stepTmp b (Int.fmod (tmp.getD (i + bdeg) 0 * invlc) p) p i tmp)
        (Int.fmod (tmp.getD (i + bdeg) 0 * invlc) p :: quo) := rfl

theorem PCong.add {q : ℤ} {f g f' g' : ℤ[X]} (h1 : PCong q f f') (h2 : PCong q g g') : PCong q (f + g) (f' + g') := by
  obtain ⟨w1, hw1⟩ := h1; obtain ⟨w2, hw2⟩ := h2
  exact ⟨w1 + w2, by linear_combination hw1 + hw2⟩

theorem divremLoop_identity (b : List Int) (invlc p : Int) (bdeg : Nat) :
    ∀ (i : Nat) (tmp quo : List Int), i + b.length ≤ tmp.length + 1 →
    PCong p (toPoly (divremLoop b invlc p bdeg i tmp quo).2 +
        toPoly (divremLoop b invlc p bdeg i tmp quo).1 * toPoly b)
      (toPoly tmp + X ^ i * toPoly quo * toPoly b) := by
  intro i
  induction i with
  | zero => intro tmp quo _; simp only [divremLoop, pow_zero, one_mul]; exact PCong.refl _ _
  | succ i ih =>
    intro tmp quo hlen
    rw [divremLoop_succ]
    set coef := Int.fmod (tmp.getD (i + bdeg) 0 * invlc) p
    have hstep := stepTmp_pcong b coef p i tmp (by omega)
    have hl : (stepTmp b coef p i tmp).length = tmp.length := stepTmp_length b coef p i tmp (by omega)
    refine PCong.trans (ih _ _ (by rw [hl]; omega)) ?_
    have e : toPoly tmp + X ^ (i + 1) * toPoly quo * toPoly b =
        (toPoly tmp - C coef * (X ^ i * toPoly b)) + X ^ i * toPoly (coef :: quo) * toPoly b := by
      simp only [toPoly]; ring
    rw [e]
    exact PCong.add hstep (PCong.refl _ _)

theorem divremLoop_length (b : List Int) (invlc p : Int) (bdeg : Nat) :
    ∀ (i : Nat) (tmp quo : List Int), i + b.length ≤ tmp.length + 1 →
      (divremLoop b invlc p bdeg i tmp quo).2.length = tmp.length := by
  intro i
  induction i with
  | zero => intro tmp quo _; rfl
  | succ i ih =>
    intro tmp quo hlen
    rw [divremLoop_succ, ih _ _ (by rw [stepTmp_length _ _ _ _ _ (by omega)]; omega)]
    exact stepTmp_length _ _ _ _ _ (by omega)

theorem divremLoop_degree (b : List Int) (invlc p : Int) (hp : 0 < p) (bdeg : Nat) (hb : b.length = bdeg + 1)
    (hinv : b.getD bdeg 0 * invlc ≡ 1 [ZMOD p]) :
    ∀ (i : Nat) (tmp quo : List Int), i + b.length ≤ tmp.length + 1 →
      (∀ j, i + bdeg ≤ j → tmp.getD j 0 = 0) →
      ∀ j, bdeg ≤ j → (divremLoop b invlc p bdeg i tmp quo).2.getD j 0 = 0 := by
  intro i
  induction i with
  | zero => intro tmp quo _ hZ j hj; simp only [divremLoop]; exact hZ j (by omega)
  | succ i ih =>
    intro tmp quo hlen hZ
    rw [divremLoop_succ]
    apply ih _ _ (by rw [stepTmp_length _ _ _ _ _ (by omega)]; omega)
    intro j hj
    rw [stepTmp_getD b _ p i tmp (by omega) j]
    by_cases hw : i ≤ j ∧ j < i + b.length
    · rw [if_pos hw, (by omega : j = i + bdeg), Nat.add_sub_cancel_left, Int.fmod_eq_emod_of_nonneg _ hp.le]
      -- the new top entry is top − coef·lc b with coef ≡ top·invlc, hence ≡ top − top·(lc b·invlc) ≡ 0
      apply Int.emod_eq_zero_of_dvd
      have h1 := (fmod_modEq (tmp.getD (i + bdeg) 0 * invlc) p).mul_right (b.getD bdeg 0)
      rw [mul_assoc, mul_comm invlc] at h1
      exact Int.modEq_iff_dvd.mp (h1.trans (by simpa using hinv.mul_left (tmp.getD (i + bdeg) 0)))
    · rw [if_neg hw]
      exact hZ j (by omega)

theorem polyDivrem_short (a b : List Int) (p : Int) (h : a = [] ∨ b = [] ∨ a.length < b.length) :
    polyDivrem a b p = ([], a) := by
  rw [polyDivrem, if_pos]
  rcases h with h | h | h
  · simp [h]
  · simp [h]
  · simp [h]

theorem polyDivrem_main (a b : List Int) (p : Int) (ha : a ≠ []) (hb : b ≠ []) (hab : b.length ≤ a.length) :
    polyDivrem a b p =
      (fromRaw (divremLoop b (modinv (lc b) p) p (b.length - 1) (a.length - b.length + 1) a []).1,
        fromRaw (divremLoop b (modinv (lc b) p) p (b.length - 1) (a.length - b.length + 1) a []).2) := by
  rw [polyDivrem, if_neg]
  simp [ha, hb, hab]

theorem polyDivrem_cases (a b : List Int) :
    (a = [] ∨ b = [] ∨ a.length < b.length) ∨ (a ≠ [] ∧ b ≠ [] ∧ b.length ≤ a.length) := by
  by_cases ha : a = []
  · exact .inl (.inl ha)
  by_cases hb : b = []
  · exact .inl (.inr (.inl hb))
  rcases Nat.lt_or_ge a.length b.length with h | h
  · exact .inl (.inr (.inr h))
  · exact .inr ⟨ha, hb, h⟩

/-- the contract of `poly_divrem(a, b, p)` (main branch): if the inverse of the
leading coefficient of b used by the routine is a true inverse modulo p (always the case for a prime p
not dividing lc b: `modinv_spec`), then a ≡ q·b + r (mod p) with deg r < deg b, both canonical. -/
theorem polyDivrem_contract (a b : List Int) (p : Int) (hp : 0 < p) (ha : a ≠ []) (hb : b ≠ [])
    (hab : b.length ≤ a.length) (hinv : lc b * modinv (lc b) p ≡ 1 [ZMOD p]) :
    PCong p (toPoly a) (toPoly (polyDivrem a b p).1 * toPoly b + toPoly (polyDivrem a b p).2) ∧
    (polyDivrem a b p).2.length < b.length ∧ Canon (polyDivrem a b p).1 ∧ Canon (polyDivrem a b p).2 := by
  rw [polyDivrem_main a b p ha hb hab]
  have hbl : 0 < b.length := List.length_pos_of_ne_nil hb
  have hlen : a.length - b.length + 1 + b.length ≤ a.length + 1 := by omega
  have hid := divremLoop_identity b (modinv (lc b) p) p (b.length - 1) (a.length - b.length + 1) a [] hlen
  have hdg := divremLoop_degree b (modinv (lc b) p) p hp (b.length - 1) (by omega)
    (by rw [lc_eq_getD b hb]; exact hinv) (a.length - b.length + 1) a [] hlen
    (fun j hj => getD_of_length_le a j (by omega))
  refine ⟨?_, ?_, canon_fromRaw _, canon_fromRaw _⟩
  · rw [toPoly_fromRaw, toPoly_fromRaw, add_comm]
    simp only [toPoly, mul_zero, zero_mul, add_zero] at hid
    exact hid.symm
  · exact Nat.lt_of_le_of_lt (length_fromRaw_le _ (b.length - 1) hdg) (by omega)

theorem polyDivrem_contract_prime (a b : List Int) (p : Nat) (hp : p.Prime) (ha : a ≠ []) (hb : b ≠ [])
    (hab : b.length ≤ a.length) (hlc : IsCoprime (lc b) (p : Int)) :
    PCong p (toPoly a) (toPoly (polyDivrem a b p).1 * toPoly b + toPoly (polyDivrem a b p).2) ∧
    (polyDivrem a b p).2.length < b.length ∧ Canon (polyDivrem a b p).1 ∧ Canon (polyDivrem a b p).2 :=
  polyDivrem_contract a b p (by exact_mod_cast hp.pos) ha hb hab (modinv_spec p hp (lc b) hlc)

end NTV.PolyMod
