import NTV.Model.Polynomial
import Mathlib.Algebra.Polynomial.Basic
import Mathlib.Algebra.Polynomial.Coeff
import Mathlib.Algebra.Polynomial.Degree.Lemmas
import Mathlib.Tactic
/-! The abstraction map `toPoly : List R → R[X]` (coefficients, low degree first) and what the raw list
operations and the long-division loop `divLoop` do under it. -/
open Polynomial
namespace NTV.PolyG
variable {R : Type} [CommRing R] [DecidableEq R]

theorem degU_of_ne_nil {α : Type} {l : List α} (h : l ≠ []) : degU l = l.length - 1 := by
  rw [degU, if_neg (by rwa [List.isEmpty_iff])]

theorem degU_of_length {α : Type} {l : List α} {n : Nat} (h : l.length = n + 1) : degU l = n := by
  rw [degU_of_ne_nil (List.ne_nil_of_length_pos (h ▸ Nat.succ_pos n)), h, Nat.add_sub_cancel]

theorem foldl_add_range {A : Type} [AddCommMonoid A] (g : Nat → A) (n : Nat) (init : A) :
    (List.range n).foldl (fun s k => s + g k) init = init + ∑ k ∈ Finset.range n, g k := by
  induction n with
  | zero => simp
  | succ m ih => rw [List.range_succ, List.foldl_append, ih, Finset.sum_range_succ]; simp [add_assoc]

noncomputable def toPoly : List R → R[X]
  | [] => 0
  | c :: cs => C c + X * toPoly cs

theorem toPoly_addRaw (a b : List R) : toPoly (addRaw a b) = toPoly a + toPoly b := by
  fun_induction addRaw a b with
  | case1 b => simp [toPoly]
  | case2 a h => simp [toPoly]
  | case3 x xs y ys ih => simp only [toPoly, ih, C_add, mul_add]; exact add_add_add_comm _ _ _ _

theorem toPoly_subRaw (a b : List R) : toPoly (subRaw a b) = toPoly a - toPoly b := by
  fun_induction subRaw a b with
  | case1 a => simp [toPoly]
  | case2 y ys ih => simp only [toPoly, ih, C_neg]; ring
  | case3 x xs y ys ih => simp only [toPoly, ih, C_sub, mul_sub]; exact (add_sub_add_comm _ _ _ _).symm

theorem toPoly_map_of_mul (c : R) (f : R → R) (l : List R) (h : ∀ x ∈ l, f x = c * x) :
    toPoly (l.map f) = C c * toPoly l := by
  induction l with
  | nil => simp [toPoly]
  | cons x xs ih =>
    rw [List.map_cons, toPoly, toPoly, h x List.mem_cons_self, C_mul, ih fun y hy => h y (List.mem_cons_of_mem _ hy),
      mul_add, mul_left_comm]

theorem toPoly_smulRaw (c : R) (a : List R) : toPoly (smulRaw c a) = C c * toPoly a :=
  toPoly_map_of_mul c _ a fun _ _ => rfl

theorem toPoly_map_of_div (c : R) (f : R → R) (l : List R) (h : ∀ x ∈ l, c * f x = x) :
    C c * toPoly (l.map f) = toPoly l := by
  rw [← toPoly_smulRaw, smulRaw, List.map_map, List.map_congr_left (f := (c * ·) ∘ f) (g := id) h,
    List.map_id]

theorem toPoly_mulRaw (a b : List R) : toPoly (mulRaw a b) = toPoly a * toPoly b := by
  induction a with
  | nil => simp [mulRaw, toPoly]
  | cons x xs ih => simp only [mulRaw, toPoly_addRaw, toPoly_smulRaw, toPoly, ih, C_0]; ring

theorem toPoly_append_zero (l : List R) : toPoly (l ++ [0]) = toPoly l := by
  induction l with
  | nil => simp [toPoly]
  | cons x xs ih => simp [toPoly, ih]

theorem toPoly_reverse_dropWhile (l : List R) :
    toPoly ((l.dropWhile (fun x => decide (x = 0))).reverse) = toPoly l.reverse := by
  induction l with
  | nil => rfl
  | cons x xs ih =>
    by_cases hx : x = 0
    · subst hx
      simp only [List.dropWhile_cons, decide_true, ↓reduceIte, List.reverse_cons, ih, toPoly_append_zero]
    · simp [List.dropWhile_cons, hx]

theorem toPoly_fromRaw (l : List R) : toPoly (fromRaw l) = toPoly l := by
  unfold fromRaw
  rw [toPoly_reverse_dropWhile, List.reverse_reverse]

theorem toPoly_replicate_append (i : Nat) (l : List R) : toPoly (List.replicate i 0 ++ l) = X ^ i * toPoly l := by
  induction i with
  | zero => simp
  | succ i ih => rw [List.replicate_succ, List.cons_append, toPoly, ih, C_0, zero_add, pow_succ', mul_assoc]

theorem coeff_toPoly (l : List R) (i : Nat) : (toPoly l).coeff i = l.getD i 0 := by
  induction l generalizing i with
  | nil => simp [toPoly]
  | cons x xs ih =>
    cases i with
    | zero => simp [toPoly]
    | succ i => simp [toPoly, ih, coeff_X_mul]

theorem toPoly_sub_shift (tmp b : List R) (i : Nat) (coef : R) :
    toPoly (subRaw tmp (List.replicate i 0 ++ smulRaw coef b)) = toPoly tmp - X ^ i * (C coef * toPoly b) := by
  rw [toPoly_subRaw, toPoly_replicate_append, toPoly_smulRaw]

/-- identity maintained by the long-division loop, for any choice of quotient coefficients -/
theorem divLoop_identity (b : List R) (coefOf : R → R) (bdeg : Nat) (i : Nat) (tmp acc : List R) :
    toPoly (divLoop b coefOf bdeg i tmp acc).2 + toPoly (divLoop b coefOf bdeg i tmp acc).1 * toPoly b
      = toPoly tmp + X ^ i * toPoly acc * toPoly b := by
  induction i generalizing tmp acc with
  | zero => simp [divLoop]
  | succ i ih =>
    simp only [divLoop]
    rw [ih, toPoly_sub_shift]
    simp only [toPoly]
    ring

theorem getD_subRaw (a b : List R) (j : Nat) : (subRaw a b).getD j 0 = a.getD j 0 - b.getD j 0 := by
  rw [← coeff_toPoly, toPoly_subRaw, coeff_sub, coeff_toPoly, coeff_toPoly]

theorem getD_shift_smul (i : Nat) (c : R) (b : List R) (j : Nat) :
    (List.replicate i 0 ++ smulRaw c b).getD j 0 = if j < i then 0 else c * b.getD (j - i) 0 := by
  rw [← coeff_toPoly, toPoly_replicate_append, toPoly_smulRaw, coeff_X_pow_mul', coeff_C_mul, coeff_toPoly]
  simp only [← Nat.not_lt, ite_not]

theorem getD_of_length_le {α : Type} [Zero α] (l : List α) (j : Nat) (h : l.length ≤ j) : l.getD j 0 = 0 := by
  rw [List.getD_eq_getElem?_getD, List.getElem?_eq_none h]; rfl

/-- one round of long division: if `coef` cancels the top entry `tmp_(i+bdeg)`, the new `tmp` vanishes
one index lower -/
theorem getD_sub_shift (b : List R) (bdeg : Nat) (hb : b.length = bdeg + 1) (i : Nat) (tmp : List R) (coef : R)
    (hc : coef * b.getD bdeg 0 = tmp.getD (i + bdeg) 0) (hZ : ∀ j, i + 1 + bdeg ≤ j → tmp.getD j 0 = 0) :
    ∀ j, i + bdeg ≤ j → (subRaw tmp (List.replicate i 0 ++ smulRaw coef b)).getD j 0 = 0 := by
  intro j hj
  rw [getD_subRaw, getD_shift_smul, if_neg (Nat.not_lt.mpr (Nat.le_of_add_right_le hj))]
  rcases Nat.eq_or_lt_of_le hj with rfl | hlt
  · rw [Nat.add_sub_cancel_left, hc, sub_self]
  · rw [hZ j ((Nat.add_right_comm i 1 bdeg).trans_le hlt), getD_of_length_le b _ (by omega), mul_zero, sub_zero]

/-- degree part: if every chosen coefficient cancels the current top entry, the remainder vanishes
from index `bdeg` on. -/
theorem divLoop_degree (b : List R) (bdeg : Nat) (hb : b.length = bdeg + 1) (coefOf : R → R)
    (hcancel : ∀ t, coefOf t * b.getD bdeg 0 = t) (i : Nat) (tmp acc : List R)
    (hZ : ∀ j, i + bdeg ≤ j → tmp.getD j 0 = 0) :
    ∀ j, bdeg ≤ j → (divLoop b coefOf bdeg i tmp acc).2.getD j 0 = 0 := by
  induction i generalizing tmp acc with
  | zero => intro j hj; exact hZ j (by rwa [Nat.zero_add])
  | succ i ih => exact ih _ _ (getD_sub_shift b bdeg hb i tmp _ (hcancel _) hZ)

end NTV.PolyG
