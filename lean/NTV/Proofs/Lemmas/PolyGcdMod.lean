import NTV.Proofs.Lemmas.PolyDivremMod
import Mathlib.Data.Nat.Prime.Basic
/-! Divisibility modulo p (`DvdP`) and reduced lists (`Reduced`); `poly_divrem` in every branch
(`polyDivrem_total`); `poly_gcd` returns a common divisor modulo a prime; `poly_mod`. -/
open Polynomial
namespace NTV.PolyMod
open NTV.PolyG NTV.Hensel

/-- g divides f modulo p -/
def DvdP (p : ℤ) (g f : ℤ[X]) : Prop := ∃ k : ℤ[X], PCong p f (k * g)

theorem DvdP.refl (p : ℤ) (g : ℤ[X]) : DvdP p g g := ⟨1, by simpa using PCong.refl p g⟩

theorem DvdP.zero (p : ℤ) (g : ℤ[X]) : DvdP p g 0 := ⟨0, by simpa using PCong.refl p 0⟩

theorem DvdP.of_rel {p : ℤ} {g a b r Q : ℤ[X]} (h : PCong p a (Q * b + r)) (hb : DvdP p g b) (hr : DvdP p g r) :
    DvdP p g a := by
  obtain ⟨k1, h1⟩ := hb
  obtain ⟨k2, h2⟩ := hr
  refine ⟨Q * k1 + k2, PCong.trans h ?_⟩
  have e : (Q * k1 + k2) * g = Q * (k1 * g) + k2 * g := by ring
  rw [e]
  exact PCong.add (PCong.mul (PCong.refl p Q) h1) h2

/-- all coefficients in [0, p) -/
def Reduced (p : ℤ) (l : List Int) : Prop := ∀ j, 0 ≤ l.getD j 0 ∧ l.getD j 0 < p

theorem reduced_nil (p : ℤ) (hp : 0 < p) : Reduced p [] := fun j => by simp; exact hp

theorem reduced_fromRaw (p : ℤ) (l : List Int) (h : Reduced p l) : Reduced p (fromRaw l) := by
  intro j; rw [getD_fromRaw]; exact h j

theorem reduced_of_mem (p : Int) (hp : 0 < p) (l : List Int) (h : ∀ x ∈ l, 0 ≤ x ∧ x < p) : Reduced p l := by
  intro j
  by_cases hj : j < l.length
  · have : l.getD j 0 = l[j] := by simp [List.getD_eq_getElem?_getD, hj]
    rw [this]; exact h _ (List.getElem_mem hj)
  · rw [getD_of_length_le l j (by omega)]; exact ⟨le_refl _, hp⟩

theorem lc_coprime (p : Nat) (hp : p.Prime) (b : List Int) (hb : b ≠ []) (hc : Canon b) (hr : Reduced (p : Int) b) :
    IsCoprime (lc b) (p : Int) := by
  have h0 := lc_ne_zero b hb hc
  have hl := lc_eq_getD b hb
  obtain ⟨h1, h2⟩ := hr (b.length - 1)
  rw [hl] at h1 h2
  have hpos : 0 < lc b := lt_of_le_of_ne h1 (Ne.symm h0)
  rw [Int.isCoprime_iff_gcd_eq_one]
  have : (lc b).natAbs < p := by omega
  have hnd : ¬ p ∣ (lc b).natAbs := fun hd => by
    have := Nat.le_of_dvd (by omega) hd
    omega
  have := (Nat.Prime.coprime_iff_not_dvd hp).mpr hnd
  simpa [Int.gcd, Nat.coprime_comm] using this

/-- after the last row operation (index 0) every entry of the window lies in [0, p) -/
theorem divremLoop_window (b : List Int) (invlc p : Int) (hp : 0 < p) (bdeg : Nat) :
    ∀ (i : Nat) (tmp quo : List Int), 1 ≤ i → i + b.length ≤ tmp.length + 1 →
      ∀ j, j < b.length → 0 ≤ (divremLoop b invlc p bdeg i tmp quo).2.getD j 0 ∧
        (divremLoop b invlc p bdeg i tmp quo).2.getD j 0 < p := by
  intro i
  induction i with
  | zero => intro _ _ h; omega
  | succ i ih =>
    intro tmp quo _ hlen j hj
    rw [divremLoop_succ]
    by_cases hi : i = 0
    · subst hi
      simp only [divremLoop]
      rw [stepTmp_getD b _ p 0 tmp (by omega) j]
      have : 0 ≤ j ∧ j < 0 + b.length := by omega
      simp only [this, and_self, ↓reduceIte]
      exact ⟨Int.fmod_nonneg_of_pos _ hp, Int.fmod_lt_of_pos _ hp⟩
    · exact ih _ _ (by omega) (by rw [stepTmp_length _ _ _ _ _ (by omega)]; omega) j hj

/-- the remainder of the main branch of `poly_divrem` has its coefficients in [0, p): the window below
deg b by the last row operation, the rest is zero -/
theorem polyDivrem_rem_reduced (a b : List Int) (p : Int) (hp0 : 0 < p) (ha : a ≠ []) (hb : b ≠ [])
    (hab : b.length ≤ a.length) (hinv : lc b * modinv (lc b) p ≡ 1 [ZMOD p]) :
    Reduced p (polyDivrem a b p).2 := by
  rw [polyDivrem_main a b p ha hb hab]
  apply reduced_fromRaw
  have hbl : 0 < b.length := List.length_pos_of_ne_nil hb
  have hlen : a.length - b.length + 1 + b.length ≤ a.length + 1 := by omega
  intro j
  by_cases hj : j < b.length
  · exact divremLoop_window b _ p hp0 (b.length - 1) _ a [] (by omega) hlen j hj
  · rw [divremLoop_degree b (modinv (lc b) p) p hp0 (b.length - 1) (by omega)
      (by rw [lc_eq_getD b hb]; exact hinv) (a.length - b.length + 1) a [] hlen
      (fun j hj => getD_of_length_le a j (by omega)) j (by omega)]
    exact ⟨le_refl _, hp0⟩

theorem length_fromRaw_le_lengthL (l : List Int) : (fromRaw l).length ≤ l.length :=
  length_fromRaw_le l l.length (fun j hj => getD_of_length_le l j hj)

theorem divremLoop_quo (b : List Int) (invlc p : Int) (hp : 0 < p) (bdeg : Nat) :
    ∀ (i : Nat) (tmp quo : List Int), (∀ x ∈ quo, 0 ≤ x ∧ x < p) →
      (∀ x ∈ (divremLoop b invlc p bdeg i tmp quo).1, 0 ≤ x ∧ x < p) ∧
      (divremLoop b invlc p bdeg i tmp quo).1.length = i + quo.length := by
  intro i
  induction i with
  | zero => intro tmp quo h; simp only [divremLoop]; exact ⟨h, by simp⟩
  | succ i ih =>
    intro tmp quo h
    rw [divremLoop_succ]
    have := ih (stepTmp b (Int.fmod (tmp.getD (i + bdeg) 0 * invlc) p) p i tmp)
      (Int.fmod (tmp.getD (i + bdeg) 0 * invlc) p :: quo)
      (List.forall_mem_cons.mpr ⟨⟨Int.fmod_nonneg_of_pos _ hp, Int.fmod_lt_of_pos _ hp⟩, h⟩)
    refine ⟨this.1, ?_⟩
    rw [this.2]; simp; omega

/-- `poly_divrem(a, b, p)` in every branch, for a modulus p > 0 modulo which the routine's inverse of lc b is
one: a ≡ q·b + r, deg r < deg b, q canonical and reduced; r is `a` itself (shortcut exits) or canonical and reduced -/
theorem polyDivrem_total (a b : List Int) (p : Int) (hp : 0 < p)
    (hinv : b ≠ [] → lc b * modinv (lc b) p ≡ 1 [ZMOD p]) :
    PCong p (toPoly a) (toPoly (polyDivrem a b p).1 * toPoly b + toPoly (polyDivrem a b p).2) ∧
    (b ≠ [] → (polyDivrem a b p).2.length < b.length) ∧ Canon (polyDivrem a b p).1 ∧
    Reduced p (polyDivrem a b p).1 ∧ (polyDivrem a b p).1.length ≤ a.length + 1 - b.length ∧
    ((polyDivrem a b p).2 = a ∨ Canon (polyDivrem a b p).2 ∧ Reduced p (polyDivrem a b p).2) := by
  rcases polyDivrem_cases a b with hs | ⟨ha, hb, hab⟩
  · rw [polyDivrem_short a b p hs]
    refine ⟨by rw [toPoly, zero_mul, zero_add]; exact PCong.refl _ _, fun hb => ?_, canon_nil, reduced_nil p hp,
      Nat.zero_le _, .inl rfl⟩
    rcases hs with h | h | h
    · rw [h]; exact List.length_pos_of_ne_nil hb
    · exact absurd h hb
    · exact h
  · obtain ⟨c1, c2, c3, c4⟩ := polyDivrem_contract a b p hp ha hb hab (hinv hb)
    refine ⟨c1, fun _ => c2, c3, ?_, ?_, .inr ⟨c4, polyDivrem_rem_reduced a b p hp ha hb hab (hinv hb)⟩⟩
    -- the quotient: its entries are values of `mod_floor`, one per round of the loop
    · rw [polyDivrem_main a b p ha hb hab]
      exact reduced_fromRaw _ _ (reduced_of_mem _ hp _ (divremLoop_quo b _ p hp _ _ a [] (by simp)).1)
    · rw [polyDivrem_main a b p ha hb hab]
      refine (length_fromRaw_le_lengthL _).trans ?_
      rw [(divremLoop_quo b _ p hp _ _ a [] (by simp)).2, List.length_nil]
      omega

theorem polyDivrem_rel (a b : List Int) (p : Nat) (hp : p.Prime) (hra : Reduced (p : Int) a)
    (hrb : Reduced (p : Int) b) (hcb : Canon b) :
    ∃ Q : ℤ[X], PCong (p : Int) (toPoly a) (Q * toPoly b + toPoly (polyDivrem a b p).2) ∧
      Reduced (p : Int) (polyDivrem a b p).2 ∧ (Canon a → Canon (polyDivrem a b p).2) := by
  obtain ⟨c1, -, -, -, -, c6⟩ := polyDivrem_total a b p (by exact_mod_cast hp.pos)
    (fun hb => modinv_spec p hp _ (lc_coprime p hp b hb hcb hrb))
  exact ⟨_, c1, c6.elim (fun e => e.symm ▸ hra) (·.2), fun hca => c6.elim (fun e => e.symm ▸ hca) (·.1)⟩

theorem polyGcdAux_succ (p : Int) (f : Nat) (a b : List Int) :
    polyGcdAux p (f + 1) a b =
      if (polyDivrem a b p).2 = [] then .ok b else polyGcdAux p f b (polyDivrem a b p).2 := by
  cases h : (polyDivrem a b p).2 <;> simp [polyGcdAux, h]

/-- the polynomial returned by `poly_gcd(a, b, p)` divides both arguments modulo
the prime p (for reduced canonical arguments), and is itself reduced and canonical -/
theorem polyGcdAux_dvd (p : Nat) (hp : p.Prime) : ∀ (fuel : Nat) (a b g : List Int),
    Reduced (p : Int) a → Reduced (p : Int) b → Canon a → Canon b →
    polyGcdAux (p : Int) fuel a b = .ok g →
    DvdP p (toPoly g) (toPoly a) ∧ DvdP p (toPoly g) (toPoly b) ∧ Reduced (p : Int) g ∧ Canon g := by
  intro fuel
  induction fuel with
  | zero => intro a b g _ _ _ _ h; cases h
  | succ fuel ih =>
    intro a b g hra hrb hca hcb h
    rw [polyGcdAux_succ] at h
    obtain ⟨Q, hrel, hrr, hcr⟩ := polyDivrem_rel a b p hp hra hrb hcb
    by_cases hr0 : (polyDivrem a b (p : Int)).2 = []
    · rw [if_pos hr0] at h
      cases h
      rw [hr0, toPoly, add_zero] at hrel
      exact ⟨⟨Q, hrel⟩, DvdP.refl _ _, hrb, hcb⟩
    · rw [if_neg hr0] at h
      obtain ⟨d1, d2, d3, d4⟩ := ih b (polyDivrem a b (p : Int)).2 g hrb hrr hcb (hcr hca) h
      exact ⟨DvdP.of_rel hrel d1 d2, d1, d3, d4⟩

theorem polyGcd_dvd (p : Nat) (hp : p.Prime) (a b g : List Int)
    (hra : Reduced (p : Int) a) (hrb : Reduced (p : Int) b) (hca : Canon a) (hcb : Canon b)
    (h : polyGcd a b (p : Int) = .ok g) :
    DvdP p (toPoly g) (toPoly a) ∧ DvdP p (toPoly g) (toPoly b) ∧ Reduced (p : Int) g ∧ Canon g :=
  polyGcdAux_dvd p hp _ a b g hra hrb hca hcb h

theorem polyMod_reduced (f : List Int) (p : Int) (hp : 0 < p) :
    Reduced p (polyMod f p) ∧ Canon (polyMod f p) ∧ PCong p (toPoly (polyMod f p)) (toPoly f) := by
  refine ⟨?_, canon_fromRaw _, polyMod_cong f p⟩
  unfold polyMod
  apply reduced_fromRaw
  intro j
  simp only [List.getD_eq_getElem?_getD, List.getElem?_map]
  cases f[j]? with
  | none => simp; exact hp
  | some c => simp only [Option.map_some, Option.getD_some]; exact ⟨Int.fmod_nonneg_of_pos _ hp, Int.fmod_lt_of_pos _ hp⟩

end NTV.PolyMod
