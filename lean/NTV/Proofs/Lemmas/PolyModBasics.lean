import NTV.Model.PolyModLinear
import Mathlib.Tactic
import Mathlib.Data.Int.ModEq
/-! The integer primitives of src/poly_mod/prim.rs as congruences: `%`/`mod_floor`, `modpow` (binary powering),
`poly_of_mod` (Horner), `modinv` (Fermat); and two facts about the `Except` monad and `deg()` of the model. -/
namespace NTV.PolyMod

theorem bind_ok {α β : Type} {x : M α} {f : α → M β} {r : β} (h : x >>= f = .ok r) :
    ∃ a, x = .ok a ∧ f a = .ok r := by
  cases x with
  | error e => cases h
  | ok a => exact ⟨a, rfl, h⟩

theorem degU_eq (l : List Int) (h : l ≠ []) : NTV.PolyG.degU l = l.length - 1 := by
  rw [NTV.PolyG.degU, if_neg (by rwa [List.isEmpty_iff])]

theorem tmod_modEq (x m : Int) : Int.tmod x m ≡ x [ZMOD m] := by
  rw [Int.modEq_iff_dvd]
  have := Int.dvd_tmod_sub_self (x := x) (m := m)
  have h2 : x - Int.tmod x m = -(Int.tmod x m - x) := by ring
  rw [h2]; exact (Int.dvd_neg).mpr this

theorem fmod_modEq (x m : Int) : Int.fmod x m ≡ x [ZMOD m] := by
  rw [Int.modEq_iff_dvd, Int.fmod_def]
  exact ⟨Int.fdiv x m, by ring⟩

theorem toNat_halve (e : Int) (h : 0 < e) :
    (e / 2).toNat < e.toNat ∧ e.toNat = 2 * (e / 2).toNat + (e % 2).toNat := by
  lift e to ℕ using h.le
  exact ⟨Nat.div_lt_self (Int.natCast_pos.mp h) one_lt_two, (Nat.div_add_mod e 2).symm⟩

/-- `modpow` computes x^e modulo m, as a congruence (the representative may be negative) -/
theorem modpowLoop_modEq (m : Int) : ∀ (n : Nat) (e product current : Int), e.toNat = n →
    modpowLoop m e product current ≡ product * current ^ n [ZMOD m] := by
  intro n
  induction n using Nat.strong_induction_on with
  | _ n ih =>
    intro e product current hn
    rw [modpowLoop]
    by_cases hpos : e > 0
    · rw [dif_pos hpos]
      obtain ⟨hlt, hn2⟩ := toNat_halve e hpos
      rw [hn] at hlt hn2
      refine (ih _ hlt (e / 2) _ _ rfl).trans ?_
      have hc : Int.tmod (current * current) m ^ (e / 2).toNat ≡ current ^ (2 * (e / 2).toNat) [ZMOD m] := by
        rw [pow_mul, sq]; exact (tmod_modEq _ _).pow _
      rw [hn2]
      by_cases hodd : e % 2 = 1
      · rw [if_pos hodd, hodd, Int.toNat_one, pow_succ', ← mul_assoc]
        exact (tmod_modEq _ m).mul hc
      · rw [if_neg hodd, (Int.emod_two_eq_zero_or_one e).resolve_right hodd, Int.toNat_zero, add_zero]
        exact hc.mul_left _
    · rw [dif_neg hpos, ← hn, Int.toNat_of_nonpos (not_lt.mp hpos), pow_zero, mul_one]

theorem modpow_modEq (x e m : Int) : modpow x e m ≡ x ^ e.toNat [ZMOD m] := by
  have := modpowLoop_modEq m e.toNat e 1 x rfl
  simpa [modpow] using this

theorem polyOfMod_modEq (f : List Int) (a p : Int) :
    polyOfMod f a p ≡ NTV.PolyG.eval f a [ZMOD p] := by
  induction f with
  | nil => simp [polyOfMod, NTV.PolyG.eval]
  | cons c cs ih =>
    simp only [polyOfMod, NTV.PolyG.eval, List.foldr_cons] at ih ⊢
    refine (tmod_modEq _ _).trans ?_
    exact (ih.mul_right a).add_right c

/-- `find_linear_factors_impl` draws its shift with `gen_range(0..p)` -/
theorem draw_shift_range (p : Int) (s : NTV.Draw.Stream) (a : Int) (rest : NTV.Draw.Stream)
    (h : NTV.Draw.range 0 p s = some (a, rest)) : 0 ≤ a ∧ a < p := by
  unfold NTV.Draw.range at h
  split at h
  · simp at h
  · rename_i v r hb
    simp only [Option.some.injEq, Prod.mk.injEq] at h
    have := NTV.Draw.below_lt _ _ _ _ hb
    obtain ⟨rfl, _⟩ := h
    omega

/-- `modinv(x, p) = x^(p-2) mod p` is an inverse of x modulo a prime p not dividing x (Fermat) -/
theorem modinv_spec (p : Nat) (hp : p.Prime) (x : Int) (hx : IsCoprime x (p : Int)) :
    x * modinv x (p : Int) ≡ 1 [ZMOD (p : Int)] := by
  have hm := (modpow_modEq x ((p : Int) - 2) (p : Int)).mul_left x
  have ht : ((p : Int) - 2).toNat = p - 2 := Int.toNat_sub p 2
  rw [ht, ← pow_succ', show p - 2 + 1 = p - 1 by have := hp.two_le; omega] at hm
  exact hm.trans (Int.ModEq.pow_card_sub_one_eq_one hp hx)
end NTV.PolyMod
