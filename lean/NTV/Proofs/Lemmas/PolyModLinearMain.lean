import NTV.Proofs.Lemmas.PolyModLinearSteps
/-! `find_linear_factors` (src/poly_mod/linear.rs): the returned list is, as a multiset, the multiset of
roots in ZMod p of the input polynomial — for every history of random draws. -/
open Polynomial
namespace NTV.PolyMod
open NTV.PolyG NTV.Hensel

/-- `find_linear_factors_impl`, one call, written with the named stages -/
theorem findLinearImpl_succ (p : Int) (fuel : Nat) (poly : Poly) (result : List Int) (s : NTV.Draw.Stream) :
    findLinearImpl p (fuel + 1) poly result s =
      (if degU poly = 0 then .ok (result, s)
      else if degU poly = 1 then
        .ok (result ++ [Int.fmod (-(coefAt poly 0) * modinv (coefAt poly 1) p) p], s)
      else
        match NTV.Draw.range 0 p s with
        | none => .error "inconclusive stream"
        | some (a, s) =>
          if modpow a p p ≠ a then .error "panic assert"
          else
            deflate p poly result a fun (poly1, result1) => do
              let gcd1 ← polyGcd (adjust p (add (xapow p a poly1) [1])) poly1 p
              splitAfter p (findLinearImpl p fuel) gcd1 poly1 result1 s fun (poly2, result2, s2) => do
                let gcd2 ← polyGcd (adjust p (add (xapow p a poly1) (fromRaw [p - 1]))) poly2 p
                splitAfter p (findLinearImpl p fuel) gcd2 poly2 result2 s2 fun (poly3, result3, s3) =>
                  if poly ≠ poly3 then findLinearImpl p fuel poly3 result3 s3 else pure (result3, s3)) := by
  rw [findLinearImpl]
  rfl

theorem stage_const (p : ℕ) [Fact p.Prime] (poly result : List Int) (hl : poly.length = 1) :
    Stage p (red p poly) 1 result result := by
  match poly, hl with
  | [c], _ =>
    refine ⟨[], by simp, by simp, ?_⟩
    rw [red_cons, red_nil, mul_zero, add_zero, roots_C]
    simp

theorem stage_linear (p : ℕ) [Fact p.Prime] (poly result : List Int) (hg : GoodL p poly) (hl : poly.length = 2) :
    Stage p (red p poly) 1 result
      (result ++ [Int.fmod (-(coefAt poly 0) * modinv (coefAt poly 1) p) p]) := by
  have hpp : p.Prime := Fact.out
  have hp0 : (0 : Int) < p := by exact_mod_cast hpp.pos
  obtain ⟨c0, c1, rfl⟩ := List.length_eq_two.mp hl
  · have hlc : IsCoprime c1 (p : Int) := lc_coprime p hpp [c0, c1] (List.cons_ne_nil _ _) hg.2.1 hg.1
    have hinv := modinv_spec p hpp c1 hlc
    rw [← ZMod.intCast_eq_intCast_iff] at hinv
    push_cast at hinv
    have hc1 : (c1 : ZMod p) ≠ 0 := left_ne_zero_of_mul_eq_one hinv
    have hinv' : ((modinv c1 p : Int) : ZMod p) = (c1 : ZMod p)⁻¹ := eq_inv_of_mul_eq_one_right hinv
    refine ⟨[_], rfl, ?_, ?_⟩
    · intro r hr
      simp only [List.mem_cons, List.not_mem_nil, or_false] at hr
      subst hr
      exact ⟨Int.fmod_nonneg_of_pos _ hp0, Int.fmod_lt_of_pos _ hp0⟩
    · have e : red p [c0, c1] = C (c1 : ZMod p) * X + C (c0 : ZMod p) := by
        rw [red_cons, red_cons, red_nil, mul_zero, add_zero, add_comm, mul_comm]
      rw [e, roots_C_mul_X_add_C _ hc1]
      simp only [coefAt, List.getD_cons_zero, List.getD_cons_succ, Multiset.coe_singleton, Multiset.map_singleton,
        roots_one, cast_fmod]
      push_cast
      rw [hinv']; congr 1; ring

/-- **main invariant**: every successful run of `find_linear_factors_impl` on a non-zero reduced
polynomial appends to `result` a list of values in [0, p) whose multiset is the multiset of roots -/
theorem findLinearImpl_spec (p : ℕ) [Fact p.Prime] : ∀ fuel : Nat, RecSpec p (findLinearImpl p fuel) := by
  intro fuel
  induction fuel with
  | zero => intro poly result s res s' _ h; cases h
  | succ fuel ih =>
    intro poly result s res s' hg h
    have hlen := List.length_pos_of_ne_nil hg.ne_nil
    rw [findLinearImpl_succ, degU_eq poly hg.ne_nil] at h
    by_cases h0 : poly.length - 1 = 0
    · rw [if_pos h0] at h
      cases h
      exact stage_const p poly result (by omega)
    rw [if_neg h0] at h
    by_cases h1 : poly.length - 1 = 1
    · rw [if_pos h1] at h
      cases h
      exact stage_linear p poly result hg (by omega)
    rw [if_neg h1] at h
    cases hdraw : NTV.Draw.range 0 p s with
    | none => rw [hdraw] at h; cases h
    | some v =>
      obtain ⟨a, s1⟩ := v
      rw [hdraw] at h
      dsimp only at h
      obtain ⟨ha0, ha1⟩ := draw_shift_range p s a s1 hdraw
      by_cases hf : modpow a p p ≠ a
      · rw [if_pos hf] at h; cases h
      rw [if_neg hf] at h
      obtain ⟨poly1, result1, h, G1, S1, L1, U1⟩ := deflate_spec p poly result a ha0 ha1 hg _ _ h
      obtain ⟨we, ⟨pr, pc, pe⟩, mr, mc, me⟩ := xapow_spec p a poly1 G1
      obtain ⟨gcd1, hgcd1, h⟩ := bind_ok h
      obtain ⟨poly2, result2, s2, h, G2, S2, L2, U2⟩ :=
        splitAfter_spec p _ ih _ gcd1 poly1 result1 s1 pr pc G1 hgcd1 _ _ h
      obtain ⟨gcd2, hgcd2, h⟩ := bind_ok h
      obtain ⟨poly3, result3, s3, h, G3, S3, L3, U3⟩ :=
        splitAfter_spec p _ ih _ gcd2 poly2 result2 s2 mr mc G2 hgcd2 _ _ h
      have S123 := (S1.trans S2).trans S3
      by_cases hne : poly ≠ poly3
      · rw [if_pos hne] at h
        exact S123.trans (ih poly3 result3 s3 res s' G3 h)
      · rw [if_neg hne] at h
        cases h
        -- nothing changed (no stage shortened the polynomial): no root at all
        have hl : poly.length = poly3.length := congrArg List.length (not_not.mp hne)
        obtain ⟨rfl, r1⟩ := U1 (by omega)
        obtain ⟨rfl, r2⟩ := U2 (by omega)
        obtain ⟨rfl, r3⟩ := U3 (by omega)
        rw [pe] at r2
        rw [me] at r3
        obtain ⟨rs, q1, q2, q3⟩ := S123
        have hz := no_root_of_unchanged p _ _ _ we r1 r2 r3
        exact ⟨rs, q1, q2, by rw [q3, hz, roots_one]; rfl⟩

/-- the `while poly_of_mod(poly, val, 2) == 0` loop, given more fuel than coefficients, ends without tripping
the assertion of `divide_by_x_a` and removes the full power of (X − val) -/
theorem mod2Loop_run (val : Int) : ∀ (fuel : Nat) (poly result : List Int), GoodL 2 poly → poly.length < fuel →
    ∃ (poly' : List Int) (k : Nat), mod2Loop val fuel poly result = .ok (poly', result ++ List.replicate k val) ∧
      GoodL 2 poly' ∧ red 2 poly = (X - C (val : ZMod 2)) ^ k * red 2 poly' ∧
      (red 2 poly').eval (val : ZMod 2) ≠ 0 := by
  intro fuel
  induction fuel with
  | zero => intro poly result _ h; omega
  | succ fuel ih =>
    intro poly result hg hf
    have hiff := polyOfMod_eq_zero_iff 2 (by norm_num) poly val
    rw [mod2Loop]
    by_cases hz : polyOfMod poly val 2 = 0
    · obtain ⟨q, hq⟩ := divideByXA_ok 2 (by norm_num) poly val hg.ne_nil (hiff.mp hz)
      obtain ⟨hgq, d1, d4⟩ := divideByXA_good 2 (by norm_num) poly val q hg hq
      obtain ⟨poly', k, e1, e2, e3, e4⟩ := ih q (result ++ [val]) hgq (by omega)
      refine ⟨poly', k + 1, ?_, e2, by rw [d1, e3, pow_succ]; ring, e4⟩
      rw [Nat.cast_ofNat] at hq
      rw [if_pos hz, hq, ok_bind', e1, List.append_assoc, List.replicate_succ]
      rfl
    · exact ⟨poly, 0, by rw [if_neg hz, List.replicate_zero, List.append_nil], hg, by rw [pow_zero, one_mul],
        fun e => hz (hiff.mpr e)⟩

theorem zmod2_cases : ∀ r : ZMod 2, r = 0 ∨ r = 1 := by decide

/-- `find_linear_factors_impl_mod2` succeeds and returns the multiplicity of 0, then the multiplicity of 1 -/
theorem findLinearMod2_run (poly : List Int) (hg : GoodL 2 poly) :
    ∃ res, findLinearMod2 poly = .ok res ∧ (∀ r ∈ res, 0 ≤ r ∧ r < 2) ∧
      (red 2 poly).roots = Multiset.map (Int.cast : Int → ZMod 2) (res : Multiset Int) := by
  obtain ⟨poly1, k0, h1, a2, a3, a4⟩ := mod2Loop_run 0 (poly.length + 2) poly [] hg (by omega)
  obtain ⟨poly2, k1, h2, b2, b3, b4⟩ := mod2Loop_run 1 (poly1.length + 2) poly1 _ a2 (by omega)
  refine ⟨[] ++ List.replicate k0 0 ++ List.replicate k1 1, ?_, ?_, ?_⟩
  · rw [findLinearMod2, h1, ok_bind']
    dsimp only
    rw [h2]
    rfl
  · intro r hr
    simp only [List.nil_append, List.mem_append, List.mem_replicate] at hr
    rcases hr with ⟨_, rfl⟩ | ⟨_, rfl⟩ <;> omega
  · simp only [Int.cast_zero, Int.cast_one, C_0, sub_zero, C_1] at a3 a4 b3 b4
    have hz : (red 2 poly2).roots = 0 := by
      apply Multiset.eq_zero_of_forall_notMem
      intro r hr
      have hroot : (red 2 poly2).eval r = 0 := isRoot_of_mem_roots hr
      rcases zmod2_cases r with rfl | rfl
      · exact a4 (by rw [b3, eval_mul, hroot, mul_zero])
      · exact b4 hroot
    have hne : X ^ k0 * red 2 poly1 ≠ 0 := by rw [← a3]; exact hg.2.2
    have hne1 : (X - 1 : (ZMod 2)[X]) ^ k1 * red 2 poly2 ≠ 0 := by rw [← b3]; exact a2.2.2
    rw [a3, roots_mul hne, b3, roots_mul hne1, hz, roots_pow, roots_pow, roots_X]
    have : (X - 1 : (ZMod 2)[X]) = X - C 1 := by simp
    rw [this, roots_X_sub_C]
    simp only [List.nil_append, ← Multiset.coe_add, Multiset.map_add, Multiset.coe_replicate,
      Multiset.map_replicate, Int.cast_zero, Int.cast_one, Multiset.nsmul_singleton, add_zero]

/-- **C12, model level**: a successful run of `find_linear_factors(f, p)` (p prime, f ≢ 0 mod p) returns
values in [0, p) whose multiset is the multiset of roots of f in ZMod p — whatever the draws were -/
theorem findLinearFactors_spec (p : ℕ) [Fact p.Prime] (f : List Int) (s : NTV.Draw.Stream) (res : List Int)
    (hf : red p f ≠ 0) (h : findLinearFactors f p s = .ok res) :
    (∀ r ∈ res, 0 ≤ r ∧ r < (p : Int)) ∧
      (red p f).roots = Multiset.map (Int.cast : Int → ZMod p) (res : Multiset Int) := by
  have hpp : p.Prime := Fact.out
  have hred := red_polyMod p hpp.pos f
  have hg := goodL_polyMod p hpp.pos f hf
  unfold findLinearFactors at h
  simp only at h
  split at h
  · rename_i h2
    have hp2 : p = 2 := by exact_mod_cast h2
    subst hp2
    obtain ⟨res', hr, h1, h2⟩ := findLinearMod2_run _ hg
    rw [hr] at h
    cases h
    exact ⟨h1, hred ▸ h2⟩
  · obtain ⟨⟨r, s'⟩, hrun, h⟩ := bind_ok h
    simp only [pure, Except.pure, Except.ok.injEq] at h
    subst h
    obtain ⟨rs, e1, e2, e3⟩ := findLinearImpl_spec p _ _ [] s r s' hg hrun
    simp only [List.nil_append] at e1
    subst e1
    rw [← hred]
    exact ⟨e2, by rw [e3, roots_one]; exact add_zero _⟩

end NTV.PolyMod
