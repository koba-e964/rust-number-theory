import NTV.Proofs.Lemmas.PolyModOpsZMod
import Mathlib.NumberTheory.LegendreSymbol.Basic
/-! The steps of `find_linear_factors_impl` (src/poly_mod/linear.rs), specified in `(ZMod p)[X]`:
deflation at the drawn shift, the adjusted polynomials `xapow ± 1`, one gcd split. -/
open Polynomial
namespace NTV.PolyMod
open NTV.PolyG NTV.Hensel

theorem ok_bind' {α β : Type} (a : α) (f : α → M β) : (Except.ok a : M α) >>= f = f a := rfl

theorem error_bind' {α β : Type} (e : String) (f : α → M β) : (Except.error e : M α) >>= f = .error e := rfl

def GoodL (p : ℕ) (poly : List Int) : Prop := Reduced (p : Int) poly ∧ Canon poly ∧ red p poly ≠ 0

theorem GoodL.ne_nil {p : ℕ} {poly : List Int} (h : GoodL p poly) : poly ≠ [] :=
  fun e => h.2.2 (by rw [e, red_nil])

theorem GoodL.natDegree {p : ℕ} {poly : List Int} (h : GoodL p poly) : (red p poly).natDegree = poly.length - 1 :=
  (red_spec p poly h.ne_nil h.1 h.2.1).2

theorem good_of (p : ℕ) (poly : List Int) (hr : Reduced (p : Int) poly) (hc : Canon poly) (hne : poly ≠ []) :
    GoodL p poly := ⟨hr, hc, (red_spec p poly hne hr hc).1⟩

theorem goodL_polyMod (p : ℕ) (hp : 0 < p) (f : List Int) (hf : red p f ≠ 0) : GoodL p (polyMod f p) :=
  have h := polyMod_reduced f p (by exact_mod_cast hp)
  ⟨h.1, h.2.1, by rw [red_polyMod p hp]; exact hf⟩

theorem divideByXA_good (p : ℕ) (hp : 0 < p) (poly : List Int) (a : Int) (q : List Int) (hg : GoodL p poly)
    (h : divideByXA poly a p = .ok q) :
    GoodL p q ∧ red p poly = (X - C (a : ZMod p)) * red p q ∧ q.length < poly.length := by
  obtain ⟨d1, d2, d3, d4⟩ := divideByXA_red p hp poly a q h
  exact ⟨⟨d2, d3, fun e => hg.2.2 (by rw [d1, e, mul_zero])⟩, d1, d4⟩

/-- the list of values found by one stage: appended to `result`, all in [0, p), and accounting for the
difference of the root multisets of `P` (before) and `P'` (after) -/
def Stage (p : ℕ) [Fact p.Prime] (P P' : (ZMod p)[X]) (result result' : List Int) : Prop :=
  ∃ rs : List Int, result' = result ++ rs ∧ (∀ r ∈ rs, 0 ≤ r ∧ r < (p : Int)) ∧
    P.roots = Multiset.map (Int.cast : Int → ZMod p) (rs : Multiset Int) + P'.roots

theorem Stage.refl (p : ℕ) [Fact p.Prime] (P : (ZMod p)[X]) (result : List Int) : Stage p P P result result :=
  ⟨[], by simp, by simp, by simp⟩

theorem Stage.trans {p : ℕ} [Fact p.Prime] {P P' P'' : (ZMod p)[X]} {r r' r'' : List Int}
    (h1 : Stage p P P' r r') (h2 : Stage p P' P'' r' r'') : Stage p P P'' r r'' := by
  obtain ⟨rs1, e1, g1, m1⟩ := h1
  obtain ⟨rs2, e2, g2, m2⟩ := h2
  refine ⟨rs1 ++ rs2, by rw [e2, e1, List.append_assoc], ?_, ?_⟩
  · intro x hx
    rcases List.mem_append.mp hx with h | h
    · exact g1 x h
    · exact g2 x h
  · rw [m1, m2, ← Multiset.coe_add, Multiset.map_add, add_assoc]

/-- the deflation step; `k` is the rest of the round (the shape the `do` block of the model has) -/
def deflate {β : Type} (p : Int) (poly : Poly) (result : List Int) (a : Int) (k : Poly × List Int → M β) : M β :=
  if polyOfMod poly a p = 0 then do
    let q ← divideByXA poly a p
    k (q, result ++ [a])
  else k (poly, result)

theorem deflate_spec (p : ℕ) [Fact p.Prime] (poly result : List Int) (a : Int) (ha0 : 0 ≤ a) (ha1 : a < p)
    (hg : GoodL p poly) {β : Type} (k : Poly × List Int → M β) (r : β) (h : deflate p poly result a k = .ok r) :
    ∃ poly1 result1, k (poly1, result1) = .ok r ∧ GoodL p poly1 ∧
      Stage p (red p poly) (red p poly1) result result1 ∧ poly1.length ≤ poly.length ∧
      (poly1.length = poly.length → poly1 = poly ∧ (red p poly).eval (a : ZMod p) ≠ 0) := by
  have hp : 0 < p := (Fact.out : p.Prime).pos
  rw [deflate] at h
  by_cases hz : polyOfMod poly a p = 0
  · rw [if_pos hz] at h
    obtain ⟨q, hq, h⟩ := bind_ok h
    obtain ⟨hgq, d1, d4⟩ := divideByXA_good p hp poly a q hg hq
    refine ⟨q, result ++ [a], h, hgq, ⟨[a], rfl, ?_, ?_⟩, d4.le, fun e => absurd e d4.ne⟩
    · intro r hr
      rw [List.mem_singleton.mp hr]
      exact ⟨ha0, ha1⟩
    · rw [d1, roots_mul (d1 ▸ hg.2.2), roots_X_sub_C]
      rfl
  · rw [if_neg hz] at h
    exact ⟨poly, result, h, hg, Stage.refl _ _ _, le_rfl,
      fun _ => ⟨rfl, fun e => hz ((polyOfMod_eq_zero_iff p hp poly a).mpr e)⟩⟩

def adjust (p : Int) (x : Poly) : Poly := if coefAt x 0 ≥ p then sub x (fromRaw [p]) else x

theorem getD_add_int (a b : List Int) (j : Nat) : (add a b).getD j 0 = a.getD j 0 + b.getD j 0 := by
  rw [← coeff_toPoly, toPoly_add, coeff_add, coeff_toPoly, coeff_toPoly]

theorem getD_sub_int (a b : List Int) (j : Nat) : (sub a b).getD j 0 = a.getD j 0 - b.getD j 0 := by
  rw [← coeff_toPoly, toPoly_sub, coeff_sub, coeff_toPoly, coeff_toPoly]

theorem getD_singleton (c : Int) (j : Nat) : [c].getD j 0 = if j = 0 then c else 0 := by
  cases j <;> simp

/-- `x + c` followed by the conditional subtraction of p on the constant coefficient stays reduced and
canonical and is x + c in (ZMod p)[X]; `cl` is `[c]` written either as a literal or through `from_raw` -/
theorem adjust_add_spec (p : ℕ) (hp : 1 < p) (x cl : List Int) (c : Int) (hc0 : 0 ≤ c) (hc1 : c < p)
    (hcl : ∀ j, cl.getD j 0 = if j = 0 then c else 0) (hclc : Canon cl)
    (hrx : Reduced (p : Int) x) (hcx : Canon x) :
    Reduced (p : Int) (adjust p (add x cl)) ∧ Canon (adjust p (add x cl)) ∧
      red p (adjust p (add x cl)) = red p x + C (c : ZMod p) := by
  have hcan : Canon (add x cl) := canon_add x cl hcx hclc
  have hred : red p (add x cl) = red p x + C (c : ZMod p) := by
    rw [red_add]
    congr 1
    ext j
    rw [coeff_red, hcl, coeff_C]
    split <;> simp
  unfold adjust
  split
  · rename_i hge
    refine ⟨?_, canon_sub _ _ hcan (canon_fromRaw _), ?_⟩
    · intro j
      rw [getD_sub_int, getD_add_int, hcl, getD_fromRaw, getD_singleton]
      simp only [coefAt, getD_add_int, hcl, ↓reduceIte] at hge
      obtain ⟨h1, h2⟩ := hrx j
      by_cases hj : j = 0
      · subst hj; simp only [↓reduceIte]; omega
      · simp only [hj, ↓reduceIte]; omega
    · rw [red_sub, hred, red_fromRaw, red_cons, red_nil]
      simp
  · rename_i hge
    refine ⟨?_, hcan, hred⟩
    intro j
    rw [getD_add_int, hcl]
    simp only [coefAt, getD_add_int, hcl, ↓reduceIte] at hge
    obtain ⟨h1, h2⟩ := hrx j
    by_cases hj : j = 0
    · subst hj; simp only [↓reduceIte]; omega
    · simp only [hj, ↓reduceIte]; omega

/-- x − a as built by the routine: `from_raw([(-a).mod_floor(p), 1])` -/
theorem xa_spec (p : ℕ) (hp : 1 < p) (a : Int) :
    Reduced (p : Int) (fromRaw [Int.fmod (-a) p, 1]) ∧ Canon (fromRaw [Int.fmod (-a) p, 1]) ∧
      red p (fromRaw [Int.fmod (-a) p, 1]) = X - C (a : ZMod p) := by
  have hp0 : (0 : Int) < p := by omega
  refine ⟨reduced_fromRaw _ _ (reduced_of_mem _ hp0 _ ?_), canon_fromRaw _, ?_⟩
  · intro x hx
    simp only [List.mem_cons, List.not_mem_nil, or_false] at hx
    rcases hx with rfl | rfl
    · exact ⟨Int.fmod_nonneg_of_pos _ hp0, Int.fmod_lt_of_pos _ hp0⟩
    · omega
  · rw [red_fromRaw, red_cons, red_cons, red_nil, cast_fmod, Int.cast_neg, C_neg, Int.cast_one, C_1, mul_zero,
      add_zero, mul_one, neg_add_eq_sub]

/-- (x − a)^((p−1)/2) modulo `poly`, as `find_linear_factors_impl` computes it -/
def xapow (p a : Int) (poly : Poly) : Poly :=
  polyModpow (fromRaw [Int.fmod (-a) p, 1]) (Int.tdiv (p - 1) 2) poly p

theorem xapow_spec (p : ℕ) [Fact p.Prime] (a : Int) (poly : List Int) (hg : GoodL p poly) :
    red p poly ∣ red p (xapow p a poly) - (X - C (a : ZMod p)) ^ ((p - 1) / 2) ∧
    (Reduced (p : Int) (adjust p (add (xapow p a poly) [1])) ∧ Canon (adjust p (add (xapow p a poly) [1])) ∧
      red p (adjust p (add (xapow p a poly) [1])) = red p (xapow p a poly) + 1) ∧
    (Reduced (p : Int) (adjust p (add (xapow p a poly) (fromRaw [(p : Int) - 1]))) ∧
      Canon (adjust p (add (xapow p a poly) (fromRaw [(p : Int) - 1]))) ∧
      red p (adjust p (add (xapow p a poly) (fromRaw [(p : Int) - 1]))) = red p (xapow p a poly) - 1) := by
  have hpp : p.Prime := Fact.out
  have hp1 : 1 < p := hpp.one_lt
  obtain ⟨xr, xc, xe⟩ := xa_spec p hp1 a
  obtain ⟨wr, wc, we⟩ := polyModpow_red p hpp _ poly (Int.tdiv ((p : Int) - 1) 2) hg.1 hg.2.1 hg.ne_nil xr xc
  have hexp : (Int.tdiv ((p : Int) - 1) 2).toNat = (p - 1) / 2 := by
    rw [← Nat.cast_pred hpp.pos]; rfl
  rw [xe, hexp] at we
  obtain ⟨pr, pc, pe⟩ := adjust_add_spec p hp1 _ [1] 1 (by omega) (by omega) (getD_singleton 1)
    (by intro h; simp) wr wc
  obtain ⟨mr, mc, me⟩ := adjust_add_spec p hp1 _ (fromRaw [(p : Int) - 1]) ((p : Int) - 1) (by omega) (by omega)
    (fun j => by rw [getD_fromRaw]; exact getD_singleton _ j) (canon_fromRaw _) wr wc
  rw [Int.cast_one, C_1] at pe
  rw [Int.cast_sub, Int.cast_natCast, ZMod.natCast_self, zero_sub, Int.cast_one, C_neg, C_1,
    ← sub_eq_add_neg] at me
  exact ⟨we, ⟨pr, pc, pe⟩, mr, mc, me⟩

/-- a^((p−1)/2) = ±1 for a ≠ 0 in ZMod p (also for p = 2, where the exponent is 0) -/
theorem pow_half_dichotomy (p : ℕ) [Fact p.Prime] (a : ZMod p) (ha : a ≠ 0) :
    a ^ ((p - 1) / 2) = 1 ∨ a ^ ((p - 1) / 2) = -1 := by
  rcases Nat.Prime.eq_two_or_odd (Fact.out : p.Prime) with h2 | hodd
  · subst h2; left; simp
  · have : (p - 1) / 2 = p / 2 := by omega
    rw [this]
    exact ZMod.pow_div_two_eq_neg_one_or_one p ha

/-- "an unchanged polynomial has no linear factor": if the shift is not a root and both gcds are
constants, there is no root at all -/
theorem no_root_of_unchanged (p : ℕ) [Fact p.Prime] (P A : (ZMod p)[X]) (a : ZMod p)
    (hA : P ∣ A - (X - C a) ^ ((p - 1) / 2)) (ha : P.eval a ≠ 0)
    (h1 : ∀ d : (ZMod p)[X], d ∣ A + 1 → d ∣ P → d.natDegree = 0)
    (h2 : ∀ d : (ZMod p)[X], d ∣ A - 1 → d ∣ P → d.natDegree = 0) : P.roots = 0 := by
  apply Multiset.eq_zero_of_forall_notMem
  intro r hr
  have hroot : IsRoot P r := isRoot_of_mem_roots hr
  have hra : r - a ≠ 0 := sub_ne_zero.mpr (fun e => ha (e ▸ hroot))
  have hd : X - C r ∣ P := dvd_iff_isRoot.mpr hroot
  -- A(r) = (r − a)^((p−1)/2) = ±1, so X − r divides A − 1 or A + 1 as well as P
  have hev : A.eval r = (r - a) ^ ((p - 1) / 2) := by
    have := dvd_iff_isRoot.mp (hd.trans hA)
    rwa [IsRoot.def, eval_sub, eval_pow, eval_sub, eval_X, eval_C, sub_eq_zero] at this
  have hdeg : (X - C r).natDegree = 1 := natDegree_X_sub_C r
  rcases pow_half_dichotomy p (r - a) hra with h | h
  · have : X - C r ∣ A - 1 := by
      rw [dvd_iff_isRoot, IsRoot.def, eval_sub, eval_one, hev, h, sub_self]
    exact absurd (h2 _ this hd) (by omega)
  · have : X - C r ∣ A + 1 := by
      rw [dvd_iff_isRoot, IsRoot.def, eval_add, eval_one, hev, h, neg_add_cancel]
    exact absurd (h1 _ this hd) (by omega)

/-- one gcd split; `k` is the rest of the round -/
def splitAfter {β : Type} (p : Int) (rec : Poly → List Int → NTV.Draw.Stream → M (List Int × NTV.Draw.Stream))
    (gcd : Poly) (poly : Poly) (result : List Int) (s : NTV.Draw.Stream)
    (k : Poly × List Int × NTV.Draw.Stream → M β) : M β :=
  if degU gcd > 0 then do
    let (result, s) ← rec gcd result s
    k ((polyDivrem poly gcd p).1, result, s)
  else k (poly, result, s)

/-- what the recursive calls are assumed / shown to do -/
def RecSpec (p : ℕ) [Fact p.Prime] (rec : Poly → List Int → NTV.Draw.Stream → M (List Int × NTV.Draw.Stream)) : Prop :=
  ∀ (poly result : List Int) (s : NTV.Draw.Stream) (res : List Int) (s' : NTV.Draw.Stream), GoodL p poly →
    rec poly result s = .ok (res, s') → Stage p (red p poly) 1 result res

theorem degU_pos_iff (l : List Int) (h : l ≠ []) : degU l > 0 ↔ 2 ≤ l.length := by
  rw [degU_eq l h]
  omega

/-- a gcd of positive degree splits off exactly: the cofactor is good, shorter, and poly = cofactor · gcd -/
theorem split_quotient (p : ℕ) [Fact p.Prime] (x gcd poly : List Int) (hrx : Reduced (p : Int) x) (hcx : Canon x)
    (hg : GoodL p poly) (hgcd : polyGcd x poly p = .ok gcd) (hd : degU gcd > 0) :
    GoodL p gcd ∧ GoodL p (polyDivrem poly gcd p).1 ∧
      red p poly = red p (polyDivrem poly gcd p).1 * red p gcd ∧ (polyDivrem poly gcd p).1.length < poly.length := by
  have hpp : p.Prime := Fact.out
  obtain ⟨g1, g2, g3, -, g5, -⟩ := polyGcd_red p hpp x poly gcd hrx hg.1 hcx hg.2.1 hg.ne_nil hgcd
  have hgg : GoodL p gcd := good_of p gcd g2 g3 g1
  have hdeg := (degU_pos_iff gcd g1).mp hd
  obtain ⟨q1, q2, q3, -, -, q6, q7⟩ := polyDivrem_red p hpp poly gcd hg.1 g2 hg.2.1 g3 g1
  -- the division is exact: the remainder is a multiple of gcd of smaller degree
  have hrem : red p (polyDivrem poly gcd p).2 = 0 := by
    have hdvd : red p gcd ∣ red p (polyDivrem poly gcd p).2 := by
      rw [eq_sub_of_add_eq' q1.symm]
      exact dvd_sub g5 (dvd_mul_left _ _)
    apply eq_zero_of_dvd_of_degree_lt hdvd
    refine lt_of_lt_of_le (degree_red_lt p _) ?_
    rw [degree_eq_natDegree hgg.2.2, hgg.natDegree]
    have : (polyDivrem poly gcd p).2.length ≤ gcd.length - 1 := Nat.le_sub_one_of_lt q6
    exact_mod_cast this
  rw [hrem, add_zero] at q1
  have hpl := List.length_pos_of_ne_nil hg.ne_nil
  exact ⟨hgg, ⟨q2, q3, fun e => hg.2.2 (by rw [q1, e, zero_mul])⟩, q1, by omega⟩

theorem splitAfter_spec (p : ℕ) [Fact p.Prime]
    (rec : Poly → List Int → NTV.Draw.Stream → M (List Int × NTV.Draw.Stream)) (hrec : RecSpec p rec)
    (x gcd poly result : List Int) (s : NTV.Draw.Stream) (hrx : Reduced (p : Int) x) (hcx : Canon x)
    (hg : GoodL p poly) (hgcd : polyGcd x poly p = .ok gcd) {β : Type}
    (k : Poly × List Int × NTV.Draw.Stream → M β) (r : β) (h : splitAfter p rec gcd poly result s k = .ok r) :
    ∃ poly' result' s', k (poly', result', s') = .ok r ∧ GoodL p poly' ∧
      Stage p (red p poly) (red p poly') result result' ∧ poly'.length ≤ poly.length ∧
      (poly'.length = poly.length →
        poly' = poly ∧ ∀ d : (ZMod p)[X], d ∣ red p x → d ∣ red p poly → d.natDegree = 0) := by
  rw [splitAfter] at h
  by_cases hd : degU gcd > 0
  · rw [if_pos hd] at h
    obtain ⟨⟨res, s2⟩, hr, h⟩ := bind_ok h
    obtain ⟨hgg, hgq, q1, hlt⟩ := split_quotient p x gcd poly hrx hcx hg hgcd hd
    obtain ⟨rs, e1, e2, e3⟩ := hrec gcd result s res s2 hgg hr
    refine ⟨_, res, s2, h, hgq, ⟨rs, e1, e2, ?_⟩, hlt.le, fun e => absurd e hlt.ne⟩
    rw [q1, roots_mul (q1 ▸ hg.2.2), e3, roots_one, Multiset.empty_eq_zero, add_zero, add_comm]
  · rw [if_neg hd] at h
    have hpp : p.Prime := Fact.out
    obtain ⟨g1, g2, g3, -, -, g6⟩ := polyGcd_red p hpp x poly gcd hrx hg.1 hcx hg.2.1 hg.ne_nil hgcd
    have hgg : GoodL p gcd := good_of p gcd g2 g3 g1
    refine ⟨poly, result, s, h, hg, Stage.refl _ _ _, le_rfl, fun _ => ⟨rfl, fun d hd1 hd2 => ?_⟩⟩
    have := natDegree_le_of_dvd (g6 d hd1 hd2) hgg.2.2
    rw [hgg.natDegree] at this
    have := (degU_pos_iff gcd g1).not.mp hd
    omega

end NTV.PolyMod
