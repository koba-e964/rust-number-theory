import NTV.Proofs.Lemmas.PolyModZMod
/-! Specifications of the primitives of src/poly_mod/prim.rs in `(ZMod p)[X]` (p prime):
`poly_divrem` (total form), `poly_gcd` (a greatest common divisor), `poly_modpow`, `divide_by_x_a`,
`poly_of_mod`. -/
open Polynomial
namespace NTV.PolyMod
open NTV.PolyG NTV.Hensel

theorem polyDivrem_red (p : ℕ) (hp : p.Prime) (a b : List Int) (hra : Reduced (p : Int) a)
    (hrb : Reduced (p : Int) b) (hca : Canon a) (hcb : Canon b) (hb : b ≠ []) :
    red p a = red p (polyDivrem a b p).1 * red p b + red p (polyDivrem a b p).2 ∧
    Reduced (p : Int) (polyDivrem a b p).1 ∧ Canon (polyDivrem a b p).1 ∧
    Reduced (p : Int) (polyDivrem a b p).2 ∧ Canon (polyDivrem a b p).2 ∧
    (polyDivrem a b p).2.length < b.length ∧ (polyDivrem a b p).1.length ≤ a.length + 1 - b.length := by
  obtain ⟨c1, c2, c3, c4, c5, c6⟩ := polyDivrem_total a b p (by exact_mod_cast hp.pos)
    (fun hb => modinv_spec p hp _ (lc_coprime p hp b hb hcb hrb))
  rw [pcong_iff_map, Polynomial.map_add, Polynomial.map_mul] at c1
  exact ⟨c1, c4, c3, c6.elim (fun e => e.symm ▸ hra) (·.2), c6.elim (fun e => e.symm ▸ hca) (·.1), c2 hb, c5⟩

theorem polyGcdAux_run (p : ℕ) (hp : p.Prime) : ∀ (fuel : Nat) (a b : List Int),
    Reduced (p : Int) a → Reduced (p : Int) b → Canon a → Canon b → b ≠ [] → b.length < fuel →
    ∃ g, polyGcdAux (p : Int) fuel a b = .ok g ∧ g ≠ [] ∧ Reduced (p : Int) g ∧ Canon g ∧
      red p g ∣ red p a ∧ red p g ∣ red p b ∧ ∀ d : (ZMod p)[X], d ∣ red p a → d ∣ red p b → d ∣ red p g := by
  intro fuel
  induction fuel with
  | zero => intro a b _ _ _ _ _ h; omega
  | succ fuel ih =>
    intro a b hra hrb hca hcb hb hf
    rw [polyGcdAux_succ]
    obtain ⟨hrel, _, _, hrr, hcr, hlen, _⟩ := polyDivrem_red p hp a b hra hrb hca hcb hb
    by_cases hr0 : (polyDivrem a b (p : Int)).2 = []
    · rw [if_pos hr0]
      rw [hr0, red_nil, add_zero] at hrel
      exact ⟨b, rfl, hb, hrb, hcb, ⟨_, by rw [hrel, mul_comm]⟩, dvd_refl _, fun d _ h2 => h2⟩
    · rw [if_neg hr0]
      obtain ⟨g, hg, d1, d2, d3, d4, d5, d6⟩ := ih b _ hrb hrr hcb hcr hr0 (by omega)
      refine ⟨g, hg, d1, d2, d3, ?_, d4, fun d ha hbd => d6 d hbd ?_⟩
      · rw [hrel]; exact dvd_add (Dvd.dvd.mul_left d4 _) d5
      · rw [hrel] at ha
        exact (dvd_add_right (Dvd.dvd.mul_left hbd _)).mp ha

theorem polyGcd_red (p : ℕ) (hp : p.Prime) (a b g : List Int)
    (hra : Reduced (p : Int) a) (hrb : Reduced (p : Int) b) (hca : Canon a) (hcb : Canon b) (hb : b ≠ [])
    (h : polyGcd a b (p : Int) = .ok g) :
    g ≠ [] ∧ Reduced (p : Int) g ∧ Canon g ∧ red p g ∣ red p a ∧ red p g ∣ red p b ∧
      ∀ d : (ZMod p)[X], d ∣ red p a → d ∣ red p b → d ∣ red p g := by
  obtain ⟨g', hg', r⟩ := polyGcdAux_run p hp _ a b hra hrb hca hcb hb (by omega : b.length < a.length + b.length + 3)
  rw [polyGcd, hg'] at h
  cases h
  exact r

theorem mulRem_red (p : ℕ) (hp : p.Prime) (g : List Int) (hrg : Reduced (p : Int) g) (hcg : Canon g)
    (hg : g ≠ []) (x y : List Int) :
    Reduced (p : Int) (polyDivrem (polyMod (mul x y) p) g p).2 ∧ Canon (polyDivrem (polyMod (mul x y) p) g p).2 ∧
    red p g ∣ red p (polyDivrem (polyMod (mul x y) p) g p).2 - red p x * red p y := by
  have hm := polyMod_reduced (mul x y) p (by exact_mod_cast hp.pos)
  obtain ⟨h1, _, _, h4, h5, _, _⟩ := polyDivrem_red p hp (polyMod (mul x y) p) g hm.1 hrg hm.2.1 hcg hg
  rw [red_polyMod p hp.pos, red_mul] at h1
  exact ⟨h4, h5, -red p (polyDivrem (polyMod (mul x y) p) g p).1, by rw [h1]; ring⟩

theorem dvd_sub_mul_sq_pow {R : Type*} [CommRing R] {g r a b q c : R} (k : ℕ) (hr : g ∣ r - a * b ^ k)
    (ha : g ∣ a - q) (hb : g ∣ b - c * c) : g ∣ r - q * c ^ (2 * k) := by
  rw [pow_mul, sq, ← sub_add_sub_cancel r (a * b ^ k)]
  exact dvd_add hr (dvd_mul_sub_mul ha (hb.trans (sub_dvd_pow_sub_pow _ _ k)))

/-- `poly_modpow`: the loop keeps product·current^e modulo g -/
theorem polyModpowLoop_red (p : ℕ) (hp : p.Prime) (g : List Int) (hrg : Reduced (p : Int) g) (hcg : Canon g)
    (hg : g ≠ []) : ∀ (n : Nat) (e : Int) (product current : List Int), e.toNat = n →
    Reduced (p : Int) product → Canon product → Reduced (p : Int) current → Canon current →
    Reduced (p : Int) (polyModpowLoop g p e product current) ∧ Canon (polyModpowLoop g p e product current) ∧
    red p g ∣ red p (polyModpowLoop g p e product current) - red p product * red p current ^ n := by
  intro n
  induction n using Nat.strong_induction_on with
  | _ n ih =>
    intro e product current hn hrp hcp hrc hcc
    rw [polyModpowLoop]
    by_cases hpos : e > 0
    · rw [dif_pos hpos]
      obtain ⟨hlt, hn2⟩ := toNat_halve e hpos
      rw [hn] at hlt hn2
      obtain ⟨s4, s5, hs⟩ := mulRem_red p hp g hrg hcg hg current current
      rw [hn2]
      by_cases hodd : e % 2 = 1
      · rw [if_pos hodd, hodd, Int.toNat_one, pow_succ', ← mul_assoc]
        obtain ⟨m4, m5, hm⟩ := mulRem_red p hp g hrg hcg hg product current
        obtain ⟨r1, r2, r3⟩ := ih _ hlt (e / 2) _ _ rfl m4 m5 s4 s5
        exact ⟨r1, r2, dvd_sub_mul_sq_pow _ r3 hm hs⟩
      · rw [if_neg hodd, (Int.emod_two_eq_zero_or_one e).resolve_right hodd, Int.toNat_zero, add_zero]
        obtain ⟨r1, r2, r3⟩ := ih _ hlt (e / 2) _ _ rfl hrp hcp s4 s5
        exact ⟨r1, r2, dvd_sub_mul_sq_pow _ r3 (sub_self (red p product) ▸ dvd_zero _) hs⟩
    · rw [dif_neg hpos, ← hn, Int.toNat_of_nonpos (not_lt.mp hpos), pow_zero, mul_one, sub_self]
      exact ⟨hrp, hcp, dvd_zero _⟩

theorem polyModpow_red (p : ℕ) (hp : p.Prime) (x g : List Int) (e : Int) (hrg : Reduced (p : Int) g) (hcg : Canon g)
    (hg : g ≠ []) (hrx : Reduced (p : Int) x) (hcx : Canon x) :
    Reduced (p : Int) (polyModpow x e g p) ∧ Canon (polyModpow x e g p) ∧
    red p g ∣ red p (polyModpow x e g p) - red p x ^ e.toNat := by
  have hp1 : (1 : Int) < p := by exact_mod_cast hp.one_lt
  have h1r : Reduced (p : Int) [1] := by
    apply reduced_of_mem _ (by omega)
    intro x hx; simp at hx; omega
  have h1c : Canon ([1] : List Int) := by intro h; simp
  have := polyModpowLoop_red p hp g hrg hcg hg e.toNat e [1] x rfl h1r h1c hrx hcx
  unfold polyModpow
  refine ⟨this.1, this.2.1, ?_⟩
  have h3 := this.2.2
  have e1 : red p [1] = 1 := by simp [red_cons, red_nil]
  rw [e1, one_mul] at h3
  exact h3

theorem eval_red (p : ℕ) (f : List Int) (a : Int) :
    (red p f).eval (a : ZMod p) = ((NTV.PolyG.eval f a : Int) : ZMod p) := by
  have : (a : ZMod p) = Int.castRingHom (ZMod p) a := by simp
  rw [this, red, eval_map, eval₂_at_apply, eval_eq]
  simp

theorem polyOfMod_eq_zero_iff (p : ℕ) (hp : 0 < p) (f : List Int) (a : Int) :
    polyOfMod f a p = 0 ↔ (red p f).eval (a : ZMod p) = 0 := by
  rw [eval_red, ZMod.intCast_zmod_eq_zero_iff_dvd]
  have hm := polyOfMod_modEq f a p
  constructor
  · intro h
    rw [h] at hm
    exact Int.modEq_zero_iff_dvd.mp hm.symm
  · intro h
    have hd : (p : Int) ∣ polyOfMod f a p := Int.modEq_zero_iff_dvd.mp (hm.trans (Int.modEq_zero_iff_dvd.mpr h))
    cases f with
    | nil => simp [polyOfMod]
    | cons c cs =>
      simp only [polyOfMod, List.foldr_cons] at hd ⊢
      apply Int.eq_zero_of_dvd_of_natAbs_lt_natAbs hd
      rw [Int.natAbs_tmod]
      exact Nat.mod_lt _ (by simpa using hp)

/-- invariant of the synthetic-division loop of `divide_by_x_a` -/
theorem divXALoop_red (p : ℕ) (a : Int) : ∀ (cs : List Int) (carry : Int) (acc : List Int),
    C (carry : ZMod p) * X ^ cs.length + X * red p cs.reverse + (X - C (a : ZMod p)) * X ^ cs.length * red p acc
      = (X - C (a : ZMod p)) * red p (divXALoop a p cs carry acc).2 + C ((divXALoop a p cs carry acc).1 : ZMod p) := by
  intro cs
  induction cs with
  | nil =>
    intro carry acc
    simp only [divXALoop, List.length_nil, pow_zero, mul_one, List.reverse_nil, red_nil, mul_zero, add_zero]
    exact add_comm _ _
  | cons c cs ih =>
    intro carry acc
    simp only [divXALoop]
    rw [← ih]
    simp only [List.reverse_cons, red_append, red_cons, red_nil, List.length_cons, List.length_reverse,
      Int.cast_mul, cast_fmod, Int.cast_add, C_add, C_mul]
    ring

theorem divXALoop_mem (p : Int) (hp : 0 < p) (a : Int) : ∀ (cs : List Int) (carry : Int) (acc : List Int),
    (∀ x ∈ acc, 0 ≤ x ∧ x < p) →
    (∀ x ∈ (divXALoop a p cs carry acc).2, 0 ≤ x ∧ x < p) ∧
      (divXALoop a p cs carry acc).2.length = cs.length + acc.length := by
  intro cs
  induction cs with
  | nil => intro carry acc h; simp only [divXALoop]; exact ⟨h, by simp⟩
  | cons c cs ih =>
    intro carry acc h
    simp only [divXALoop]
    have := ih (Int.fmod (carry + c) p * a) (Int.fmod (carry + c) p :: acc)
      (List.forall_mem_cons.mpr ⟨⟨Int.fmod_nonneg_of_pos _ hp, Int.fmod_lt_of_pos _ hp⟩, h⟩)
    refine ⟨this.1, ?_⟩
    rw [this.2]; simp; omega

theorem divideByXA_red (p : ℕ) (hp : 0 < p) (poly : List Int) (a : Int) (q : List Int)
    (h : divideByXA poly a p = .ok q) :
    red p poly = (X - C (a : ZMod p)) * red p q ∧ Reduced (p : Int) q ∧ Canon q ∧ q.length < poly.length := by
  have hp0 : (0 : Int) < p := by exact_mod_cast hp
  cases poly with
  | nil => simp [divideByXA] at h
  | cons c0 rest =>
    simp only [divideByXA] at h
    split at h
    · simp at h
    · rename_i hz
      simp only [ne_eq, Decidable.not_not] at hz
      simp only [Except.ok.injEq] at h
      subst h
      have hinv := divXALoop_red p a rest.reverse 0 []
      have hmem := divXALoop_mem p hp0 a rest.reverse 0 [] (by intro x hx; simp at hx)
      simp only [List.reverse_reverse, List.length_reverse, red_nil, mul_zero, add_zero, Int.cast_zero,
        C_0, zero_mul, zero_add, List.length_nil] at hinv hmem
      refine ⟨?_, reduced_fromRaw _ _ (reduced_of_mem _ hp0 _ hmem.1), canon_fromRaw _, ?_⟩
      · have hc : C (((divXALoop a p rest.reverse 0 []).1 : Int) : ZMod p) + C (c0 : ZMod p) = 0 := by
          rw [← C_add, ← Int.cast_add, ← cast_fmod, hz, Int.cast_zero, C_0]
        rw [red_cons, red_fromRaw, hinv, add_comm (_ * _), ← add_assoc, add_comm (C _), hc, zero_add]
      · have := length_fromRaw_le_lengthL (divXALoop a p rest.reverse 0 []).2
        rw [hmem.2] at this
        simp only [List.length_cons]; omega

/-- `divide_by_x_a(poly, a, p)` neither overflows nor trips its `debug_assert!` when `poly` is non-zero and
`a` is a root modulo p -/
theorem divideByXA_ok (p : ℕ) (hp : 0 < p) (poly : List Int) (a : Int) (hne : poly ≠ [])
    (hroot : (red p poly).eval (a : ZMod p) = 0) : ∃ q, divideByXA poly a p = .ok q := by
  cases poly with
  | nil => exact absurd rfl hne
  | cons c0 rest =>
    simp only [divideByXA]
    have hinv := divXALoop_red p a rest.reverse 0 []
    simp only [List.reverse_reverse, List.length_reverse, red_nil, mul_zero, add_zero, Int.cast_zero,
      C_0, zero_mul, zero_add] at hinv
    have hev := congrArg (Polynomial.eval (a : ZMod p)) hinv
    simp only [eval_mul, eval_X, eval_add, eval_sub, eval_C, sub_self, zero_mul, zero_add] at hev
    rw [red_cons] at hroot
    simp only [eval_add, eval_C, eval_mul, eval_X] at hroot
    rw [hev] at hroot
    have hz : Int.fmod ((divXALoop a p rest.reverse 0 []).1 + c0) p = 0 := by
      have hd : (p : Int) ∣ (divXALoop a p rest.reverse 0 []).1 + c0 := by
        rw [← ZMod.intCast_zmod_eq_zero_iff_dvd]
        push_cast
        rw [add_comm]; exact hroot
      obtain ⟨k, hk⟩ := hd
      rw [hk, Int.fmod_eq_emod_of_nonneg _ (by omega)]
      exact Int.mul_emod_right _ _
    rw [if_neg (by simpa using hz)]
    exact ⟨_, rfl⟩

end NTV.PolyMod
