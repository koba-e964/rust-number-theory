import NTV.Proofs.Lemmas.HenselBridge
import Mathlib.Algebra.Polynomial.Roots
import Mathlib.Algebra.Polynomial.FieldDivision
import Mathlib.Data.ZMod.Basic
/-! Bridge from the list model of polynomials modulo p (`Reduced`, `Canon`, `PCong`, `DvdP`) to
Mathlib's `(ZMod p)[X]`: `red p l` is the image of the coefficient list `l` in `(ZMod p)[X]`. -/
open Polynomial
namespace NTV.PolyMod
open NTV.PolyG NTV.Hensel

noncomputable def red (p : ℕ) (l : List Int) : (ZMod p)[X] := (toPoly l).map (Int.castRingHom (ZMod p))

theorem dvdP_map (p : ℕ) (g f : ℤ[X]) :
    DvdP (p : ℤ) g f ↔ g.map (Int.castRingHom (ZMod p)) ∣ f.map (Int.castRingHom (ZMod p)) := by
  constructor
  · rintro ⟨k, hk⟩
    rw [pcong_iff_map] at hk
    rw [hk, Polynomial.map_mul]
    exact Dvd.intro_left _ rfl
  · rintro ⟨k, hk⟩
    obtain ⟨k', rfl⟩ := Polynomial.map_surjective (Int.castRingHom (ZMod p)) (ZMod.intCast_surjective) k
    refine ⟨k', ?_⟩
    rw [pcong_iff_map, hk, Polynomial.map_mul, mul_comm]

theorem red_nil (p : ℕ) : red p [] = 0 := by simp [red, toPoly]

theorem red_cons (p : ℕ) (c : Int) (cs : List Int) : red p (c :: cs) = C (c : ZMod p) + X * red p cs := by
  simp [red, toPoly]

theorem coeff_red (p : ℕ) (l : List Int) (j : Nat) : (red p l).coeff j = ((l.getD j 0 : Int) : ZMod p) := by
  simp [red, coeff_toPoly]

theorem red_fromRaw (p : ℕ) (l : List Int) : red p (fromRaw l) = red p l := by
  simp [red, toPoly_fromRaw]

theorem red_add (p : ℕ) (a b : List Int) : red p (add a b) = red p a + red p b := by
  simp [red, toPoly_add]

theorem red_sub (p : ℕ) (a b : List Int) : red p (sub a b) = red p a - red p b := by
  simp [red, toPoly_sub]

theorem red_mul (p : ℕ) (a b : List Int) : red p (mul a b) = red p a * red p b := by
  simp [red, toPoly_mul]

theorem red_polyMod (p : ℕ) (hp : 0 < p) (f : List Int) : red p (polyMod f p) = red p f := by
  have := (polyMod_reduced f p (by exact_mod_cast hp)).2.2
  rw [pcong_iff_map] at this
  exact this

theorem toPoly_append (l m : List Int) : toPoly (l ++ m) = toPoly l + X ^ l.length * toPoly m := by
  induction l with
  | nil => simp [toPoly]
  | cons x xs ih => simp only [List.cons_append, toPoly, ih, List.length_cons]; ring

theorem red_append (p : ℕ) (l m : List Int) : red p (l ++ m) = red p l + X ^ l.length * red p m := by
  simp [red, toPoly_append]

theorem cast_fmod (p : ℕ) (x : Int) : ((Int.fmod x p : Int) : ZMod p) = (x : ZMod p) :=
  (ZMod.intCast_eq_intCast_iff _ _ _).mpr (fmod_modEq x p)

theorem cast_ne_zero_of_range (p : ℕ) (c : Int) (h0 : 0 < c) (h1 : c < p) : (c : ZMod p) ≠ 0 := by
  rw [Ne, ZMod.intCast_zmod_eq_zero_iff_dvd]
  intro hd
  have := Int.le_of_dvd h0 hd
  omega

theorem cast_inj_of_range (p : ℕ) (c d : Int) (hc0 : 0 ≤ c) (hc1 : c < p) (hd0 : 0 ≤ d) (hd1 : d < p)
    (h : (c : ZMod p) = (d : ZMod p)) : c = d := by
  rw [ZMod.intCast_eq_intCast_iff] at h
  have := Int.ModEq.eq h
  rw [Int.emod_eq_of_lt hc0 hc1, Int.emod_eq_of_lt hd0 hd1] at this
  exact this

theorem natDegree_red_le (p : ℕ) (l : List Int) : (red p l).natDegree ≤ l.length - 1 := by
  rw [natDegree_le_iff_coeff_eq_zero]
  intro N hN
  rw [coeff_red, getD_of_length_le l N (by omega)]
  simp

theorem degree_red_lt (p : ℕ) (l : List Int) : (red p l).degree < l.length := by
  rw [degree_lt_iff_coeff_zero]
  intro N hN
  rw [coeff_red, getD_of_length_le l N (by exact_mod_cast hN)]
  simp

theorem red_spec (p : ℕ) (l : List Int) (hne : l ≠ []) (hr : Reduced (p : Int) l) (hc : Canon l) :
    red p l ≠ 0 ∧ (red p l).natDegree = l.length - 1 := by
  have h0 := lc_ne_zero l hne hc
  have hl := lc_eq_getD l hne
  obtain ⟨h1, h2⟩ := hr (l.length - 1)
  rw [hl] at h1 h2
  have hcoef : (red p l).coeff (l.length - 1) ≠ 0 := by
    rw [coeff_red, hl]
    exact cast_ne_zero_of_range p _ (lt_of_le_of_ne h1 (Ne.symm h0)) h2
  refine ⟨fun e => by rw [e] at hcoef; simp at hcoef, ?_⟩
  exact le_antisymm (natDegree_red_le p l) (le_natDegree_of_ne_zero hcoef)

theorem red_eq_zero_iff (p : ℕ) (l : List Int) (hr : Reduced (p : Int) l) (hc : Canon l) :
    red p l = 0 ↔ l = [] := by
  constructor
  · intro h
    by_contra hne
    exact (red_spec p l hne hr hc).1 h
  · intro h; rw [h, red_nil]

end NTV.PolyMod
