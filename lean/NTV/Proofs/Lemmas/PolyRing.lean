import NTV.Model.Polynomial
import NTV.Proofs.Lemmas.ResRatProofs
import Mathlib.Algebra.Polynomial.Derivative
import Mathlib.Algebra.Polynomial.Eval.Defs
/-! `add`, `sub`, `mul`, `neg`, `eval`, `differential` on canonical lists are the ring operations, evaluation and
derivative of `R[X]`; `toPoly` is injective on canonical lists. -/
open Polynomial
namespace NTV.PolyG
section
variable {R : Type} [CommRing R] [DecidableEq R]

theorem canon_nil : Canon ([] : List R) := fun h => absurd rfl h

theorem toPoly_neg (a : List R) : toPoly (neg a) = - toPoly a := by
  rw [neg, toPoly_map_of_mul (-1) _ a fun x _ => (neg_one_mul x).symm, C_neg, C_1, neg_one_mul]

theorem isEmpty_toPoly {a : List R} (h : a.isEmpty = true) : toPoly a = 0 := by
  rw [List.isEmpty_iff.mp h]; rfl

theorem toPoly_add (a b : List R) : toPoly (add a b) = toPoly a + toPoly b := by
  unfold add
  split
  · rename_i h; simp [isEmpty_toPoly h]
  · split
    · rename_i h; simp [isEmpty_toPoly h]
    · rw [toPoly_fromRaw, toPoly_addRaw]

theorem toPoly_sub (a b : List R) : toPoly (sub a b) = toPoly a - toPoly b := by
  unfold sub
  split
  · rename_i h; simp [isEmpty_toPoly h, toPoly_neg]
  · split
    · rename_i h; simp [isEmpty_toPoly h]
    · rw [toPoly_fromRaw, toPoly_subRaw]

theorem toPoly_mul (a b : List R) : toPoly (mul a b) = toPoly a * toPoly b := by
  unfold mul
  split
  · rename_i h
    simp only [Bool.or_eq_true] at h
    rcases h with h | h <;> simp [isEmpty_toPoly h, toPoly]
  · rw [toPoly_fromRaw, toPoly_mulRaw]

theorem canon_neg [NoZeroDivisors R] (a : List R) (ha : Canon a) : Canon (neg a) := by
  intro h
  have hne : a ≠ [] := by intro e; apply h; simp [neg, e]
  have : (neg a).getLast h = -(a.getLast hne) := by
    simp only [neg]; rw [List.getLast_map]
  rw [this]; simpa using ha hne

theorem canon_add (a b : List R) (ha : Canon a) (hb : Canon b) : Canon (add a b) := by
  unfold add; split
  · exact hb
  · split
    · exact ha
    · exact canon_fromRaw _

theorem canon_sub [NoZeroDivisors R] (a b : List R) (ha : Canon a) (hb : Canon b) : Canon (sub a b) := by
  unfold sub; split
  · exact canon_neg b hb
  · split
    · exact ha
    · exact canon_fromRaw _

theorem canon_mul (a b : List R) : Canon (mul a b) := by
  unfold mul; split
  · exact canon_nil
  · exact canon_fromRaw _

theorem toPoly_inj (a b : List R) (ha : Canon a) (hb : Canon b) (h : toPoly a = toPoly b) : a = b := by
  have hcoef : ∀ i, a.getD i 0 = b.getD i 0 := by
    intro i; rw [← coeff_toPoly, ← coeff_toPoly, h]
  have hlen : a.length = b.length := by
    by_cases hae : a = []
    · by_cases hbe : b = []
      · rw [hae, hbe]
      · exfalso
        have := (natDegree_toPoly b hbe hb).2.2
        rw [← h, hae] at this; exact this rfl
    · by_cases hbe : b = []
      · exfalso
        have := (natDegree_toPoly a hae ha).2.2
        rw [h, hbe] at this; exact this rfl
      · have h1 := (natDegree_toPoly a hae ha).1
        have h2 := (natDegree_toPoly b hbe hb).1
        rw [h] at h1
        have p1 : 0 < a.length := List.length_pos_of_ne_nil hae
        have p2 : 0 < b.length := List.length_pos_of_ne_nil hbe
        omega
  apply List.ext_getElem hlen
  intro i h1 h2
  have := hcoef i
  simp only [List.getD_eq_getElem?_getD, List.getElem?_eq_getElem h1, List.getElem?_eq_getElem h2,
    Option.getD_some] at this
  exact this

theorem eval_eq (a : List R) (x : R) : eval a x = (toPoly a).eval x := by
  induction a with
  | nil => simp [eval, toPoly]
  | cons c cs ih =>
    simp only [eval, List.foldr_cons, toPoly] at ih ⊢
    rw [ih]; simp; ring

end

theorem toPoly_derivAux (i : Nat) (cs : List Int) :
    toPoly (derivAux i cs) = C (i : Int) * toPoly cs + X * derivative (toPoly cs) := by
  induction cs generalizing i with
  | nil => simp [derivAux, toPoly]
  | cons c cs ih =>
    simp only [derivAux, toPoly, ih]
    simp only [derivative_add, derivative_C, derivative_mul, derivative_X, C_mul, Nat.cast_add, Nat.cast_one,
      C_add, C_1]
    ring

theorem toPoly_differential (a : List Int) : toPoly (differential a) = derivative (toPoly a) := by
  cases a with
  | nil => simp [differential, toPoly]
  | cons c cs =>
    simp only [differential, toPoly_fromRaw, toPoly_derivAux, toPoly]
    simp only [derivative_add, derivative_C, derivative_mul, derivative_X, Nat.cast_one, C_1]
    ring

theorem canon_differential (a : List Int) : Canon (differential a) := by
  cases a with
  | nil => exact canon_nil
  | cons c cs => exact canon_fromRaw _

end NTV.PolyG
