import NTV.Model.PolyZ
import NTV.Proofs.C09
import NTV.Proofs.Lemmas.GcdDvd
import NTV.Proofs.Lemmas.PolyModBasics
/-! Structure of `NTV.PolyZ.factorize` (model of src/poly_z/mod.rs), part 1: the loops (multiplicities, the subset
enumeration `subsetLoop_run`, `combine`) and the inversion of a run of `get_factors_of_squarefree`.
Everything here holds for every input, every draw stream and whatever the modular stage (factorisation
modulo p, Hensel lifting) returns: only the exact trial divisions are used. -/
open Polynomial
namespace NTV.PolyZ
open NTV.PolyG NTV.PolyMod

theorem bind_eq_error {α β : Type} {x : M α} {f : α → M β} {e : String} (h : x >>= f = .error e) :
    x = .error e ∨ ∃ a, x = .ok a ∧ f a = .error e := by
  cases x with
  | error e' => cases h; exact Or.inl rfl
  | ok a => exact Or.inr ⟨a, rfl, h⟩

theorem divExactExpect_ok {a b q : List Int} : divExactExpect a b = .ok q ↔ divExact a b = some q := by
  unfold divExactExpect
  cases divExact a b with
  | none => exact ⟨fun h => (by cases h), fun h => (by cases h)⟩
  | some q' => exact ⟨fun h => (by cases h; rfl), fun h => (by cases h; rfl)⟩

theorem exists_list (p : ℤ[X]) : ∃ l : List Int, toPoly l = p := by
  refine ⟨(List.range (p.natDegree + 1)).map p.coeff, ?_⟩
  ext n
  rw [coeff_toPoly]
  by_cases hn : n < p.natDegree + 1
  · simp [List.getD_eq_getElem?_getD, hn]
  · rw [getD_of_length_le _ _ (by simp; omega)]
    exact (coeff_eq_zero_of_natDegree_lt (by omega)).symm

theorem toPoly_ne_zero {a : List Int} (ha : a ≠ []) (hca : Canon a) : toPoly a ≠ 0 :=
  (natDegree_toPoly a ha hca).2.2

theorem quot_ne_nil {a q b : List Int} (ha : a ≠ []) (hca : Canon a) (h : toPoly a = toPoly q * toPoly b) :
    q ≠ [] := by
  rintro rfl
  simp only [toPoly, zero_mul] at h
  exact toPoly_ne_zero ha hca h

theorem not_dvd_of_divExact_none {a f : List Int} (ha : a ≠ []) (hca : Canon a) (hf : f ≠ []) (hcf : Canon f)
    (h : divExact a f = none) : ¬ toPoly f ∣ toPoly a := by
  rintro ⟨q, hq⟩
  obtain ⟨q', hq'⟩ := exists_list q
  obtain ⟨q'', h''⟩ := divExact_complete a f q' ha hf hca hcf (by rw [hq', hq]; ring)
  rw [h] at h''; cases h''

theorem lc_mul_of_toPoly {a q b : List Int} (ha : a ≠ []) (hca : Canon a) (hq : q ≠ []) (hcq : Canon q)
    (hb : b ≠ []) (hcb : Canon b) (h : toPoly a = toPoly q * toPoly b) : lc a = lc q * lc b := by
  rw [← (natDegree_toPoly a ha hca).2.1, ← (natDegree_toPoly q hq hcq).2.1, ← (natDegree_toPoly b hb hcb).2.1, h,
    leadingCoeff_mul]

/-- `while let Some(quo) = div_exact(&a, &factor)`: the loop divides `e - e0` times exactly and stops on
a cofactor that `div_exact` refuses -/
theorem multiplicity_spec (f : List Int) : ∀ (fuel : Nat) (a : List Int) (e0 : Nat) (a' : List Int) (e : Nat),
    a ≠ [] → Canon a → multiplicity f fuel a e0 = .ok (a', e) →
    e0 ≤ e ∧ toPoly a = toPoly a' * toPoly f ^ (e - e0) ∧ a' ≠ [] ∧ Canon a' ∧ divExact a' f = none := by
  intro fuel
  induction fuel with
  | zero => intro a e0 a' e _ _ h; simp [multiplicity, throw, throwThe, MonadExceptOf.throw] at h
  | succ fuel ih =>
    intro a e0 a' e ha hca h
    simp only [multiplicity] at h
    cases hd : divExact a f with
    | none =>
      rw [hd] at h
      simp only [pure, Except.pure, Except.ok.injEq, Prod.mk.injEq] at h
      obtain ⟨rfl, rfl⟩ := h
      exact ⟨le_refl _, by simp, ha, hca, hd⟩
    | some q =>
      rw [hd] at h
      obtain ⟨_, hq, hcq⟩ := divExact_sound a f q hd
      obtain ⟨h1, h2, h3, h4, h5⟩ := ih q (e0 + 1) a' e (quot_ne_nil ha hca hq) hcq h
      refine ⟨by omega, ?_, h3, h4, h5⟩
      rw [hq, h2, show e - e0 = (e - (e0 + 1)) + 1 by omega, pow_succ]; ring

/-- value of one output entry: f^e -/
noncomputable def pw (fe : List Int × Nat) : ℤ[X] := toPoly fe.1 ^ fe.2

/-- the `for factor in factors` loop: the output lists the given factors in order, the input is the last
cofactor `r` times the product of the powers, and each exponent is maximal for the cofactor the loop
had reached: the factor does not divide what was left after it -/
theorem multiplicities_spec : ∀ (fs : List (List Int)) (a : List Int) (res out : List (List Int × Nat)),
    a ≠ [] → Canon a → multiplicities fs a res = .ok out →
    ∃ (new : List (List Int × Nat)) (r : List Int), out = res ++ new ∧ new.map Prod.fst = fs ∧ r ≠ [] ∧ Canon r ∧
      toPoly a = toPoly r * (new.map pw).prod ∧
      ∀ l1 f e l2, new = l1 ++ (f, e) :: l2 → f ≠ [] → Canon f → ¬ toPoly f ∣ toPoly r * (l2.map pw).prod := by
  intro fs
  induction fs with
  | nil =>
    intro a res out ha hca h
    simp only [multiplicities, pure, Except.pure, Except.ok.injEq] at h
    subst h
    refine ⟨[], a, by simp, rfl, ha, hca, by simp, ?_⟩
    intro l1 f e l2 h; simp at h
  | cons f rest ih =>
    intro a res out ha hca h
    rw [multiplicities] at h
    obtain ⟨⟨a1, e⟩, hv, h⟩ := bind_ok h
    obtain ⟨_, h2, h3, h4, h5⟩ := multiplicity_spec f _ a 0 a1 e ha hca hv
    obtain ⟨new, r, hout, hmap, hr, hcr, hprod, hmax⟩ := ih a1 _ out h3 h4 h
    refine ⟨(f, e) :: new, r, by rw [hout]; simp, by simp [hmap], hr, hcr, ?_, ?_⟩
    · rw [h2, hprod]; simp only [List.map_cons, List.prod_cons, pw, Nat.sub_zero]; ring
    · intro l1 f' e' l2 hsplit hf' hcf'
      cases l1 with
      | nil =>
        simp only [List.nil_append, List.cons.injEq, Prod.mk.injEq] at hsplit
        obtain ⟨⟨rfl, rfl⟩, rfl⟩ := hsplit
        rw [← hprod]
        exact not_dvd_of_divExact_none h3 h4 hf' hcf' h5
      | cons x l1 =>
        simp only [List.cons_append, List.cons.injEq] at hsplit
        exact hmax l1 f' e' l2 hsplit.2 hf' hcf'

/-- `prod = poly_mod(&(&prod + &bias), &pe) - bias` with `bias = [pe2; deg prod + 1]`: a name for this sub-expression
of the model's `subsetLoop` -/
def symres (pe pe2 : Int) (prod : Poly) : Poly :=
  sub (polyMod (add prod (fromRaw (List.replicate (degU prod + 1) pe2))) pe)
    (fromRaw (List.replicate (degU prod + 1) pe2))

theorem canon_symres (pe pe2 : Int) (prod : Poly) : Canon (symres pe pe2 prod) :=
  canon_sub _ _ (canon_fromRaw _) (canon_fromRaw _)

/-- the candidate tested for the mask `bits` (the symmetric residue of the subset product, as in `subsetLoop`) -/
def cand (pe pe2 : Int) (lca : Int) (lifted : List Poly) (bits : Nat) : Poly :=
  symres pe pe2 (subsetProd pe lifted bits (fromRaw [lca]))

/-- one round of `subsetLoop`: the mask `b` is passed over (wrong number of bits, or its candidate does not divide
`lc(a)·a`), or the loop stops at it (zero product: the `prod.deg() + 1` overflow; or the candidate divides) -/
theorem subsetLoop_succ (pe pe2 : Int) (a : List Int) (lca : Int) (lifted : List Poly) (d left b : Nat) :
    ((countOnes 64 b ≠ d ∨ (subsetProd pe lifted b (fromRaw [lca]) ≠ [] ∧
          divExact (polyMul a lca) (cand pe pe2 lca lifted b) = none)) ∧
      subsetLoop pe pe2 a lca lifted d (left + 1) b = subsetLoop pe pe2 a lca lifted d left (b + 1)) ∨
    (countOnes 64 b = d ∧
      ((subsetProd pe lifted b (fromRaw [lca]) = [] ∧
          subsetLoop pe pe2 a lca lifted d (left + 1) b = .error "panic overflow") ∨
        ∃ q, divExact (polyMul a lca) (cand pe pe2 lca lifted b) = some q ∧
          subsetLoop pe pe2 a lca lifted d (left + 1) b =
            (divExactExpect a (contPP (cand pe pe2 lca lifted b)).2 >>= fun a' =>
              pure (some ((contPP (cand pe pe2 lca lifted b)).2, a', removeBits lifted b))))) := by
  generalize hr : subsetLoop pe pe2 a lca lifted d (left + 1) b = r
  simp only [subsetLoop] at hr
  split at hr
  · rename_i hc
    exact Or.inl ⟨Or.inl hc, hr.symm⟩
  · rename_i hc
    refine (?_ : _ ∨ _).imp_right (And.intro (not_not.mp hc))
    split at hr
    · rename_i he
      exact Or.inr (Or.inl ⟨List.isEmpty_iff.mp he, hr.symm⟩)
    · rename_i he
      split at hr
      · rename_i hq
        exact Or.inl ⟨Or.inr ⟨fun h0 => he (List.isEmpty_iff.mpr h0), hq⟩, hr.symm⟩
      · rename_i q hq
        exact Or.inr (Or.inr ⟨q, hq, hr.symm⟩)

/-- the outcome of the enumeration of the masks `b ≤ bits < b + left`: every mask with `d` bits set was passed
over, or the loop stopped at the first one that is not -/
theorem subsetLoop_run (pe pe2 : Int) (a : List Int) (lca : Int) (lifted : List Poly) (d : Nat) :
    ∀ (left b : Nat),
    (subsetLoop pe pe2 a lca lifted d left b = .ok none ∧
      ∀ bits, b ≤ bits → bits < b + left → countOnes 64 bits = d →
        subsetProd pe lifted bits (fromRaw [lca]) ≠ [] ∧
        divExact (polyMul a lca) (cand pe pe2 lca lifted bits) = none) ∨
    ∃ bits, b ≤ bits ∧ bits < b + left ∧ countOnes 64 bits = d ∧
      ((subsetProd pe lifted bits (fromRaw [lca]) = [] ∧
          subsetLoop pe pe2 a lca lifted d left b = .error "panic overflow") ∨
        ∃ q, divExact (polyMul a lca) (cand pe pe2 lca lifted bits) = some q ∧
          subsetLoop pe pe2 a lca lifted d left b =
            (divExactExpect a (contPP (cand pe pe2 lca lifted bits)).2 >>= fun a' =>
              pure (some ((contPP (cand pe pe2 lca lifted bits)).2, a', removeBits lifted bits)))) := by
  intro left
  induction left with
  | zero => exact fun b => Or.inl ⟨rfl, fun bits h1 h2 => by omega⟩
  | succ left ih =>
    intro b
    rcases subsetLoop_succ pe pe2 a lca lifted d left b with ⟨hb, he⟩ | ⟨hc, h⟩
    · rw [he]
      rcases ih (b + 1) with ⟨h1, h2⟩ | ⟨bits, h1, h2, h3⟩
      · refine Or.inl ⟨h1, fun bits g1 g2 g3 => ?_⟩
        rcases Nat.eq_or_lt_of_le g1 with rfl | g1
        · exact hb.resolve_left (not_not.mpr g3)
        · exact h2 bits g1 (by omega) g3
      · exact Or.inr ⟨bits, by omega, by omega, h3⟩
    · exact Or.inr ⟨b, le_refl _, by omega, hc, h⟩

theorem subsetLoop_some (pe pe2 : Int) (a : List Int) (lca : Int) (lifted : List Poly) (d : Nat)
    (left b : Nat) (pp a' : List Int) (l' : List Poly)
    (h : subsetLoop pe pe2 a lca lifted d left b = .ok (some (pp, a', l'))) :
    ∃ bits q, b ≤ bits ∧ bits < b + left ∧ countOnes 64 bits = d ∧
      divExact (polyMul a lca) (cand pe pe2 lca lifted bits) = some q ∧
      pp = (contPP (cand pe pe2 lca lifted bits)).2 ∧ divExact a pp = some a' ∧ l' = removeBits lifted bits := by
  rcases subsetLoop_run pe pe2 a lca lifted d left b with ⟨h1, -⟩ | ⟨bits, h1, h2, h3, ⟨-, he⟩ | ⟨q, hq, he⟩⟩
  · rw [h1] at h; cases h
  · rw [he] at h; cases h
  · rw [he] at h
    obtain ⟨a1, hq1, h⟩ := bind_ok h
    cases h
    exact ⟨bits, q, h1, h2, h3, hq, rfl, divExactExpect_ok.mp hq1, rfl⟩

theorem subsetLoop_none (pe pe2 : Int) (a : List Int) (lca : Int) (lifted : List Poly) (d : Nat)
    (left b : Nat) (h : subsetLoop pe pe2 a lca lifted d left b = .ok none) :
    ∀ bits, b ≤ bits → bits < b + left → countOnes 64 bits = d →
      subsetProd pe lifted bits (fromRaw [lca]) ≠ [] ∧
      divExact (polyMul a lca) (cand pe pe2 lca lifted bits) = none := by
  rcases subsetLoop_run pe pe2 a lca lifted d left b with ⟨-, h2⟩ | ⟨bits, -, -, -, ⟨-, he⟩ | ⟨q, -, he⟩⟩
  · exact h2
  · rw [he] at h; cases h
  · rw [he] at h
    obtain ⟨a1, -, h⟩ := bind_ok h
    cases h

theorem subsetLoop_spec (pe pe2 : Int) (a : List Int) (lca : Int) (lifted : List Poly) (d : Nat)
    (ha : a ≠ []) (hca : Canon a) (left b : Nat) (pp a' : List Int) (l' : List Poly)
    (h : subsetLoop pe pe2 a lca lifted d left b = .ok (some (pp, a', l'))) :
    pp ≠ [] ∧ Canon pp ∧ 0 < lc pp ∧ toPoly a = toPoly a' * toPoly pp ∧ a' ≠ [] ∧ Canon a' := by
  obtain ⟨bits, q, -, -, -, hq, rfl, hq1, -⟩ := subsetLoop_some pe pe2 a lca lifted d _ _ _ _ _ h
  obtain ⟨hcne, -, -⟩ := divExact_sound _ _ q hq
  obtain ⟨-, -, s3, s4⟩ := contPP_spec _ hcne (canon_symres _ _ _)
  obtain ⟨hb, hq1', hcq1⟩ := divExact_sound _ _ a' hq1
  exact ⟨hb, s4, s3, hq1', quot_ne_nil ha hca hq1', hcq1⟩

/-- `'outer: while 2 * d <= lifted.len() { … }; result.push(a)`: the polynomials appended to `result`
multiply to the polynomial the loop started from, each is canonical and non-zero, and all have a positive
leading coefficient if the starting polynomial has -/
theorem combine_spec (pe pe2 : Int) : ∀ (fuel : Nat) (a : List Int) (lifted : List Poly) (d : Nat)
    (result out : List Poly), a ≠ [] → Canon a → combine pe pe2 fuel a lifted d result = .ok out →
    ∃ new : List Poly, out = result ++ new ∧ toPoly a = (new.map toPoly).prod ∧
      ∀ f ∈ new, f ≠ [] ∧ Canon f ∧ (0 < lc a → 0 < lc f) := by
  intro fuel
  induction fuel with
  | zero => intro a lifted d result out _ _ h; simp [combine, throw, throwThe, MonadExceptOf.throw] at h
  | succ fuel ih =>
    intro a lifted d result out ha hca h
    simp only [combine] at h
    split at h
    · split at h
      · simp [throw, throwThe, MonadExceptOf.throw] at h
      · simp only [bind, Except.bind] at h
        split at h
        · cases h
        · rename_i v hv
          split at h
          · rename_i pp a1 l1
            obtain ⟨s1, s2, s3, s4, s5, s6⟩ := subsetLoop_spec pe pe2 a _ lifted d ha hca _ _ pp a1 l1 hv
            obtain ⟨new, hout, hprod, hall⟩ := ih a1 l1 d _ out s5 s6 h
            have hlc := lc_mul_of_toPoly ha hca s5 s6 s1 s2 s4
            have hpos : 0 < lc a → 0 < lc a1 := by
              intro h0; rw [hlc] at h0
              exact (pos_iff_pos_of_mul_pos h0).mpr s3
            refine ⟨pp :: new, by rw [hout]; simp, ?_, ?_⟩
            · rw [s4, hprod]; simp only [List.map_cons, List.prod_cons]; ring
            · intro f hf
              rcases List.mem_cons.mp hf with rfl | hf
              · exact ⟨s1, s2, fun _ => s3⟩
              · obtain ⟨t1, t2, t3⟩ := hall f hf
                exact ⟨t1, t2, fun h0 => t3 (hpos h0)⟩
          · exact ih a lifted (d + 1) result out ha hca h
    · simp only [pure, Except.pure, Except.ok.injEq] at h
      subst h
      refine ⟨[a], rfl, by simp, ?_⟩
      intro f hf
      simp only [List.mem_singleton] at hf; subst hf
      exact ⟨ha, hca, id⟩

theorem getFactorsOfSquarefree_inv (a : List Int) (s : NTV.Draw.Stream) (out : List Poly)
    (h : getFactorsOfSquarefree a s = .ok out) :
    a ≠ [] ∧ degU a ≠ 0 ∧ ∃ (p : Int) (pu e : Nat) (pe : Int) (factors : Factors) (lifted : List Poly),
      primeSearch a (degU a) 100000 2 = .ok (p, pu) ∧
      powerAbove p (coeffBound a (degU a)) ((coeffBound a (degU a)).natAbs.log2 + 3) 0 1 = .ok (e, pe) ∧
      factorizeModP a p pu s = .ok factors ∧ (factors.all fun fe => fe.2 == 1) = true ∧
      liftFactorization p e a (factors.map (·.1)) = .ok lifted ∧
      combine pe (Int.tdiv pe 2) (2 * lifted.length + 2) a lifted 1 [] = .ok out := by
  unfold getFactorsOfSquarefree at h
  simp only at h
  split at h
  · cases h
  rename_i hne
  rw [Bool.or_eq_true, decide_eq_true_eq, not_or, List.isEmpty_iff] at hne
  obtain ⟨⟨p, pu⟩, h1, h⟩ := bind_ok h
  obtain ⟨⟨e, pe⟩, h2, h⟩ := bind_ok h
  obtain ⟨factors, h3, h⟩ := bind_ok h
  split at h
  · cases h
  rename_i hall
  rw [Bool.not_eq_true', Bool.not_eq_false] at hall
  obtain ⟨lifted, h5, h6⟩ := bind_ok h
  exact ⟨hne.1, hne.2, p, pu, e, pe, factors, lifted, h1, h2, h3, hall, h5, h6⟩

theorem getFactorsOfSquarefree_spec (a : List Int) (s : NTV.Draw.Stream) (out : List Poly) (hca : Canon a)
    (h : getFactorsOfSquarefree a s = .ok out) :
    a ≠ [] ∧ toPoly a = (out.map toPoly).prod ∧ ∀ f ∈ out, f ≠ [] ∧ Canon f ∧ (0 < lc a → 0 < lc f) := by
  obtain ⟨ha, -, p, pu, e, pe, factors, lifted, -, -, -, -, -, h6⟩ := getFactorsOfSquarefree_inv a s out h
  obtain ⟨new, hout, hprod, hall⟩ := combine_spec _ _ _ a _ 1 [] out ha hca h6
  rw [List.nil_append] at hout
  subst hout
  exact ⟨ha, hprod, hall⟩

end NTV.PolyZ
