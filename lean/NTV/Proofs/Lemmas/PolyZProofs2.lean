import NTV.Proofs.Lemmas.PolyZProofs1
/-! Structure of `NTV.PolyZ.factorize`, part 2: the top-level routine. -/
open Polynomial
namespace NTV.PolyZ
open NTV.PolyG NTV.PolyMod NTV.Res

theorem factorize_inv (a : List Int) (s : NTV.Draw.Stream) (c : Int) (fs : List (List Int × Nat))
    (h : factorize a s = .ok (c, fs)) (hlen : 2 ≤ a.length) :
    c = (contPP a).1 ∧ ∃ (g sq : List Int) (factors : List Poly),
      resultantGcd (contPP a).2 (differential (contPP a).2) = .ok g ∧
      (if degU g ≠ 0 then divExactExpect (contPP a).2 g else pure (contPP a).2) = .ok sq ∧
      getFactorsOfSquarefree sq s = .ok factors ∧
      multiplicities factors (contPP a).2 [] = .ok fs := by
  have ha : a ≠ [] := by rintro rfl; simp at hlen
  unfold factorize at h
  rw [if_neg (by rwa [List.isEmpty_iff])] at h
  simp only at h
  rw [if_neg (by rw [degU, if_neg (by rwa [List.isEmpty_iff])]; omega)] at h
  obtain ⟨g, hg, h⟩ := bind_ok h
  -- the two branches of `if gcd.deg() != 0` continue in the same way
  split at h <;> rename_i hdg <;> obtain ⟨sq, hsq, h⟩ := bind_ok h <;>
    obtain ⟨factors, hfac, h⟩ := bind_ok h <;> obtain ⟨res, hres, h⟩ := bind_ok h <;>
    obtain ⟨rfl, rfl⟩ := Prod.mk.inj (Except.ok.inj h)
  · exact ⟨rfl, g, sq, factors, hg, by rw [if_pos hdg]; exact hsq, hfac, hres⟩
  · exact ⟨rfl, g, sq, factors, hg, by rw [if_neg hdg]; exact hsq, hfac, hres⟩

/-- what a successful run of `factorize` on a non-constant input establishes, whatever the gcd routine
and the modular stage returned: `g` is the value used as gcd(pp a, (pp a)'), `sq` the "squarefree part"
handed to the recombination, `r` the cofactor left by the multiplicity loop -/
structure Run (a : List Int) (c : Int) (fs : List (List Int × Nat)) (g sq r : List Int) : Prop where
  hc : c = (contPP a).1
  hgcd : resultantGcd (contPP a).2 (differential (contPP a).2) = .ok g
  hsq : (degU g ≠ 0 ∧ toPoly (contPP a).2 = toPoly sq * toPoly g) ∨ (degU g = 0 ∧ sq = (contPP a).2)
  sq_ne : sq ≠ []
  sq_canon : Canon sq
  hprod_sq : toPoly sq = ((fs.map Prod.fst).map toPoly).prod
  hfac : ∀ fe ∈ fs, fe.1 ≠ [] ∧ Canon fe.1 ∧ (0 < lc sq → 0 < lc fe.1)
  r_ne : r ≠ []
  r_canon : Canon r
  hprod : toPoly (contPP a).2 = toPoly r * (fs.map pw).prod
  hmax : ∀ l1 f e l2, fs = l1 ++ (f, e) :: l2 → ¬ toPoly f ∣ toPoly r * (l2.map pw).prod

theorem factorize_run (a : List Int) (s : NTV.Draw.Stream) (c : Int) (fs : List (List Int × Nat))
    (hca : Canon a) (hlen : 2 ≤ a.length) (h : factorize a s = .ok (c, fs)) :
    ∃ g sq r, Run a c fs g sq r ∧ getFactorsOfSquarefree sq s = .ok (fs.map Prod.fst) := by
  have ha : a ≠ [] := by rintro rfl; simp at hlen
  obtain ⟨hc, g, sq, factors, hg, hsq, hfac, hmul⟩ := factorize_inv a s c fs h hlen
  obtain ⟨_, _, _, hcpp⟩ := contPP_spec a ha hca
  have hppne := pp_ne_nil a ha hca
  have hsq' : ((degU g ≠ 0 ∧ toPoly (contPP a).2 = toPoly sq * toPoly g) ∨ (degU g = 0 ∧ sq = (contPP a).2)) ∧
      sq ≠ [] ∧ Canon sq := by
    by_cases hdg : degU g ≠ 0
    · rw [if_pos hdg, divExactExpect_ok] at hsq
      obtain ⟨_, h2, h3⟩ := divExact_sound _ _ _ hsq
      exact ⟨Or.inl ⟨hdg, h2⟩, quot_ne_nil hppne hcpp h2, h3⟩
    · rw [if_neg hdg] at hsq
      cases hsq
      exact ⟨Or.inr ⟨not_not.mp hdg, rfl⟩, hppne, hcpp⟩
  obtain ⟨hsq1, hsqne, hsqc⟩ := hsq'
  obtain ⟨_, hp1, hp2⟩ := getFactorsOfSquarefree_spec sq s factors hsqc hfac
  obtain ⟨new, r, hout, hmap, hr, hcr, hprod, hmax⟩ := multiplicities_spec factors _ [] fs hppne hcpp hmul
  simp only [List.nil_append] at hout
  subst hout
  have hfac' : ∀ fe ∈ fs, fe.1 ≠ [] ∧ Canon fe.1 ∧ (0 < lc sq → 0 < lc fe.1) := by
    intro fe hfe
    apply hp2
    rw [← hmap]; exact List.mem_map_of_mem hfe
  refine ⟨g, sq, r, ⟨hc, hg, hsq1, hsqne, hsqc, by rw [hmap]; exact hp1, hfac', hr, hcr, hprod, ?_⟩, by rw [hmap]; exact hfac⟩
  intro l1 f e l2 hsplit
  have hmem : (f, e) ∈ fs := by rw [hsplit]; simp
  obtain ⟨t1, t2, _⟩ := hfac' _ hmem
  exact hmax l1 f e l2 hsplit t1 t2

end NTV.PolyZ
