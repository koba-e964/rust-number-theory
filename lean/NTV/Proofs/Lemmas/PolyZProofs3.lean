import Mathlib.RingTheory.Polynomial.UniqueFactorization
import Mathlib.RingTheory.Polynomial.Content
import Mathlib.RingTheory.UniqueFactorizationDomain.Multiplicity
import Mathlib.Algebra.Squarefree.Basic
import Mathlib.Algebra.Polynomial.Derivative
import Mathlib.Data.List.Prime
import Mathlib.Tactic
/-! Algebra in ℤ[X] behind the multiplicity bookkeeping of `factorize` (no model here):
the quotient of A by gcd(A, A') is squarefree and contains every irreducible factor of A; pairwise
coprime factors have their true multiplicities read off by repeated exact division. -/
open Polynomial
namespace NTV.PolyZ.Alg

/-- `G` is a greatest common divisor of `A` and `B` -/
def IsGcd (G A B : ℤ[X]) : Prop := G ∣ A ∧ G ∣ B ∧ ∀ e : ℤ[X], e ∣ A → e ∣ B → e ∣ G

theorem pow_dvd_derivative (π B : ℤ[X]) (n : Nat) : π ^ n ∣ derivative (π ^ (n + 1) * B) := by
  rw [derivative_mul, derivative_pow]
  apply dvd_add
  · simp only [Nat.add_one_sub_one]
    exact ⟨C ((n + 1 : ℕ) : ℤ) * derivative π * B, by ring⟩
  · exact ⟨π * derivative B, by ring⟩

theorem squarefree_quot {A S G : ℤ[X]} (hA : A ≠ 0) (hG : IsGcd G A (derivative A)) (hASG : A = S * G) :
    Squarefree S := by
  have hS0 : S ≠ 0 := by rintro rfl; simp at hASG; exact hA hASG
  have hG0 : G ≠ 0 := by rintro rfl; simp at hASG; exact hA hASG
  rw [squarefree_iff_irreducible_sq_not_dvd_of_ne_zero hS0]
  rintro π hπ ⟨T, hT⟩
  obtain ⟨j, H, hH, hGj⟩ := WfDvdMonoid.max_power_factor hG0 hπ
  have hA' : A = π ^ (j + 1) * (π * T * H) := by rw [hASG, hT, hGj]; ring
  have h1 : π ^ (j + 1) ∣ A := ⟨_, hA'⟩
  have h2 : π ^ (j + 1) ∣ derivative A := by
    have : A = π ^ (j + 1 + 1) * (T * H) := by rw [hA']; ring
    rw [this]; exact pow_dvd_derivative π _ (j + 1)
  have h3 := hG.2.2 _ h1 h2
  rw [hGj, pow_succ, mul_comm (π ^ j) π] at h3
  have hπj : π ^ j ≠ 0 := pow_ne_zero _ hπ.ne_zero
  rw [mul_comm π, mul_dvd_mul_iff_left hπj] at h3
  exact hH h3

theorem not_dvd_derivative {π : ℤ[X]} (h : 0 < π.natDegree) : ¬ π ∣ derivative π := by
  intro hd
  have hne : derivative π ≠ 0 := by
    intro h0
    have := Polynomial.derivative_eq_zero.mp h0
    omega
  have := natDegree_le_of_dvd hd hne
  have := natDegree_derivative_lt (p := π) (by omega)
  omega

theorem natDegree_pos_of_dvd_primitive {π A : ℤ[X]} (hA : A.IsPrimitive) (hd : π ∣ A) (hu : ¬ IsUnit π) :
    0 < π.natDegree := by
  by_contra h0
  have h0' : π.natDegree = 0 := by omega
  obtain ⟨k, hk⟩ := natDegree_eq_zero.mp h0'
  rw [← hk] at hd hu
  exact hu (isUnit_C.mpr (hA k hd))

/-- (characteristic 0) -/
theorem irreducible_dvd_quot {A S G π : ℤ[X]} (hA : A ≠ 0) (hprim : A.IsPrimitive)
    (hG : G ∣ derivative A) (hASG : A = S * G) (hπ : Irreducible π) (hd : π ∣ A) : π ∣ S := by
  by_contra hS
  have hπp : Prime π := UniqueFactorizationMonoid.irreducible_iff_prime.mp hπ
  have hdeg := natDegree_pos_of_dvd_primitive hprim hd hπ.not_isUnit
  obtain ⟨k, M, hM, hAk⟩ := WfDvdMonoid.max_power_factor hA hπ
  have hk : k ≠ 0 := by
    rintro rfl
    simp only [pow_zero, one_mul] at hAk
    exact hM (hAk ▸ hd)
  obtain ⟨n, rfl⟩ := Nat.exists_eq_succ_of_ne_zero hk
  -- π^(n+1) ∣ G
  have h1 : π ^ (n + 1) ∣ G := by
    have : π ^ (n + 1) ∣ S * G := ⟨M, by rw [← hASG, hAk]⟩
    exact hπp.pow_dvd_of_dvd_mul_left _ hS this
  have h2 : π ^ (n + 1) ∣ derivative A := dvd_trans h1 hG
  rw [hAk, derivative_mul, derivative_pow] at h2
  simp only [Nat.add_one_sub_one] at h2
  have h3 : π ^ (n + 1) ∣ π ^ (n + 1) * derivative M := Dvd.intro _ rfl
  have h4 := (dvd_add_left h3).mp h2
  have h5 : π ^ n * π ∣ π ^ n * (C ((n.succ : ℕ) : ℤ) * derivative π * M) := by
    rw [← pow_succ]
    convert h4 using 1
    ring
  rw [mul_dvd_mul_iff_left (pow_ne_zero _ hπ.ne_zero)] at h5
  rcases hπp.dvd_or_dvd h5 with h6 | h6
  · rcases hπp.dvd_or_dvd h6 with h7 | h7
    · have hne : (C ((n.succ : ℕ) : ℤ) : ℤ[X]) ≠ 0 := by
        rw [Ne, C_eq_zero]; exact_mod_cast Nat.succ_ne_zero n
      have := natDegree_le_of_dvd h7 hne
      rw [natDegree_C] at this
      omega
    · exact not_dvd_derivative hdeg h7
  · exact hM h6

/-- value of an entry: f^e -/
noncomputable def pw (fe : ℤ[X] × Nat) : ℤ[X] := fe.1 ^ fe.2

theorem pairwise_of_squarefree_prod : ∀ (l : List ℤ[X]), Squarefree l.prod → l.Pairwise IsRelPrime
  | [], _ => List.Pairwise.nil
  | f :: l, h => by
    rw [List.prod_cons, squarefree_mul_iff] at h
    refine List.Pairwise.cons ?_ (pairwise_of_squarefree_prod l h.2.2)
    intro g hg
    exact h.1.of_dvd_right (List.dvd_prod hg)

theorem isRelPrime_prod_pw {f : ℤ[X]} : ∀ (l : List (ℤ[X] × Nat)), (∀ ge ∈ l, IsRelPrime f ge.1) →
    IsRelPrime f (l.map pw).prod
  | [], _ => by simpa using isRelPrime_one_right
  | ge :: l, h => by
    rw [List.map_cons, List.prod_cons]
    exact IsRelPrime.mul_right ((h ge (by simp)).pow_right) (isRelPrime_prod_pw l fun x hx => h x (by simp [hx]))

/-- The bookkeeping facts established by a run, in ℤ[X]: `A = R · ∏ f^e`, and each `f` fails to divide
what was left after it. -/
structure Book (A R : ℤ[X]) (L : List (ℤ[X] × Nat)) : Prop where
  hprod : A = R * (L.map pw).prod
  hmax : ∀ l1 f e l2, L = l1 ++ (f, e) :: l2 → ¬ f ∣ R * (l2.map pw).prod

theorem Book.split {A R : ℤ[X]} {L l1 l2 : List (ℤ[X] × Nat)} {f : ℤ[X]} {e : Nat} (b : Book A R L)
    (h : L = l1 ++ (f, e) :: l2) : A = (l1.map pw).prod * f ^ e * (R * (l2.map pw).prod) := by
  rw [b.hprod, h]
  simp only [List.map_append, List.map_cons, List.prod_append, List.prod_cons, pw]
  ring

theorem Book.pow_dvd {A R : ℤ[X]} {L : List (ℤ[X] × Nat)} (b : Book A R L) {f : ℤ[X]} {e : Nat}
    (h : (f, e) ∈ L) : f ^ e ∣ A := by
  obtain ⟨l1, l2, hs⟩ := List.append_of_mem h
  rw [b.split hs]
  exact ⟨(l1.map pw).prod * (R * (l2.map pw).prod), by ring⟩

/-- a listed factor is not a unit (a unit divides everything) -/
theorem Book.not_isUnit {A R : ℤ[X]} {L : List (ℤ[X] × Nat)} (b : Book A R L) {f : ℤ[X]} {e : Nat}
    (h : (f, e) ∈ L) : ¬ IsUnit f := by
  obtain ⟨l1, l2, hs⟩ := List.append_of_mem h
  intro hu
  exact b.hmax l1 f e l2 hs hu.dvd

theorem pairwise_split {α : Type} {P : α → α → Prop} (hsym : ∀ x y, P x y → P y x) {l l1 l2 : List α} {x : α}
    (hp : l.Pairwise P) (h : l = l1 ++ x :: l2) : ∀ y ∈ l1, P x y := by
  subst h
  intro y hy
  rw [List.pairwise_append] at hp
  exact hsym _ _ (hp.2.2 y hy x (by simp))

theorem Book.true_multiplicity {A R : ℤ[X]} {L : List (ℤ[X] × Nat)} (b : Book A R L)
    (hcop : (L.map Prod.fst).Pairwise IsRelPrime) (hA : A ≠ 0) {f : ℤ[X]} {e : Nat} (h : (f, e) ∈ L) :
    f ^ e ∣ A ∧ ¬ f ^ (e + 1) ∣ A := by
  refine ⟨b.pow_dvd h, ?_⟩
  obtain ⟨l1, l2, hs⟩ := List.append_of_mem h
  intro hd
  have hf0 : f ≠ 0 := by
    rintro rfl
    rw [zero_pow (by omega), zero_dvd_iff] at hd
    exact hA hd
  rw [b.split hs] at hd
  have h1 : f ^ e * f ∣ f ^ e * ((l1.map pw).prod * (R * (l2.map pw).prod)) := by
    rw [← pow_succ]; convert hd using 1; ring
  rw [mul_dvd_mul_iff_left (pow_ne_zero _ hf0)] at h1
  have hrel : IsRelPrime f (l1.map pw).prod := by
    apply isRelPrime_prod_pw
    intro ge hge
    have hsplit : L.map Prod.fst = l1.map Prod.fst ++ f :: l2.map Prod.fst := by rw [hs]; simp
    exact pairwise_split (fun x y (hxy : IsRelPrime x y) => hxy.symm) hcop hsplit _ (List.mem_map_of_mem hge)
  exact b.hmax l1 f e l2 hs (hrel.dvd_of_dvd_mul_left h1)

theorem Book.exponent_pos {A R : ℤ[X]} {L : List (ℤ[X] × Nat)} (b : Book A R L)
    (hcop : (L.map Prod.fst).Pairwise IsRelPrime) (hA : A ≠ 0) {f : ℤ[X]} {e : Nat} (h : (f, e) ∈ L)
    (hfA : f ∣ A) : 1 ≤ e := by
  by_contra he
  have he0 : e = 0 := by omega
  subst he0
  have := (b.true_multiplicity hcop hA h).2
  simp only [zero_add, pow_one] at this
  exact this hfA

theorem Book.nodup {A R : ℤ[X]} {L : List (ℤ[X] × Nat)} (b : Book A R L)
    (hcop : (L.map Prod.fst).Pairwise IsRelPrime) : (L.map Prod.fst).Nodup := by
  have hnu : ∀ f ∈ L.map Prod.fst, ¬ IsUnit f := by
    intro f hf
    obtain ⟨⟨f', e⟩, hfe, rfl⟩ := List.mem_map.mp hf
    exact b.not_isUnit hfe
  rw [List.Nodup]
  have : (L.map Prod.fst).Pairwise (fun x y => IsRelPrime x y ∧ ¬ IsUnit x) := by
    rw [List.pairwise_iff_forall_sublist] at hcop ⊢
    intro x y hxy
    exact ⟨hcop hxy, hnu x (hxy.subset (by simp))⟩
  refine this.imp ?_
  rintro x y ⟨hrel, hx⟩ rfl
  exact hx (isRelPrime_self.mp hrel)

theorem Book.cofactor_isUnit {A R : ℤ[X]} {L : List (ℤ[X] × Nat)} (b : Book A R L) (hA : A ≠ 0)
    (hirr : ∀ fe ∈ L, Irreducible fe.1)
    (hcover : ∀ π : ℤ[X], Irreducible π → π ∣ A → π ∣ (L.map Prod.fst).prod) : IsUnit R := by
  by_contra hu
  have hR0 : R ≠ 0 := by rintro rfl; apply hA; rw [b.hprod]; simp
  obtain ⟨π, hπ, hπR⟩ := WfDvdMonoid.exists_irreducible_factor hu hR0
  have hπA : π ∣ A := by rw [b.hprod]; exact Dvd.dvd.mul_right hπR _
  have hπp : Prime π := UniqueFactorizationMonoid.irreducible_iff_prime.mp hπ
  obtain ⟨f, hf, hπf⟩ := hπp.dvd_prod_iff.mp (hcover π hπ hπA)
  obtain ⟨⟨f', e⟩, hfe, rfl⟩ := List.mem_map.mp hf
  have hassoc : Associated π f' := hπ.associated_of_dvd (hirr _ hfe) hπf
  obtain ⟨l1, l2, hs⟩ := List.append_of_mem hfe
  exact b.hmax l1 f' e l2 hs (Dvd.dvd.mul_right (hassoc.symm.dvd.trans hπR) _)

end NTV.PolyZ.Alg
