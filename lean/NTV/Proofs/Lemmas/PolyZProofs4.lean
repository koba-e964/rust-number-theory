import NTV.Proofs.Lemmas.PolyZProofs2
import NTV.Proofs.Lemmas.PolyZProofs3
import NTV.Proofs.C10
/-! Structure of `NTV.PolyZ.factorize`, part 3 (after PolyZProofs1 and 2; PolyZProofs3 is the algebra in ℤ[X] used
here): what a successful run gives in ℤ[X]. -/
open Polynomial
namespace NTV.PolyZ
open NTV.PolyG NTV.PolyMod NTV.Res

/-- the exactness flag of the subresultant gcd of pp(a) and its derivative: every division of the
recurrence leaves no remainder (the Rust code discards nothing — its `/` is then the exact quotient).
True by the fundamental theorem of subresultants: proved below as `gcdExact_holds` for every non-zero
canonical `a` (from `NTV.Res.resultantSmartGcd_flag`). -/
def GcdExact (a : List Int) : Prop :=
  ∀ g ok, resultantSmartGcdE (contPP a).2 (differential (contPP a).2) = some (.ok (g, ok)) → ok = true

/-- the abstract entries of an output list -/
noncomputable def entries (fs : List (List Int × Nat)) : List (ℤ[X] × Nat) := fs.map fun fe => (toPoly fe.1, fe.2)

theorem map_pw_entries (fs : List (List Int × Nat)) : (entries fs).map Alg.pw = fs.map pw := by
  simp [entries, List.map_map, Function.comp_def, Alg.pw, pw]

theorem map_fst_entries (fs : List (List Int × Nat)) : (entries fs).map Prod.fst = (fs.map Prod.fst).map toPoly := by
  simp [entries, List.map_map, Function.comp_def]

theorem mem_entries {fs : List (List Int × Nat)} {f : List Int} {e : Nat} (h : (f, e) ∈ fs) :
    (toPoly f, e) ∈ entries fs := List.mem_map.mpr ⟨(f, e), h, rfl⟩

theorem Run.book {a : List Int} {c : Int} {fs : List (List Int × Nat)} {g sq r : List Int} (R : Run a c fs g sq r) :
    Alg.Book (toPoly (contPP a).2) (toPoly r) (entries fs) := by
  refine ⟨by rw [map_pw_entries]; exact R.hprod, ?_⟩
  intro l1 f e l2 hsplit
  unfold entries at hsplit
  obtain ⟨fs1, fs2', h1, h2, h3⟩ := List.map_eq_append_iff.mp hsplit
  obtain ⟨fe, fs2, h4, h5, h6⟩ := List.map_eq_cons_iff.mp h3
  obtain ⟨f', e'⟩ := fe
  simp only [Prod.mk.injEq] at h5
  obtain ⟨rfl, rfl⟩ := h5
  subst h4 h6
  have := R.hmax fs1 f' e' fs2 h1
  rw [← map_pw_entries] at this
  exact this

section facts
variable {a : List Int} (ha : a ≠ []) (hca : Canon a)
include ha hca

theorem pp_facts : (toPoly (contPP a).2).IsPrimitive ∧ toPoly (contPP a).2 ≠ 0 ∧
    0 < (toPoly (contPP a).2).leadingCoeff ∧ (toPoly (contPP a).2).natDegree = a.length - 1 ∧
    (contPP a).1 ≠ 0 := by
  obtain ⟨s1, s2, s3, s4⟩ := contPP_spec a ha hca
  have hne := pp_ne_nil a ha hca
  have hc := contPP_fst_ne_zero a ha hca
  obtain ⟨d1, d2, d3⟩ := natDegree_toPoly _ hne s4
  refine ⟨isPrimitive_of_list _ s2, d3, by rw [d2]; exact s3, ?_, hc⟩
  rw [← (natDegree_toPoly a ha hca).1, ← s1, natDegree_C_mul hc]

theorem differential_pp_facts (hlen : 2 ≤ a.length) : (toPoly (contPP a).2).natDegree ≠ 0 ∧
    derivative (toPoly (contPP a).2) ≠ 0 ∧ differential (contPP a).2 ≠ [] := by
  have hpos : (toPoly (contPP a).2).natDegree ≠ 0 := by rw [(pp_facts ha hca).2.2.2.1]; omega
  have hder0 : derivative (toPoly (contPP a).2) ≠ 0 := fun h0 => hpos (Polynomial.derivative_eq_zero.mp h0)
  refine ⟨hpos, hder0, fun e => hder0 ?_⟩
  rw [← toPoly_differential, e]
  rfl

theorem content_facts : (contPP a).1 ≠ 0 ∧ (0 < (contPP a).1 ↔ 0 < lc a) ∧ (toPoly a).content = |(contPP a).1| := by
  obtain ⟨s1, s2, s3, s4⟩ := contPP_spec a ha hca
  obtain ⟨p1, p2, p3, _, p5⟩ := pp_facts ha hca
  refine ⟨p5, ?_, ?_⟩
  · rw [← (natDegree_toPoly a ha hca).2.1, ← s1, leadingCoeff_mul, leadingCoeff_C]
    constructor
    · intro h; exact mul_pos h p3
    · intro h; exact (pos_iff_pos_of_mul_pos h).mpr p3
  · rw [← s1, content_C_mul, p1.content_eq_one, mul_one, Int.abs_eq_normalize]

end facts

theorem eq_one_of_isUnit {P : ℤ[X]} (hu : IsUnit P) (hl : 0 < P.leadingCoeff) : P = 1 := by
  obtain ⟨k, hk, rfl⟩ := Polynomial.isUnit_iff.mp hu
  rw [leadingCoeff_C] at hl
  rcases Int.isUnit_iff.mp hk with rfl | rfl
  · simp
  · omega

theorem eq_one_of_primitive_const {P : ℤ[X]} (hp : P.IsPrimitive) (hd : P.natDegree = 0) (hl : 0 < P.leadingCoeff) :
    P = 1 := by
  obtain ⟨k, rfl⟩ := natDegree_eq_zero.mp hd
  exact eq_one_of_isUnit (isUnit_C.mpr (hp k (dvd_refl _))) hl

theorem factorize_const (a : List Int) (s : NTV.Draw.Stream) (c : Int) (fs : List (List Int × Nat))
    (hca : Canon a) (hlen : a.length = 1) (h : factorize a s = .ok (c, fs)) :
    c = (contPP a).1 ∧ fs = [] ∧ toPoly (contPP a).2 = 1 := by
  have ha : a ≠ [] := by rintro rfl; simp at hlen
  have he : a.isEmpty = false := List.isEmpty_eq_false_iff.mpr ha
  have hd : degU a = 0 := by rw [degU, if_neg (by rwa [List.isEmpty_iff]), hlen]
  unfold factorize at h
  simp only [he, Bool.false_eq_true, ↓reduceIte, hd, pure, Except.pure, Except.ok.injEq, Prod.mk.injEq] at h
  obtain ⟨p1, _, p3, p4, _⟩ := pp_facts ha hca
  exact ⟨h.1.symm, h.2.symm, eq_one_of_primitive_const p1 (by rw [p4, hlen]) p3⟩

/-- a successful run on a non-zero canonical input is that of a constant (content, no factor, pp(a) = 1) or a `Run`
whose listed polynomials are those the recombination returned for `sq` -/
theorem factorize_cases (a : List Int) (s : NTV.Draw.Stream) (c : Int) (fs : List (List Int × Nat))
    (ha : a ≠ []) (hca : Canon a) (h : factorize a s = .ok (c, fs)) :
    (c = (contPP a).1 ∧ fs = [] ∧ toPoly (contPP a).2 = 1) ∨
    (2 ≤ a.length ∧ ∃ g sq r, Run a c fs g sq r ∧ getFactorsOfSquarefree sq s = .ok (fs.map Prod.fst)) := by
  rcases Nat.lt_or_ge a.length 2 with hl | hl
  · exact Or.inl (factorize_const a s c fs hca (by have := List.length_pos_of_ne_nil ha; omega) h)
  · exact Or.inr ⟨hl, factorize_run a s c fs hca hl h⟩

/-! ### `GcdExact` is a theorem (fundamental theorem of subresultants, `resultantSmartGcd_flag`) -/

/-- gcd(f, 0): the loop stops at once with the flag it was given -/
theorem resultantSmartGcdE_nil_right_flag (f r : List Int) (ok : Bool)
    (h : resultantSmartGcdE f [] = some (.ok (r, ok))) : ok = true := by
  unfold resultantSmartGcdE at h
  by_cases he : f.isEmpty
  · simp only [he, ↓reduceIte, Option.some.injEq, Except.ok.injEq, Prod.mk.injEq] at h
    exact h.2.symm
  · simp only [he, Bool.false_eq_true, ↓reduceIte, bind, Except.bind, pure, Except.pure] at h
    cases hc : Res.content f with
    | error e => rw [hc] at h; simp at h
    | ok cf =>
      rw [hc] at h
      have hc0 : Res.content ([] : List Int) = .ok (contPP ([] : List Int)).1 := by simp [Res.content]
      have hp0 : ∀ d, Res.polyDiv ([] : List Int) d = .ok [] := by intro d; simp [Res.polyDiv]
      simp only [hc0, hp0] at h
      cases hp : Res.polyDiv f cf with
      | error e => rw [hp] at h; simp at h
      | ok f1 =>
        rw [hp] at h
        simp only [gcdLoop, List.isEmpty_nil, ↓reduceIte] at h
        cases hc2 : Res.content f1 with
        | error e => rw [hc2] at h; simp at h
        | ok c2 =>
          rw [hc2] at h
          simp only [] at h
          cases hp2 : Res.polyDiv f1 c2 with
          | error e => rw [hp2] at h; simp at h
          | ok p2 =>
            rw [hp2] at h
            simp only [Option.some.injEq, Except.ok.injEq, Prod.mk.injEq] at h
            exact h.2.symm

/-- **the exactness flag always holds**: for every non-zero canonical `a`, the subresultant gcd of pp(a) and
pp(a)' performs only exact divisions (for a constant `a` the derivative is 0 and no division is made) -/
theorem gcdExact_holds (a : List Int) (ha : a ≠ []) (hca : Canon a) : GcdExact a := by
  intro g ok h
  obtain ⟨_, _, _, s4⟩ := contPP_spec a ha hca
  have hne := pp_ne_nil a ha hca
  by_cases hd : differential (contPP a).2 = []
  · rw [hd] at h
    exact resultantSmartGcdE_nil_right_flag _ g ok h
  · exact resultantSmartGcd_flag _ _ hne hd s4 (canon_differential _) g ok h

theorem resultantGcd_ok {a b g : List Int} (h : resultantGcd a b = .ok g) :
    ∃ ok, resultantSmartGcdE a b = some (.ok (g, ok)) := by
  unfold resultantGcd at h
  split at h
  · cases h
  · cases h
  · rename_i g' ok hres
    cases h
    exact ⟨ok, hres⟩

section run
variable {a : List Int} {c : Int} {fs : List (List Int × Nat)} {g sq r : List Int}

theorem Run.sq_dvd (R : Run a c fs g sq r) : toPoly sq ∣ toPoly (contPP a).2 := by
  rcases R.hsq with ⟨_, h⟩ | ⟨_, h⟩
  · exact ⟨_, h⟩
  · rw [h]

theorem Run.factor_dvd (R : Run a c fs g sq r) {f : List Int} {e : Nat} (h : (f, e) ∈ fs) :
    toPoly f ∣ toPoly (contPP a).2 := by
  refine dvd_trans ?_ R.sq_dvd
  rw [R.hprod_sq]
  apply List.dvd_prod
  exact List.mem_map_of_mem (List.mem_map_of_mem (f := Prod.fst) h)

/-- unconditional shape of a listed factor: canonical, non-constant, primitive -/
theorem Run.factor_shape (R : Run a c fs g sq r) (ha : a ≠ []) (hca : Canon a) {f : List Int} {e : Nat}
    (h : (f, e) ∈ fs) : Canon f ∧ 2 ≤ f.length ∧ (toPoly f).IsPrimitive ∧ toPoly f ∣ toPoly (contPP a).2 := by
  obtain ⟨p1, _, _, _, _⟩ := pp_facts ha hca
  obtain ⟨f1, f2, _⟩ := R.hfac _ h
  have hd := R.factor_dvd h
  have hnu := R.book.not_isUnit (mem_entries h)
  have hdeg := Alg.natDegree_pos_of_dvd_primitive p1 hd hnu
  rw [(natDegree_toPoly f f1 f2).1] at hdeg
  exact ⟨f2, by omega, isPrimitive_of_dvd p1 hd, hd⟩

theorem Run.exact (R : Run a c fs g sq r) (ha : a ≠ []) (hca : Canon a) (hlen : 2 ≤ a.length) :
    Squarefree (toPoly sq) ∧ 0 < lc sq ∧
    ∀ π : ℤ[X], Irreducible π → π ∣ toPoly (contPP a).2 → π ∣ toPoly sq := by
  obtain ⟨p1, p2, p3, p4, _⟩ := pp_facts ha hca
  obtain ⟨_, _, s3, s4⟩ := contPP_spec a ha hca
  have hne := pp_ne_nil a ha hca
  obtain ⟨-, hder0, hdne⟩ := differential_pp_facts ha hca hlen
  obtain ⟨ok, hres⟩ := resultantGcd_ok R.hgcd
  obtain rfl := gcdExact_holds a ha hca g ok hres
  obtain ⟨g1, g2, g3⟩ := NTV.C10.is_gcd_partial _ _ g hne hdne s4 (canon_differential _) hres
  rw [toPoly_differential] at g2 g3
  have hgcd : Alg.IsGcd (toPoly g) (toPoly (contPP a).2) (derivative (toPoly (contPP a).2)) := ⟨g1, g2, g3⟩
  rcases R.hsq with ⟨_, hsq⟩ | ⟨hdg, hsq⟩
  · refine ⟨Alg.squarefree_quot p2 hgcd hsq, ?_, fun π hπ hd => Alg.irreducible_dvd_quot p2 p1 g2 hsq hπ hd⟩
    obtain ⟨pp, d, _, hd, hshape, hlpp, hcpp, _⟩ :=
      NTV.C10.result_shape_partial _ _ g hne hdne s4 (canon_differential _) hres
    have hppne : pp ≠ [] := by rintro rfl; simp [lc] at hlpp
    have hGlc : 0 < (toPoly g).leadingCoeff := by
      rw [hshape, leadingCoeff_mul, leadingCoeff_C, (natDegree_toPoly pp hppne hcpp).2.1]
      exact mul_pos hd hlpp
    rw [← (natDegree_toPoly sq R.sq_ne R.sq_canon).2.1]
    rw [hsq, leadingCoeff_mul] at p3
    exact (pos_iff_pos_of_mul_pos p3).mpr hGlc
  · subst hsq
    refine ⟨?_, s3, fun π _ hd => hd⟩
    -- g is a constant dividing a primitive polynomial, hence a unit
    obtain ⟨k, rfl⟩ : ∃ k, g = [k] := by
      rcases g with _ | ⟨k, _ | ⟨k', t⟩⟩
      · simp [degU] at hdg
      · exact ⟨k, rfl⟩
      · simp [degU] at hdg
    have hk : toPoly [k] = C k := by simp [toPoly]
    rw [hk] at hgcd
    have hu : IsUnit (C k : ℤ[X]) := isUnit_C.mpr (p1 k hgcd.1)
    exact Alg.squarefree_quot p2 ⟨one_dvd _, one_dvd _, fun e h1 h2 => (hgcd.2.2 e h1 h2).trans hu.dvd⟩
      (mul_one _).symm

/-- the listed factors are pairwise coprime (`hx` follows from `ha hca`: `gcdExact_holds`) -/
theorem Run.pairwise (R : Run a c fs g sq r) (ha : a ≠ []) (hca : Canon a) (hlen : 2 ≤ a.length) (hx : GcdExact a) :
    ((entries fs).map Prod.fst).Pairwise IsRelPrime := by
  rw [map_fst_entries]
  apply Alg.pairwise_of_squarefree_prod
  rw [← R.hprod_sq]
  exact (R.exact ha hca hlen).1

theorem leadingCoeff_prod_pw_pos : ∀ (L : List (ℤ[X] × Nat)), (∀ fe ∈ L, 0 < fe.1.leadingCoeff) →
    0 < (L.map Alg.pw).prod.leadingCoeff
  | [], _ => by simp
  | fe :: L, h => by
    rw [List.map_cons, List.prod_cons, leadingCoeff_mul, Alg.pw, leadingCoeff_pow]
    exact mul_pos (pow_pos (h fe (by simp)) _) (leadingCoeff_prod_pw_pos L fun x hx => h x (by simp [hx]))

theorem Run.cofactor_one (R : Run a c fs g sq r) (ha : a ≠ []) (hca : Canon a) (hlen : 2 ≤ a.length)
    (hirr : ∀ fe ∈ fs, Irreducible (toPoly fe.1)) : toPoly r = 1 := by
  obtain ⟨_, p2, p3, _, _⟩ := pp_facts ha hca
  obtain ⟨_, x2, x3⟩ := R.exact ha hca hlen
  have hirr' : ∀ fe ∈ entries fs, Irreducible fe.1 := by
    intro fe hfe
    obtain ⟨fe', h1, rfl⟩ := List.mem_map.mp hfe
    exact hirr fe' h1
  have hu := R.book.cofactor_isUnit p2 hirr' (by
    intro π hπ hd
    rw [map_fst_entries, ← R.hprod_sq]; exact x3 π hπ hd)
  apply eq_one_of_isUnit hu
  have hpos : 0 < ((entries fs).map Alg.pw).prod.leadingCoeff := by
    apply leadingCoeff_prod_pw_pos
    intro fe hfe
    obtain ⟨fe', h1, rfl⟩ := List.mem_map.mp hfe
    obtain ⟨f1, f2, f3⟩ := R.hfac _ h1
    rw [(natDegree_toPoly _ f1 f2).2.1]
    exact f3 x2
  have := p3
  rw [R.book.hprod, leadingCoeff_mul] at this
  exact (pos_iff_pos_of_mul_pos this).mpr hpos

end run

end NTV.PolyZ
