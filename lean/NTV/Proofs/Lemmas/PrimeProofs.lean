import NTV.Model.Prime
import Mathlib.FieldTheory.Finite.Basic
import Mathlib.Data.ZMod.Basic
/-! The decomposition n − 1 = d·2^c computed by `splitTwos`; Miller–Rabin on a prime modulus: the inner loop of a round, read in the field `ZMod p`, never reports a
witness, so every round passes (Fermat); and what `isPrimeWith` / `isPrimeS` reduce to once the three guards
of `is_prime` (n ≤ 1, n = 2, n even) are decided. -/
namespace NTV.Prime

theorem splitTwos_spec (fuel d c : Nat) :
    (splitTwos fuel d c).1 * 2 ^ (splitTwos fuel d c).2 = d * 2 ^ c := by
  fun_induction splitTwos fuel d c with
  | case1 d c => rfl
  | case2 fuel d c h ih =>
    simp only [Bool.and_eq_true, beq_iff_eq] at h
    rw [ih, pow_succ, ← mul_assoc, mul_right_comm, Nat.div_mul_cancel (Nat.dvd_of_mod_eq_zero h.1)]
  | case3 fuel d c h => rfl

theorem splitTwos_odd (fuel d c : Nat) (hd : 0 < d) (hf : d ≤ fuel) :
    (splitTwos fuel d c).1 % 2 = 1 := by
  fun_induction splitTwos fuel d c with
  | case1 d c => exact absurd hd (Nat.not_lt.mpr hf)
  | case2 fuel d c h ih =>
    simp only [Bool.and_eq_true, beq_iff_eq] at h
    exact ih (Nat.div_pos (Nat.le_of_dvd hd (Nat.dvd_of_mod_eq_zero h.1)) two_pos)
      (Nat.le_of_lt_succ ((Nat.div_lt_self hd one_lt_two).trans_le hf))
  | case3 fuel d c h =>
    simp only [Bool.and_eq_true, beq_iff_eq, bne_iff_ne, ne_eq, not_and, not_not] at h
    exact (Nat.mod_two_eq_zero_or_one d).resolve_left fun h' => hd.ne' (h h')

theorem splitTwos_decomp (n : Nat) (hodd : n % 2 = 1) (hn : 1 < n) :
    Odd (splitTwos n (n - 1) 0).1 ∧ 1 ≤ (splitTwos n (n - 1) 0).2 ∧
      n - 1 = (splitTwos n (n - 1) 0).1 * 2 ^ (splitTwos n (n - 1) 0).2 := by
  have h1 := splitTwos_spec n (n - 1) 0
  have h2 := splitTwos_odd n (n - 1) 0 (Nat.sub_pos_of_lt hn) (Nat.sub_le n 1)
  rw [pow_zero, mul_one] at h1
  -- c = 0 would make n − 1 = d odd
  refine ⟨Nat.odd_iff.mpr h2, Nat.pos_of_ne_zero fun hc => ?_, h1.symm⟩
  rw [hc, pow_zero, mul_one] at h1
  exact Nat.not_even_iff_odd.mpr (Nat.odd_iff.mpr h2)
    (by rw [h1]; exact Nat.Odd.sub_odd (Nat.odd_iff.mpr hodd) odd_one)

theorem cast_eq_of_lt (p a b : Nat) (ha : a < p) (hb : b < p) (h : (a : ZMod p) = (b : ZMod p)) : a = b := by
  rw [ZMod.natCast_eq_natCast_iff'] at h
  rwa [Nat.mod_eq_of_lt ha, Nat.mod_eq_of_lt hb] at h

/-- how `mrRound` reads the result of its inner loop (the final `match` of its body) -/
def loopVerdict (res : Option Bool × Nat) : Bool :=
  match res with
  | (some b, _) => b
  | (none, tmp) => tmp == 1

theorem mrRound_eq_verdict (n d c r : Nat) :
    mrRound n d c r = if r ^ d % n == 1 then true else loopVerdict (mrLoop n c (r ^ d % n)) :=
  rfl

theorem loopVerdict_of_fst {res : Option Bool × Nat} {b : Bool} (h : res.1 = some b) :
    loopVerdict res = b := by
  obtain ⟨o, t⟩ := res
  subst h
  rfl

theorem cast_sq_mod (p tmp : Nat) : ((tmp * tmp % p : Nat) : ZMod p) = (tmp : ZMod p) ^ 2 := by
  rw [ZMod.natCast_mod, Nat.cast_mul, sq]

/-- tmp ≠ ±1, so tmp² ≠ 1 in the field ZMod p -/
theorem sq_mod_ne_one (p : Nat) [hp : Fact p.Prime] (tmp : Nat) (hlt : tmp < p)
    (h1 : (tmp : ZMod p) ≠ 1) (hm : tmp ≠ p - 1) : ((tmp * tmp % p : Nat) : ZMod p) ≠ 1 := by
  have hm1 : (tmp : ZMod p) ≠ -1 := by
    intro h
    apply hm
    apply cast_eq_of_lt p _ _ hlt (Nat.sub_lt hp.out.pos Nat.one_pos)
    rw [h, Nat.cast_sub hp.out.one_le, Nat.cast_one, ZMod.natCast_self, zero_sub]
  rw [cast_sq_mod]
  exact fun h => (sq_eq_one_iff.mp h).elim h1 hm1

/-- Loop invariant for a prime modulus: starting from tmp ≠ 1 with tmp^(2^c) = 1 in ZMod p,
the loop answers `some true` (the `aborted` exit), never "witness found". -/
theorem mrLoop_prime (p : Nat) [hp : Fact p.Prime] (c tmp : Nat) (hlt : tmp < p)
    (h1 : (tmp : ZMod p) ≠ 1) (hpow : (tmp : ZMod p) ^ (2 ^ c) = 1) :
    (mrLoop p c tmp).1 = some true := by
  fun_induction mrLoop p c tmp with
  | case1 tmp => rw [pow_zero, pow_one] at hpow; exact absurd hpow h1
  | case2 c tmp h => rfl
  | case3 c tmp h tmp' h' =>
    exact absurd ((congrArg (Nat.cast : Nat → ZMod p) (beq_iff_eq.mp h')).trans Nat.cast_one)
      (sq_mod_ne_one p tmp hlt h1 (by rwa [beq_iff_eq] at h))
  | case4 c tmp h tmp' h' ih =>
    exact ih (Nat.mod_lt _ hp.out.pos) (sq_mod_ne_one p tmp hlt h1 (by rwa [beq_iff_eq] at h))
      (by rw [cast_sq_mod, ← pow_mul, ← pow_succ']; exact hpow)

/-- C13 (one-sidedness), model level: a prime is never rejected, whatever base is drawn. -/
theorem mrRound_prime (p : Nat) [hp : Fact p.Prime] (hp2 : 2 < p) (r : Nat) (hr1 : 1 ≤ r) (hr : r < p) :
    let dc := splitTwos p (p - 1) 0
    mrRound p dc.1 dc.2 r = true := by
  intro dc
  have hdc := splitTwos_spec p (p - 1) 0
  rw [pow_zero, mul_one] at hdc
  rw [mrRound_eq_verdict]
  split
  · rfl
  · rename_i h1
    rw [beq_iff_eq] at h1
    have hr0 : (r : ZMod p) ≠ 0 := by
      intro h
      have := (ZMod.natCast_eq_zero_iff r p).mp h
      exact absurd (Nat.le_of_dvd hr1 this) (not_le.mpr hr)
    have hcast : ((r ^ dc.1 % p : Nat) : ZMod p) = (r : ZMod p) ^ dc.1 := by
      rw [ZMod.natCast_mod, Nat.cast_pow]
    -- Fermat: (r^d)^(2^c) = r^(p−1) = 1
    exact loopVerdict_of_fst (mrLoop_prime p dc.2 (r ^ dc.1 % p) (Nat.mod_lt _ hp.out.pos)
      (fun h => h1 (cast_eq_of_lt p _ _ (Nat.mod_lt _ hp.out.pos) (one_lt_two.trans hp2) (by rw [h, Nat.cast_one])))
      (by rw [hcast, ← pow_mul, hdc]; exact ZMod.pow_card_sub_one_eq_one hr0))

theorem odd_guards (n : Nat) (hodd : n % 2 = 1) (hn : 1 < n) :
    ¬ ((n : Int) ≤ 1) ∧ ((n : Int) == 2) = false ∧ (((n : Int) % 2) == 0) = false :=
  ⟨by exact_mod_cast not_le.mpr hn,
    beq_eq_false_iff_ne.mpr (by exact_mod_cast fun h : n = 2 => absurd (h ▸ hodd) (by decide)),
    beq_eq_false_iff_ne.mpr (by exact_mod_cast Nat.mod_two_ne_zero.mpr hodd)⟩

theorem isPrimeWith_odd (n : Nat) (hodd : n % 2 = 1) (hn : 1 < n) (bases : List Nat) :
    isPrimeWith (n : Int) bases =
      bases.all (fun r => mrRound n (splitTwos n (n - 1) 0).1 (splitTwos n (n - 1) 0).2 r) := by
  obtain ⟨h1, h2, h3⟩ := odd_guards n hodd hn
  simp only [isPrimeWith, h1, h2, h3, ↓reduceIte, Bool.false_eq_true, Int.toNat_natCast]

theorem isPrimeS_odd (n : Nat) (hodd : n % 2 = 1) (hn : 1 < n) (s : NTV.Draw.Stream) :
    isPrimeS (n : Int) s =
      roundsS n (splitTwos n (n - 1) 0).1 (splitTwos n (n - 1) 0).2 20 s := by
  obtain ⟨h1, h2, h3⟩ := odd_guards n hodd hn
  simp only [isPrimeS, h1, h2, h3, ↓reduceIte, Bool.false_eq_true, Int.toNat_natCast]

theorem even_guards (n : Int) (hn : 2 < n) : ¬ (n ≤ 1) ∧ (n == 2) = false :=
  ⟨not_le.mpr (one_lt_two.trans hn), beq_eq_false_iff_ne.mpr hn.ne'⟩

theorem isPrimeS_even (n : Int) (hn : 2 < n) (he : n % 2 = 0) (s : NTV.Draw.Stream) :
    isPrimeS n s = some (false, s) := by
  obtain ⟨h1, h2⟩ := even_guards n hn
  rw [isPrimeS, if_neg h1, h2, if_neg Bool.false_ne_true, he]
  rfl

/-- C13, one-sided error, top level: for a prime `n`, the model of `is_prime` answers `true`
for every list of bases drawn from `[1, n)` (any number of rounds, any history). -/
theorem isPrimeWith_prime (n : Nat) (hn : n.Prime) (bases : List Nat)
    (hb : ∀ r ∈ bases, 1 ≤ r ∧ r < n) : isPrimeWith (n : Int) bases = true := by
  rcases hn.eq_two_or_odd with rfl | hodd
  · rfl
  · have : Fact n.Prime := ⟨hn⟩
    have h2 : 2 < n := lt_of_le_of_ne hn.two_le fun h => absurd (h.symm ▸ hodd : 2 % 2 = 1) (by decide)
    rw [isPrimeWith_odd n hodd hn.one_lt, List.all_eq_true]
    exact fun r hr => mrRound_prime n h2 r (hb r hr).1 (hb r hr).2

theorem isPrimeWith_le_one (n : Int) (hn : n ≤ 1) (bases : List Nat) : isPrimeWith n bases = false := by
  rw [isPrimeWith, if_pos hn]

theorem isPrimeWith_even (n : Int) (hn : 2 < n) (he : n % 2 = 0) (bases : List Nat) :
    isPrimeWith n bases = false := by
  obtain ⟨h1, h2⟩ := even_guards n hn
  rw [isPrimeWith, if_neg h1, h2, if_neg Bool.false_ne_true, he]
  rfl

end NTV.Prime
