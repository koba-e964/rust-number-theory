import NTV.Proofs.Lemmas.PrimeProofs
namespace NTV.Prime

theorem powModLoop_spec (n : Nat) (f base e acc : Nat) (he : e < 2 ^ f) :
    powModLoop n f base e acc % n = acc * base ^ e % n := by
  fun_induction powModLoop n f base e acc with
  | case1 base e acc =>
    obtain rfl : e = 0 := Nat.lt_one_iff.mp he
    rw [pow_zero, mul_one]
  | case2 f base acc => rw [pow_zero, mul_one]
  | case3 f base e acc h0 ih =>
    rw [ih (Nat.div_lt_of_lt_mul (by rwa [pow_succ'] at he))]
    -- e = e % 2 + 2·(e / 2): the low bit goes into acc, the rest is a power of base²
    have hacc : (if e % 2 = 1 then acc * base % n else acc) ≡ acc * base ^ (e % 2) [MOD n] := by
      rcases Nat.mod_two_eq_zero_or_one e with h | h
      · rw [h, if_neg (by decide), pow_zero, mul_one]
      · rw [h, if_pos rfl, pow_one]
        exact Nat.mod_modEq _ _
    have hb : (base * base % n) ^ (e / 2) ≡ base ^ (2 * (e / 2)) [MOD n] := by
      rw [pow_mul, sq]
      exact (Nat.mod_modEq _ _).pow _
    calc _ ≡ acc * base ^ (e % 2) * base ^ (2 * (e / 2)) [MOD n] := hacc.mul hb
      _ = acc * base ^ e := by rw [mul_assoc, ← pow_add, Nat.mod_add_div]

theorem powModLoop_lt (n : Nat) (hn : 0 < n) (f base e acc : Nat) (hacc : acc < n) :
    powModLoop n f base e acc < n := by
  fun_induction powModLoop n f base e acc with
  | case1 base e acc => exact hacc
  | case2 f base acc => exact hacc
  | case3 f base e acc h0 ih =>
    apply ih
    split
    · exact Nat.mod_lt _ hn
    · exact hacc

theorem powMod_eq (b e n : Nat) (hn : 0 < n) : powMod b e n = b ^ e % n := by
  unfold powMod
  have hlt : powModLoop n (e.log2 + 1) (b % n) e (1 % n) < n :=
    powModLoop_lt n hn _ _ _ _ (Nat.mod_lt _ hn)
  have h := powModLoop_spec n (e.log2 + 1) (b % n) e (1 % n) (Nat.lt_log2_self)
  rw [Nat.mod_eq_of_lt hlt] at h
  rw [h, Nat.mul_mod, Nat.mod_mod, ← Nat.pow_mod, ← Nat.mul_mod, one_mul]

theorem mrRoundFast_eq (n d c r : Nat) (hn : 0 < n) : mrRoundFast n d c r = mrRound n d c r := by
  unfold mrRoundFast mrRound; rw [powMod_eq _ _ _ hn]

theorem range_bounds (n : Int) (s s' : NTV.Draw.Stream) (r : Int)
    (h : NTV.Draw.range 1 n s = some (r, s')) (hn : 1 < n) : 1 ≤ r ∧ r < n := by
  unfold NTV.Draw.range at h
  split at h
  · simp at h
  · rename_i v rest hb
    simp only [Option.some.injEq, Prod.mk.injEq] at h
    have := NTV.Draw.below_lt _ _ _ _ hb
    obtain ⟨rfl, _⟩ := h
    omega

theorem rounds_prime (p : Nat) [hp : Fact p.Prime] (hp2 : 2 < p) (d c : Nat)
    (hdc : splitTwos p (p - 1) 0 = (d, c)) (k : Nat) (s : NTV.Draw.Stream) :
    ∀ rest, roundsS p d c k s ≠ some (false, rest) := by
  fun_induction roundsS p d c k s with
  | case1 s => exact fun rest h => by cases h
  | case2 k s hr => exact fun rest h => by cases h
  | case3 k s r s' hr hround ih => exact ih
  | case4 k s r s' hr hround =>
    -- a failed round contradicts `mrRound_prime`: the drawn base lies in [1, p)
    obtain ⟨hr1, hr2⟩ := range_bounds p s s' r hr (by exact_mod_cast one_lt_two.trans hp2)
    have h0 : 0 ≤ r := zero_le_one.trans hr1
    have := mrRound_prime p hp2 r.toNat ((Int.le_toNat h0).mpr hr1) ((Int.toNat_lt h0).mpr hr2)
    rw [hdc] at this
    exact absurd ((mrRoundFast_eq _ _ _ _ (Nat.zero_lt_of_lt hp2)).trans this) hround

end NTV.Prime
