import NTV.Proofs.Lemmas.PrimeStream
namespace NTV.Prime

/-- a common divisor q ≥ 2 of n and tmp persists through the squarings, so tmp never becomes ±1 -/
theorem mrLoop_dvd (n q : Nat) (hq : 2 ≤ q) (hqn : q ∣ n) (hn : 2 ≤ n) (c tmp : Nat)
    (hd : q ∣ tmp) : loopVerdict (mrLoop n c tmp) = false := by
  fun_induction mrLoop n c tmp with
  | case1 tmp => exact beq_eq_false_iff_ne.mpr fun h1 => Nat.not_dvd_of_pos_of_lt Nat.one_pos hq (h1 ▸ hd)
  | case2 c tmp h =>
    rw [beq_iff_eq] at h
    subst h
    exact absurd (Nat.sub_sub_self (Nat.one_le_of_lt hn) ▸ Nat.dvd_sub hqn hd)
      (Nat.not_dvd_of_pos_of_lt Nat.one_pos hq)
  | case3 c tmp h tmp' h' => rfl
  | case4 c tmp h tmp' h' ih => exact ih ((Nat.dvd_mod_iff hqn).mpr (Dvd.dvd.mul_left hd tmp))

/-- every composite n > 2 has a base in [1, n) that makes a round fail: any proper prime divisor.
So the test is not vacuous on composites (the universal statement about primes is sharp). -/
theorem witness_exists (n q : Nat) (hn : 2 < n) (hq : q.Prime) (hqn : q ∣ n) (hlt : q < n) :
    1 ≤ q ∧ q < n ∧ mrRound n (splitTwos n (n - 1) 0).1 (splitTwos n (n - 1) 0).2 q = false := by
  have hq2 := hq.two_le
  refine ⟨Nat.le_of_succ_le hq2, hlt, ?_⟩
  have hs := splitTwos_spec n (n - 1) 0
  generalize (splitTwos n (n - 1) 0).1 = d at hs ⊢
  generalize (splitTwos n (n - 1) 0).2 = c at hs ⊢
  have hd : d ≠ 0 := by
    rintro rfl
    rw [zero_mul, pow_zero, mul_one] at hs
    omega
  have hdvd : q ∣ q ^ d % n := (Nat.dvd_mod_iff hqn).mpr (dvd_pow_self q hd)
  have h1 : ¬ (q ^ d % n == 1) = true := by
    rw [beq_iff_eq]
    intro h'
    exact Nat.not_dvd_of_pos_of_lt Nat.one_pos hq2 (h' ▸ hdvd)
  rw [mrRound_eq_verdict, if_neg h1]
  exact mrLoop_dvd n q hq2 hqn hn.le c _ hdvd

end NTV.Prime
