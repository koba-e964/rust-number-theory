import NTV.Model.Elementary
import Mathlib.NumberTheory.Bertrand
namespace NTV.Elem

theorem tdLoop_spec (a fuel d : Nat) (hd : 1 ≤ d) (hf : a + 1 ≤ d + fuel) :
    tdLoop a fuel d = true ↔ ∀ m, d ≤ m → m * m ≤ a → ¬ m ∣ a := by
  fun_induction tdLoop a fuel d with
  | case1 d =>
    exact iff_of_true rfl fun m hm hmm =>
      absurd (((Nat.le_mul_self m).trans hmm).trans_lt (hf.trans hm)) (lt_irrefl m)
  | case2 fuel d hdd hmod =>
    exact iff_of_false Bool.false_ne_true fun h => h d le_rfl hdd (Nat.dvd_of_mod_eq_zero hmod)
  | case3 fuel d hdd hmod ih =>
    rw [ih (Nat.le_succ_of_le hd) (by rw [Nat.add_right_comm]; exact hf)]
    constructor
    · intro h m hm hmm
      rcases Nat.eq_or_lt_of_le hm with rfl | hlt
      · exact fun hdvd => hmod (Nat.mod_eq_zero_of_dvd hdvd)
      · exact h m hlt hmm
    · exact fun h m hm hmm => h m (Nat.le_of_succ_le hm) hmm
  | case4 fuel d hdd =>
    exact iff_of_true rfl fun m hm hmm => absurd ((Nat.mul_le_mul hm hm).trans hmm) hdd

theorem isPrimeTD_iff (a : Nat) : isPrimeTD a = true ↔ a.Prime := by
  unfold isPrimeTD
  split
  · rename_i h
    simp only [Bool.false_eq_true, false_iff]
    exact fun hp => absurd hp.one_lt (not_lt.mpr h)
  · rename_i h
    rw [tdLoop_spec a a 2 (by decide) (by rw [Nat.add_comm 2 a]; exact Nat.le_succ _), Nat.prime_def_le_sqrt]
    constructor
    · intro hall
      refine ⟨Nat.lt_of_not_le h, ?_⟩
      intro m hm hms
      exact hall m hm (Nat.le_sqrt.mp hms)
    · rintro ⟨_, hall⟩ m hm hmm
      exact hall m hm (Nat.le_sqrt.mpr hmm)

theorem nextPrime_spec (fuel now p : Nat) (hp : p.Prime) (hle : now ≤ p)
    (hmin : ∀ q, q.Prime → now ≤ q → p ≤ q) (hf : p - now < fuel) : nextPrime fuel now = some p := by
  fun_induction nextPrime fuel now with
  | case1 now => exact absurd hf (Nat.not_lt_zero _)
  | case2 fuel now hnow =>
    exact congrArg some (le_antisymm hle (hmin now ((isPrimeTD_iff now).mp hnow) le_rfl))
  | case3 fuel now hnow ih =>
    have hlt : now < p := lt_of_le_of_ne hle fun e => hnow (e ▸ (isPrimeTD_iff p).mpr hp)
    exact ih hlt (fun q hq hq1 => hmin q hq (Nat.le_of_succ_le hq1)) (by omega)

end NTV.Elem
