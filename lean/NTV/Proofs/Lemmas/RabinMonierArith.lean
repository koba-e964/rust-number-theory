import NTV.Proofs.Lemmas.RabinMonierLiars
import Mathlib.RingTheory.ZMod.UnitsCyclic
import Mathlib.Data.Nat.Factorization.Basic
/-! Arithmetic side of the Rabin–Monier bound: shape of an odd composite number, exponents of the
unit groups modulo odd prime powers, "Korselt"-type facts for numbers with two prime factors. -/
namespace NTV.RM
open ZMod

theorem exponent_units_prime_pow (p α : ℕ) (hp : p.Prime) (hp2 : p ≠ 2) (hα : 1 ≤ α) :
    Monoid.exponent (ZMod (p ^ α))ˣ = p ^ (α - 1) * (p - 1) := by
  have : NeZero (p ^ α) := ⟨pow_ne_zero _ hp.ne_zero⟩
  have hcyc := ZMod.isCyclic_units_of_prime_pow p hp hp2 α
  rw [IsCyclic.exponent_eq_card, Nat.card_eq_fintype_card, ZMod.card_units_eq_totient,
    Nat.totient_prime_pow hp hα]

theorem exists_prime_pow_mul {n p : ℕ} (hn0 : n ≠ 0) (hp : p.Prime) (hpn : p ∣ n) :
    ∃ α m, 1 ≤ α ∧ m ≠ 0 ∧ ¬ p ∣ m ∧ n = p ^ α * m := by
  obtain ⟨α, m, hpm, hnm⟩ := Nat.exists_eq_pow_mul_and_not_dvd hn0 p hp.ne_one
  refine ⟨α, m, ?_, ?_, hpm, hnm⟩
  · rcases α with _ | α
    · rw [pow_zero, one_mul] at hnm
      exact absurd (hnm ▸ hpn) hpm
    · exact Nat.succ_pos α
  · rintro rfl
    exact hn0 (by rw [hnm, mul_zero])

/-- shape of a composite number: a prime power p^α (α ≥ 2), or p^α·q^β with p < q, or a product of
three pairwise coprime factors > 1. -/
theorem composite_cases (n : ℕ) (hn1 : 1 < n) (hcomp : ¬ n.Prime) :
    (∃ p α, p.Prime ∧ 2 ≤ α ∧ n = p ^ α) ∨
    (∃ p q α β, p.Prime ∧ q.Prime ∧ p < q ∧ 1 ≤ α ∧ 1 ≤ β ∧ n = p ^ α * q ^ β) ∨
    (∃ m₁ k₁ k₂, n = m₁ * (k₁ * k₂) ∧ m₁.Coprime (k₁ * k₂) ∧ k₁.Coprime k₂ ∧
      1 < m₁ ∧ 1 < k₁ ∧ 1 < k₂) := by
  have hp : (n.minFac).Prime := Nat.minFac_prime hn1.ne'
  set p := n.minFac with hpdef
  obtain ⟨α, m, hα, hm0, hpm, hnm⟩ := exists_prime_pow_mul (Nat.ne_zero_of_lt hn1) hp (Nat.minFac_dvd n)
  by_cases hm1 : m = 1
  · left
    refine ⟨p, α, hp, ?_, by rw [hnm, hm1, mul_one]⟩
    by_contra h
    obtain rfl : α = 1 := le_antisymm (Nat.le_of_lt_succ (not_le.mp h)) hα
    rw [hm1, pow_one, mul_one] at hnm
    exact hcomp (hnm ▸ hp)
  · right
    have hq : (m.minFac).Prime := Nat.minFac_prime hm1
    set q := m.minFac with hqdef
    have hqm : q ∣ m := Nat.minFac_dvd m
    obtain ⟨β, m', hβ, hm'0, hqm', hmm'⟩ := exists_prime_pow_mul hm0 hq hqm
    by_cases hm'1 : m' = 1
    · left
      have hpq : p ≤ q := Nat.minFac_le_of_dvd hq.two_le (hnm ▸ Dvd.dvd.mul_left hqm _)
      have hne : p ≠ q := fun h => hpm (h ▸ hqm)
      exact ⟨p, q, α, β, hp, hq, lt_of_le_of_ne hpq hne, hα, hβ, by rw [hnm, hmm', hm'1, mul_one]⟩
    · right
      exact ⟨p ^ α, q ^ β, m', by rw [hnm, hmm'],
        hmm' ▸ Nat.Coprime.pow_left _ ((Nat.Prime.coprime_iff_not_dvd hp).mpr hpm),
        Nat.Coprime.pow_left _ ((Nat.Prime.coprime_iff_not_dvd hq).mpr hqm'),
        Nat.one_lt_pow (Nat.one_le_iff_ne_zero.mp hα) hp.one_lt,
        Nat.one_lt_pow (Nat.one_le_iff_ne_zero.mp hβ) hq.one_lt,
        lt_of_le_of_ne (Nat.one_le_iff_ne_zero.mpr hm'0) (Ne.symm hm'1)⟩

theorem not_dvd_pred {p n : ℕ} (hp : 1 < p) (hpn : p ∣ n) (hn : 1 ≤ n) : ¬ p ∣ n - 1 := fun h =>
  Nat.not_dvd_of_pos_of_lt Nat.one_pos hp (Nat.sub_sub_self hn ▸ Nat.dvd_sub hpn h)

/-- a number with exactly two prime factors is not a Carmichael number (Korselt), in the form needed:
the exponent of the unit group modulo one of the two prime powers does not divide n − 1 -/
theorem two_primes_not_carmichael (p q α β : ℕ) (hp : p.Prime) (hq : q.Prime) (hp2 : p ≠ 2)
    (hq2 : q ≠ 2) (hpq : p < q) (hα : 1 ≤ α) (hβ : 1 ≤ β) :
    ¬ Monoid.exponent (ZMod (p ^ α))ˣ ∣ p ^ α * q ^ β - 1 ∨
    ¬ Monoid.exponent (ZMod (q ^ β))ˣ ∣ p ^ α * q ^ β - 1 := by
  rw [exponent_units_prime_pow p α hp hp2 hα, exponent_units_prime_pow q β hq hq2 hβ]
  have hpos : 1 ≤ p ^ α * q ^ β := Nat.one_le_iff_ne_zero.mpr
    (mul_ne_zero (pow_ne_zero _ hp.ne_zero) (pow_ne_zero _ hq.ne_zero))
  -- a repeated prime factor divides the exponent and n, hence not n − 1
  have hα0 : α ≠ 0 := Nat.one_le_iff_ne_zero.mp hα
  have hβ0 : β ≠ 0 := Nat.one_le_iff_ne_zero.mp hβ
  by_cases h2 : 2 ≤ α
  · exact .inl fun h => not_dvd_pred hp.one_lt (Dvd.dvd.mul_right (dvd_pow_self p hα0) _) hpos
      (dvd_trans (Dvd.dvd.mul_right (dvd_pow_self p (Nat.sub_ne_zero_of_lt h2)) _) h)
  by_cases h2' : 2 ≤ β
  · exact .inr fun h => not_dvd_pred hq.one_lt (Dvd.dvd.mul_left (dvd_pow_self q hβ0) _) hpos
      (dvd_trans (Dvd.dvd.mul_right (dvd_pow_self q (Nat.sub_ne_zero_of_lt h2')) _) h)
  -- n = p·q: q − 1 ∣ p·q − 1 = p·(q − 1) + (p − 1) would give q − 1 ≤ p − 1
  right
  obtain rfl : α = 1 := le_antisymm (Nat.le_of_lt_succ (not_le.mp h2)) hα
  obtain rfl : β = 1 := le_antisymm (Nat.le_of_lt_succ (not_le.mp h2')) hβ
  obtain ⟨q', rfl⟩ := Nat.exists_eq_succ_of_ne_zero hq.ne_zero
  rw [pow_one, pow_one, Nat.sub_self, pow_zero, one_mul, Nat.succ_sub_one, Nat.mul_succ,
    Nat.add_sub_assoc hp.one_lt.le, Nat.dvd_add_right (Dvd.intro_left _ rfl)]
  intro h
  have h1 := hp.one_lt
  have := Nat.le_of_dvd (Nat.sub_pos_of_lt h1) h
  omega

end NTV.RM
