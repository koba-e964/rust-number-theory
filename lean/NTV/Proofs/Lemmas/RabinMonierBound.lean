import NTV.Proofs.Lemmas.RabinMonierMain
import NTV.Proofs.Lemmas.RabinMonierModel
/-! (R2) the Rabin–Monier bound for the model's round function `mrRound`. -/
namespace NTV.Prime
open NTV.RM

theorem natCast_pred_eq_neg_one (n : Nat) (hn : 1 ≤ n) : ((n - 1 : Nat) : ZMod n) = -1 := by
  rw [Nat.cast_sub hn]; simp

theorem liar_zmod (n d c a : Nat) (hn : 3 ≤ n) (h : mrRound n d c a = true) :
    (a : ZMod n) ^ d = 1 ∨ ∃ i, i < c ∧ (a : ZMod n) ^ (d * 2 ^ i) = -1 := by
  rcases (strongLiar_iff n d c a hn).mp h with h | ⟨i, hi, h⟩
  · left
    have := (ZMod.natCast_eq_natCast_iff _ _ n).mpr h
    rwa [Nat.cast_pow, Nat.cast_one] at this
  · right
    refine ⟨i, hi, ?_⟩
    have := (ZMod.natCast_eq_natCast_iff _ _ n).mpr h
    rwa [natCast_pred_eq_neg_one n (Nat.one_le_of_lt hn), Nat.cast_pow] at this

theorem liar_isUnit (n d c a : Nat) (hn : 3 ≤ n) (hd : 0 < d) (h : mrRound n d c a = true) :
    IsUnit (a : ZMod n) := by
  rcases liar_zmod n d c a hn h with h | ⟨i, _, h⟩
  · exact IsUnit.of_pow_eq_one h hd.ne'
  · have h2 : (a : ZMod n) ^ (d * 2 ^ i * 2) = 1 := by rw [pow_mul, h, neg_one_sq]
    exact IsUnit.of_pow_eq_one h2 (Nat.mul_pos (Nat.mul_pos hd (Nat.two_pow_pos i)) two_pos).ne'

/-- the map from bases to units used for counting -/
noncomputable def toUnit (n a : Nat) : (ZMod n)ˣ :=
  open Classical in if h : IsUnit (a : ZMod n) then h.unit else 1

theorem toUnit_val (n a : Nat) (h : IsUnit (a : ZMod n)) : ((toUnit n a : (ZMod n)ˣ) : ZMod n) = a := by
  unfold toUnit; rw [dif_pos h]; rfl

theorem liarU_toUnit (n d c a : Nat) (hn : 3 ≤ n) (hd : 0 < d) (h : mrRound n d c a = true) :
    LiarU d c (toUnit n a) := by
  have hu := liar_isUnit n d c a hn hd h
  rcases liar_zmod n d c a hn h with h | ⟨i, hi, h⟩
  · left; apply Units.ext; rw [Units.val_pow_eq_pow_val, toUnit_val n a hu, h]; rfl
  · right; refine ⟨i, hi, ?_⟩
    apply Units.ext; rw [Units.val_pow_eq_pow_val, toUnit_val n a hu, h]; rfl

/-- (R2) **Rabin–Monier**: for an odd composite n, at most (n − 1)/4 of the bases in [1, n − 1]
pass a Miller–Rabin round (with the decomposition n − 1 = d·2^c computed by the model). -/
theorem strong_liars_le_quarter (n : Nat) (hodd : n % 2 = 1) (hn : 1 < n) (hcomp : ¬ n.Prime) :
    ((Finset.Icc 1 (n - 1)).filter (fun a =>
      mrRound n (splitTwos n (n - 1) 0).1 (splitTwos n (n - 1) 0).2 a = true)).card ≤ (n - 1) / 4 := by
  classical
  obtain ⟨hd, hc, hdc⟩ := splitTwos_decomp n hodd hn
  generalize (splitTwos n (n - 1) 0).1 = d at hd hdc ⊢
  generalize (splitTwos n (n - 1) 0).2 = c at hc hdc ⊢
  have hn3 : 3 ≤ n := lt_of_le_of_ne hn fun (h : 2 = n) => absurd (h.symm ▸ hodd : 2 % 2 = 1) (by decide)
  have : NeZero n := ⟨Nat.ne_zero_of_lt hn⟩
  set L := (Finset.Icc 1 (n - 1)).filter (fun a => mrRound n d c a = true)
  have hmem : ∀ {a}, a ∈ L → a < n ∧ mrRound n d c a = true := by
    intro a ha
    rw [Finset.mem_filter, Finset.mem_Icc] at ha
    exact ⟨Nat.lt_of_le_pred (Nat.zero_lt_of_lt hn) ha.1.2, ha.2⟩
  have hinj : Set.InjOn (toUnit n) (L : Set Nat) := by
    intro a ha b hb hab
    obtain ⟨la, ra⟩ := hmem ha
    obtain ⟨lb, rb⟩ := hmem hb
    have := congrArg Units.val hab
    rw [toUnit_val n a (liar_isUnit n d c a hn3 hd.pos ra),
      toUnit_val n b (liar_isUnit n d c b hn3 hd.pos rb)] at this
    exact cast_eq_of_lt n a b la lb this
  have key := liarU_card_le n (Nat.odd_iff.mpr hodd) hn hcomp d c hd hc hdc (L.image (toUnit n))
    (by
      intro u hu
      obtain ⟨a, ha, rfl⟩ := Finset.mem_image.mp hu
      exact liarU_toUnit n d c a hn3 hd.pos (hmem ha).2)
  rw [Finset.card_image_of_injOn hinj, mul_comm] at key
  exact (Nat.le_div_iff_mul_le (by norm_num)).mpr key

end NTV.Prime
