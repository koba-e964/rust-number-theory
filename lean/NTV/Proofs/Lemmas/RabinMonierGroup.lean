import Mathlib.Data.ZMod.Units
import Mathlib.GroupTheory.Coset.Card
import Mathlib.Algebra.Group.Subgroup.Finite
import Mathlib.GroupTheory.Exponent
/-! Group-theoretic core of the Rabin–Monier bound: subgroups of `(ZMod n)ˣ` cut out by
"`u^t ≡ ±1` modulo a divisor of n", a counting lemma for chains of subgroups, and CRT for units. -/
namespace NTV.RM

open ZMod

theorem card_chain4 {G : Type*} [Group G] [Finite G] (K₀ K₁ K₂ : Subgroup G)
    (h01 : K₀ ≤ K₁) (h12 : K₁ ≤ K₂) (n01 : K₀ ≠ K₁) (n12 : K₁ ≠ K₂) :
    4 * Nat.card K₀ ≤ Nat.card G := by
  have step : ∀ (A B : Subgroup G), A ≤ B → A ≠ B → 2 * Nat.card A ≤ Nat.card B := by
    intro A B hAB hne
    obtain ⟨k, hk⟩ := Subgroup.card_dvd_of_le hAB
    rw [hk, mul_comm]
    refine Nat.mul_le_mul_left _ (Nat.lt_of_le_of_ne (Nat.pos_of_ne_zero ?_) ?_)
    · rintro rfl
      exact Nat.card_pos.ne' (hk.trans (mul_zero _))
    · rintro rfl
      exact hne (Subgroup.eq_of_le_of_card_ge hAB (by rw [hk, mul_one]))
  calc 4 * Nat.card K₀ = 2 * (2 * Nat.card K₀) := Nat.mul_assoc 2 2 _
    _ ≤ 2 * Nat.card K₁ := Nat.mul_le_mul_left _ (step K₀ K₁ h01 n01)
    _ ≤ Nat.card K₂ := step K₁ K₂ h12 n12
    _ ≤ Nat.card G := Subgroup.card_le_card_group K₂

/-- the subgroup `{1, −1}` of the units of a commutative ring -/
def pmSub (R : Type*) [CommRing R] : Subgroup Rˣ where
  carrier := {u | u = 1 ∨ u = -1}
  one_mem' := Or.inl rfl
  mul_mem' := by
    rintro a b (rfl | rfl) (rfl | rfl) <;> simp
  inv_mem' := by
    rintro a (rfl | rfl) <;> simp

theorem mem_pmSub {R : Type*} [CommRing R] (u : Rˣ) : u ∈ pmSub R ↔ u = 1 ∨ u = -1 := Iff.rfl

/-- `P hm t` = units u of `ZMod n` with `u^t ≡ ±1 (mod m)`, for a divisor m of n -/
def P {n m : ℕ} (hm : m ∣ n) (t : ℕ) : Subgroup (ZMod n)ˣ :=
  (pmSub (ZMod m)).comap ((powMonoidHom t).comp (unitsMap hm))

theorem mem_P {n m : ℕ} (hm : m ∣ n) (t : ℕ) (u : (ZMod n)ˣ) :
    u ∈ P hm t ↔ (unitsMap hm u) ^ t = 1 ∨ (unitsMap hm u) ^ t = -1 := Iff.rfl

theorem mem_P_self {n : ℕ} (t : ℕ) (u : (ZMod n)ˣ) :
    u ∈ P (dvd_refl n) t ↔ u ^ t = 1 ∨ u ^ t = -1 := by
  rw [mem_P, unitsMap_self]; rfl

theorem unitsMap_neg_one {n m : ℕ} (hm : m ∣ n) : unitsMap hm (-1) = -1 := by
  rw [unitsMap_def]; exact Units.map_neg_one _

theorem unitsMap_unitsMap {n m k : ℕ} (hk : k ∣ m) (hm : m ∣ n) (u : (ZMod n)ˣ) :
    unitsMap hk (unitsMap hm u) = unitsMap (dvd_trans hk hm) u := by
  rw [← unitsMap_comp hk hm]; rfl

theorem pow_unitsMap_trans {n m k : ℕ} (hk : k ∣ m) (hm : m ∣ n) (u : (ZMod n)ˣ) (t : ℕ) :
    unitsMap (dvd_trans hk hm) u ^ t = unitsMap hk (unitsMap hm u ^ t) := by
  rw [MonoidHom.map_pow, unitsMap_unitsMap]

theorem P_mono {n m k : ℕ} (hk : k ∣ m) (hm : m ∣ n) (t : ℕ) :
    P hm t ≤ P (dvd_trans hk hm) t := by
  intro u hu
  rw [mem_P] at hu ⊢
  rw [pow_unitsMap_trans hk hm]
  rcases hu with h | h
  · left; rw [h, MonoidHom.map_one]
  · right; rw [h, unitsMap_neg_one]

theorem neg_one_ne_one_units {m : ℕ} (hm : 2 < m) : (-1 : (ZMod m)ˣ) ≠ 1 := by
  intro h
  have h' : (-1 : ZMod m) = 1 := by
    have := congrArg Units.val h
    simpa using this
  have : Fact (2 < m) := ⟨hm⟩
  exact ZMod.neg_one_ne_one h'

theorem crt_unit {n m₁ m₂ : ℕ} [NeZero n] (h₁ : m₁ ∣ n) (h₂ : m₂ ∣ n) (hc : m₁.Coprime m₂)
    (u₁ : (ZMod m₁)ˣ) (u₂ : (ZMod m₂)ˣ) :
    ∃ u : (ZMod n)ˣ, unitsMap h₁ u = u₁ ∧ unitsMap h₂ u = u₂ := by
  have hn0 : n ≠ 0 := NeZero.ne n
  have hm1 : NeZero m₁ := ⟨fun h => hn0 (by rw [h] at h₁; exact zero_dvd_iff.mp h₁)⟩
  have hm2 : NeZero m₂ := ⟨fun h => hn0 (by rw [h] at h₂; exact zero_dvd_iff.mp h₂)⟩
  have h12 : m₁ * m₂ ∣ n := hc.mul_dvd_of_dvd_of_dvd h₁ h₂
  obtain ⟨k, hk1, hk2⟩ := Nat.chineseRemainder hc u₁.val.val u₂.val.val
  have c1 : k.Coprime m₁ := by
    rw [Nat.Coprime, Nat.ModEq.gcd_eq hk1]
    exact ZMod.val_coe_unit_coprime u₁
  have c2 : k.Coprime m₂ := by
    rw [Nat.Coprime, Nat.ModEq.gcd_eq hk2]
    exact ZMod.val_coe_unit_coprime u₂
  have c12 : k.Coprime (m₁ * m₂) := Nat.Coprime.mul_right c1 c2
  obtain ⟨u, hu⟩ := unitsMap_surjective h12 (unitOfCoprime k c12)
  have key : ∀ {m : ℕ} [NeZero m] (hm : m ∣ m₁ * m₂) (v : (ZMod m)ˣ), k ≡ v.val.val [MOD m] →
      unitsMap (hm.trans h12) u = v := by
    intro m _ hm v hk
    rw [← unitsMap_unitsMap hm h12, hu]
    apply Units.ext
    rw [unitsMap_val, coe_unitOfCoprime, ZMod.cast_natCast hm,
      (ZMod.natCast_eq_natCast_iff _ _ _).mpr hk, ZMod.natCast_zmod_val]
  exact ⟨u, key (Dvd.intro _ rfl) u₁ hk1, key (Dvd.intro_left _ rfl) u₂ hk2⟩

theorem split_strict {n m₁ m₂ : ℕ} [NeZero n] (h₁ : m₁ ∣ n) (h₂ : m₂ ∣ n) (hc : m₁.Coprime m₂)
    (g₁ : 2 < m₁) (g₂ : 2 < m₂) (t : ℕ) (a₀ : (ZMod n)ˣ) (ha₀ : a₀ ^ t = -1)
    (hM : m₁ * m₂ ∣ n) :
    ∃ b : (ZMod n)ˣ, b ∈ P h₁ t ∧ b ∈ P h₂ t ∧ b ∉ P hM t := by
  obtain ⟨b, hb1, hb2⟩ := crt_unit h₁ h₂ hc (unitsMap h₁ a₀) 1
  have e1 : (unitsMap h₁ b) ^ t = -1 := by
    rw [hb1, ← MonoidHom.map_pow, ha₀, unitsMap_neg_one]
  have e2 : (unitsMap h₂ b) ^ t = 1 := by rw [hb2, one_pow]
  refine ⟨b, Or.inr e1, Or.inl e2, ?_⟩
  intro hb
  rw [mem_P] at hb
  rcases hb with hb | hb
  · -- ≡ 1 mod m₁ m₂, so ≡ 1 mod m₁, but it is −1 there
    have := pow_unitsMap_trans (Dvd.intro _ rfl : m₁ ∣ m₁ * m₂) hM b t
    rw [hb, MonoidHom.map_one, e1] at this
    exact neg_one_ne_one_units g₁ this
  · have := pow_unitsMap_trans (Dvd.intro_left _ rfl : m₂ ∣ m₁ * m₂) hM b t
    rw [hb, unitsMap_neg_one, e2] at this
    exact neg_one_ne_one_units g₂ this.symm

theorem quarter_of_split {n m₁ m₂ : ℕ} [NeZero n] (hn : m₁ * m₂ = n) (hc : m₁.Coprime m₂)
    (g₁ : 2 < m₁) (g₂ : 2 < m₂) (t : ℕ) (a₀ : (ZMod n)ˣ) (ha₀ : a₀ ^ t = -1)
    (w : (ZMod n)ˣ)
    (hw : ¬ (w ∈ P (Dvd.intro _ hn : m₁ ∣ n) t ∧ w ∈ P (Dvd.intro_left _ hn : m₂ ∣ n) t)) :
    4 * Nat.card (P (dvd_refl n) t) ≤ Nat.card (ZMod n)ˣ := by
  subst hn
  have h₁ : m₁ ∣ m₁ * m₂ := Dvd.intro _ rfl
  have h₂ : m₂ ∣ m₁ * m₂ := Dvd.intro_left _ rfl
  obtain ⟨b, b1, b2, b3⟩ := split_strict h₁ h₂ hc g₁ g₂ t a₀ ha₀ dvd_rfl
  -- P(n) < P(m₁) ⊓ P(m₂) < ⊤, strict at b and at w
  exact card_chain4 (P dvd_rfl t) (P h₁ t ⊓ P h₂ t) ⊤ (le_inf (P_mono h₁ dvd_rfl t) (P_mono h₂ dvd_rfl t))
    le_top (fun h => b3 (h ▸ Subgroup.mem_inf.mpr ⟨b1, b2⟩))
    (fun h => hw (Subgroup.mem_inf.mp (h ▸ Subgroup.mem_top w)))

theorem exists_not_mem_P_of_exponent {n m : ℕ} [NeZero n] (hm : m ∣ n) (t : ℕ)
    (h2t : 2 * t ∣ n - 1) (hexp : ¬ Monoid.exponent (ZMod m)ˣ ∣ n - 1) :
    ∃ w : (ZMod n)ˣ, w ∉ P hm t := by
  by_contra! hall
  apply hexp
  apply Monoid.exponent_dvd_of_forall_pow_eq_one
  intro x
  obtain ⟨w, rfl⟩ := unitsMap_surjective hm x
  have hw := hall w
  rw [mem_P] at hw
  obtain ⟨k, hk⟩ := h2t
  have h2 : (unitsMap hm w) ^ (2 * t) = 1 := by
    rw [mul_comm, pow_mul]
    rcases hw with h | h
    · rw [h, one_pow]
    · rw [h, neg_one_sq]
  rw [hk, pow_mul, h2, one_pow]

end NTV.RM
