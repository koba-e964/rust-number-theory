import NTV.Proofs.Lemmas.RabinMonierGroup
/-! Strong liars inside `(ZMod n)ˣ`: they all lie in the subgroup `{u | u^t = ±1}` for a suitable
`t` with `2t ∣ n − 1` such that `−1` is a t-th power. -/
namespace NTV.RM
open ZMod

def LiarU {n : ℕ} (d c : ℕ) (u : (ZMod n)ˣ) : Prop :=
  u ^ d = 1 ∨ ∃ i, i < c ∧ u ^ (d * 2 ^ i) = -1

theorem exists_t {n : ℕ} (d c : ℕ) (hd : Odd d) (hc : 1 ≤ c) (hn : n - 1 = d * 2 ^ c) :
    ∃ (t : ℕ) (a₀ : (ZMod n)ˣ), 2 * t ∣ n - 1 ∧ a₀ ^ t = -1 ∧
      ∀ u : (ZMod n)ˣ, LiarU d c u → u ∈ P (dvd_refl n) t := by
  classical
  let Q : ℕ → Prop := fun i => ∃ u : (ZMod n)ˣ, u ^ (d * 2 ^ i) = -1
  have hQ0 : Q 0 := ⟨-1, by rw [pow_zero, mul_one, hd.neg_one_pow]⟩
  -- i₀ = the largest i < c for which −1 is a (d·2^i)-th power
  obtain ⟨i₀, hle, ⟨a₀, ha₀⟩, hmax⟩ : ∃ i₀, i₀ ≤ c - 1 ∧ Q i₀ ∧ ∀ i, i ≤ c - 1 → Q i → i ≤ i₀ :=
    ⟨Nat.findGreatest Q (c - 1), Nat.findGreatest_le _, Nat.findGreatest_spec (Nat.zero_le _) hQ0,
      fun i hi h => Nat.le_findGreatest hi h⟩
  refine ⟨d * 2 ^ i₀, a₀, ?_, ha₀, ?_⟩
  · obtain ⟨k, rfl⟩ := Nat.exists_eq_add_of_le (Nat.add_le_of_le_sub hc hle)
    rw [hn, pow_add, pow_succ]
    exact ⟨2 ^ k, by ring⟩
  · intro u hu
    rw [mem_P_self]
    rcases hu with h | ⟨i, hi, h⟩
    · left; rw [pow_mul, h, one_pow]
    · obtain ⟨k, rfl⟩ := Nat.exists_eq_add_of_le (hmax i (Nat.le_sub_one_of_lt hi) ⟨u, h⟩)
      rw [pow_add, ← mul_assoc, pow_mul, h]
      exact neg_one_pow_eq_or _ _

end NTV.RM
