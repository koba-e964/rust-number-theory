import NTV.Proofs.Lemmas.RabinMonierArith
import Mathlib.GroupTheory.SpecificGroups.Cyclic
/-! The Rabin–Monier bound inside `(ZMod n)ˣ`: for odd composite n with n − 1 = d·2^c (d odd), at
most (n − 1)/4 units are strong liars. -/
namespace NTV.RM
open ZMod

theorem LiarU.pow_eq_one {n : ℕ} {d c : ℕ} {u : (ZMod n)ˣ} (h : LiarU d c u) :
    u ^ (d * 2 ^ c) = 1 := by
  rcases h with h | ⟨i, hi, h⟩
  · rw [pow_mul, h, one_pow]
  · obtain ⟨k, rfl⟩ := Nat.exists_eq_add_of_lt hi
    have : d * 2 ^ (i + k + 1) = d * 2 ^ i * 2 * 2 ^ k := by ring
    rw [this, pow_mul, pow_mul, h, neg_one_sq, one_pow]

theorem odd_dvd_gt_two {n m : ℕ} (hodd : Odd n) (hm : m ∣ n) (h1 : 1 < m) : 2 < m := by
  rcases Nat.lt_or_ge 2 m with h | h
  · exact h
  · obtain rfl : m = 2 := le_antisymm h h1
    exact absurd (even_iff_two_dvd.mpr hm) (Nat.not_even_iff_odd.mpr hodd)

theorem card_le_of_subset_subgroup {G : Type*} [Group G] [Finite G] (S : Finset G) (K : Subgroup G)
    (h : ∀ u ∈ S, u ∈ K) : S.card ≤ Nat.card K := by
  rw [← Set.ncard_coe_finset S, ← SetLike.coe_sort_coe, Nat.card_coe_set_eq]
  exact Set.ncard_le_ncard (fun u hu => h u (by simpa using hu)) (Set.toFinite _)

theorem card_units_le {n : ℕ} [NeZero n] (hn1 : 1 < n) : Nat.card (ZMod n)ˣ ≤ n - 1 := by
  rw [Nat.card_eq_fintype_card, ZMod.card_units_eq_totient]
  exact Nat.le_sub_one_of_lt (Nat.totient_lt n hn1)

theorem four_mul_pred_le_sq (p : ℕ) (hp : 3 ≤ p) : 4 * (p - 1) ≤ p ^ 2 - 1 := by
  have h : p ^ 2 - 1 ^ 2 = (p + 1) * (p - 1) := Nat.sq_sub_sq p 1
  rw [one_pow] at h
  rw [h]
  exact Nat.mul_le_mul_right _ (Nat.succ_le_succ hp)

theorem liarU_card_prime_pow (p α : ℕ) (hp : p.Prime) (hp2 : p ≠ 2) (hα : 2 ≤ α) (d c : ℕ)
    (hdc : p ^ α - 1 = d * 2 ^ c) (S : Finset (ZMod (p ^ α))ˣ) (hS : ∀ u ∈ S, LiarU d c u) :
    4 * S.card ≤ p ^ α - 1 := by
  classical
  have : NeZero (p ^ α) := ⟨pow_ne_zero _ hp.ne_zero⟩
  have hcyc := ZMod.isCyclic_units_of_prime_pow p hp hp2 α
  have hp3 : 3 ≤ p := lt_of_le_of_ne hp.two_le (Ne.symm hp2)
  have hα0 : 0 < α := Nat.lt_of_lt_of_le two_pos hα
  have hcard : Fintype.card (ZMod (p ^ α))ˣ = p ^ (α - 1) * (p - 1) := by
    rw [ZMod.card_units_eq_totient, Nat.totient_prime_pow hp hα0]
  have hcop : Nat.Coprime (p ^ (α - 1)) (p ^ α - 1) :=
    Nat.Coprime.pow_left _ ((Nat.Prime.coprime_iff_not_dvd hp).mpr
      (not_dvd_pred hp.one_lt (dvd_pow_self p hα0.ne') (Nat.one_le_pow _ _ hp.pos)))
  have hg : Nat.gcd (p ^ α - 1) (p ^ (α - 1) * (p - 1)) ∣ p - 1 := by
    rw [Nat.Coprime.gcd_mul_left_cancel_right _ hcop]
    exact Nat.gcd_dvd_right _ _
  have hpm : ∀ u ∈ S, u ^ (p - 1) = 1 := by
    intro u hu
    have h1 : u ^ (p ^ α - 1) = 1 := by rw [hdc]; exact (hS u hu).pow_eq_one
    have h2 : u ^ (p ^ (α - 1) * (p - 1)) = 1 := by rw [← hcard]; exact pow_card_eq_one
    have h3 := pow_gcd_eq_one.mpr ⟨h1, h2⟩
    obtain ⟨k, hk⟩ := hg
    rw [hk, pow_mul, h3, one_pow]
  have hsub : S ⊆ Finset.univ.filter (fun u : (ZMod (p ^ α))ˣ => u ^ (p - 1) = 1) := by
    intro u hu
    exact Finset.mem_filter.mpr ⟨Finset.mem_univ u, hpm u hu⟩
  have hle : S.card ≤ p - 1 :=
    (Finset.card_le_card hsub).trans (IsCyclic.card_pow_eq_one_le (Nat.sub_pos_of_lt hp.one_lt))
  calc 4 * S.card ≤ 4 * (p - 1) := Nat.mul_le_mul_left _ hle
    _ ≤ p ^ 2 - 1 := four_mul_pred_le_sq p hp3
    _ ≤ p ^ α - 1 := Nat.sub_le_sub_right (Nat.pow_le_pow_right hp.pos hα) 1

/-- the Rabin–Monier bound for units -/
theorem liarU_card_le (n : ℕ) [NeZero n] (hodd : Odd n) (hn1 : 1 < n) (hcomp : ¬ n.Prime)
    (d c : ℕ) (hd : Odd d) (hc : 1 ≤ c) (hdc : n - 1 = d * 2 ^ c)
    (S : Finset (ZMod n)ˣ) (hS : ∀ u ∈ S, LiarU d c u) : 4 * S.card ≤ n - 1 := by
  have hne2 : ∀ {p k : ℕ}, k ≠ 0 → p ^ k ∣ n → p ≠ 2 := by
    rintro p k hk h rfl
    exact Nat.not_even_iff_odd.mpr hodd (even_iff_two_dvd.mpr ((dvd_pow_self 2 hk).trans h))
  rcases composite_cases n hn1 hcomp with ⟨p, α, hp, hα, rfl⟩ | hBC
  · exact liarU_card_prime_pow p α hp (hne2 (Nat.lt_of_lt_of_le two_pos hα).ne' dvd_rfl) hα d c hdc S hS
  obtain ⟨t, a₀, h2t, ha₀, hL⟩ := exists_t (n := n) d c hd hc hdc
  -- enough: n = m₁·m₂ with coprime factors > 2, and a unit that is not ±1 modulo both after ^t
  have fin : ∀ (m₁ m₂ : ℕ) (hn : m₁ * m₂ = n), m₁.Coprime m₂ → 1 < m₁ → 1 < m₂ →
      (∃ w : (ZMod n)ˣ, ¬ (w ∈ P (Dvd.intro _ hn : m₁ ∣ n) t ∧ w ∈ P (Dvd.intro_left _ hn : m₂ ∣ n) t)) →
      4 * S.card ≤ n - 1 := by
    rintro m₁ m₂ hn hcop g1 g2 ⟨w, hw⟩
    calc 4 * S.card ≤ 4 * Nat.card (P (dvd_refl n) t) :=
          Nat.mul_le_mul_left _ (card_le_of_subset_subgroup S _ fun u hu => hL u (hS u hu))
      _ ≤ Nat.card (ZMod n)ˣ :=
          quarter_of_split hn hcop (odd_dvd_gt_two hodd (Dvd.intro _ hn) g1)
            (odd_dvd_gt_two hodd (Dvd.intro_left _ hn) g2) t a₀ ha₀ w hw
      _ ≤ n - 1 := card_units_le hn1
  rcases hBC with ⟨p, q, α, β, hp, hq, hpq, hα, hβ, hn⟩ | ⟨m₁, k₁, k₂, hn, hc1, hc2, l1, l2, l3⟩
  · -- two prime factors: Korselt gives a Fermat witness modulo one of the prime powers
    have hd1 : p ^ α ∣ n := Dvd.intro _ hn.symm
    have hd2 : q ^ β ∣ n := Dvd.intro_left _ hn.symm
    have hα0 : α ≠ 0 := Nat.one_le_iff_ne_zero.mp hα
    have hβ0 : β ≠ 0 := Nat.one_le_iff_ne_zero.mp hβ
    refine fin (p ^ α) (q ^ β) hn.symm (Nat.Coprime.pow _ _ ((Nat.coprime_primes hp hq).mpr hpq.ne))
      (Nat.one_lt_pow hα0 hp.one_lt) (Nat.one_lt_pow hβ0 hq.one_lt) ?_
    rcases two_primes_not_carmichael p q α β hp hq (hne2 hα0 hd1) (hne2 hβ0 hd2)
      hpq hα hβ with h | h
    · rw [← hn] at h
      obtain ⟨w, hw⟩ := exists_not_mem_P_of_exponent hd1 t h2t h
      exact ⟨w, fun hh => hw hh.1⟩
    · rw [← hn] at h
      obtain ⟨w, hw⟩ := exists_not_mem_P_of_exponent hd2 t h2t h
      exact ⟨w, fun hh => hw hh.2⟩
  · -- three coprime factors: CRT gives a unit that is ±1 modulo k₁ and k₂ but not modulo k₁·k₂
    have hd2 : k₁ * k₂ ∣ n := Dvd.intro_left _ hn.symm
    have hk1 : k₁ ∣ n := dvd_trans (Dvd.intro _ rfl) hd2
    have hk2 : k₂ ∣ n := dvd_trans (Dvd.intro_left _ rfl) hd2
    obtain ⟨w, _, _, hw⟩ := split_strict hk1 hk2 hc2 (odd_dvd_gt_two hodd hk1 l2)
      (odd_dvd_gt_two hodd hk2 l3) t a₀ ha₀ hd2
    exact fin m₁ (k₁ * k₂) hn.symm hc1 l1 (l2.trans_le (Nat.le_mul_of_pos_right _ (Nat.zero_lt_of_lt l3)))
      ⟨w, fun hh => hw hh.2⟩

end NTV.RM
