import NTV.Proofs.Lemmas.PrimeProofs
/-! (R1) one Miller–Rabin round of the model is exactly the textbook strong-probable-prime test. -/
namespace NTV.Prime

theorem pow_two_pow_succ_mod (n t i : Nat) :
    t ^ 2 ^ (i + 1) % n = (t * t % n) ^ 2 ^ i % n := by
  rw [← Nat.pow_mod, pow_succ', pow_mul, sq]

theorem one_pow_mod_ne (n k : Nat) (hn : 3 ≤ n) : (1 : Nat) ^ k % n ≠ n - 1 := by
  rw [one_pow, Nat.mod_eq_of_lt (by omega)]; omega

theorem loopVerdict_iff (n : Nat) (hn : 3 ≤ n) (c tmp : Nat) (hlt : tmp < n) (h1 : tmp ≠ 1) :
    loopVerdict (mrLoop n c tmp) = true ↔ ∃ i, i < c ∧ tmp ^ 2 ^ i % n = n - 1 := by
  induction c generalizing tmp with
  | zero =>
    exact ⟨fun h => absurd (beq_iff_eq.mp h) h1, fun ⟨i, hi, _⟩ => absurd hi (Nat.not_lt_zero i)⟩
  | succ c ih =>
    -- i = 0 is the test `tmp == n − 1`; the exponents i + 1 belong to the loop continued from tmp²
    rw [Nat.exists_lt_succ_left, pow_zero, pow_one, Nat.mod_eq_of_lt hlt, mrLoop]
    simp only [pow_two_pow_succ_mod]
    by_cases hm : tmp = n - 1
    · rw [if_pos (beq_iff_eq.mpr hm)]
      exact iff_of_true rfl (Or.inl hm)
    · rw [if_neg (by rwa [beq_iff_eq])]
      by_cases hs : tmp * tmp % n = 1
      · rw [if_pos (beq_iff_eq.mpr hs)]
        simp only [loopVerdict, hs, hm, false_or, Bool.false_eq_true, false_iff, not_exists, not_and]
        exact fun i _ => one_pow_mod_ne n _ hn
      · rw [if_neg (by rwa [beq_iff_eq]), ih _ (Nat.mod_lt _ (Nat.zero_lt_of_lt hn)) hs, or_iff_right hm]

/-- (R1) a round passes iff the base is a strong probable-prime base ("strong liar" when n is
composite): `a^d ≡ 1` or `a^(d·2^i) ≡ −1 (mod n)` for some `i < c`. -/
theorem strongLiar_iff (n d c a : Nat) (hn : 3 ≤ n) :
    mrRound n d c a = true ↔
      (a ^ d ≡ 1 [MOD n] ∨ ∃ i, i < c ∧ a ^ (d * 2 ^ i) ≡ n - 1 [MOD n]) := by
  have hn0 : 0 < n := Nat.zero_lt_of_lt hn
  have hlt : a ^ d % n < n := Nat.mod_lt _ hn0
  have hpow : ∀ i, a ^ (d * 2 ^ i) % n = (a ^ d % n) ^ 2 ^ i % n := by
    intro i; rw [← Nat.pow_mod, pow_mul]
  rw [mrRound_eq_verdict]
  simp only [Nat.ModEq, Nat.mod_eq_of_lt (Nat.lt_of_lt_of_le one_lt_two (Nat.le_of_succ_le hn)),
    Nat.mod_eq_of_lt (Nat.sub_lt hn0 Nat.one_pos),
    hpow]
  generalize a ^ d % n = t at hlt ⊢
  by_cases h : t = 1
  · rw [if_pos (beq_iff_eq.mpr h)]
    exact iff_of_true rfl (Or.inl h)
  · rw [if_neg (by rwa [beq_iff_eq]), loopVerdict_iff n hn c t hlt h, or_iff_right h]

end NTV.Prime
