import Mathlib.RingTheory.Polynomial.Resultant.Basic
import Mathlib.Tactic
/-! Two facts about Mathlib's `Polynomial.resultant` used by the rational and the integer routine. -/
open Polynomial
namespace NTV.Res

theorem resultant_zero_right_of_natDegree_ne_zero {R : Type*} [CommRing R] (p : R[X]) (h : p.natDegree ≠ 0) :
    resultant p 0 = 0 := by
  rw [natDegree_zero, resultant_zero_right, zero_pow h, zero_mul]

/-- Euclid step for resultants over a field (the recursion of `resultant_rational`). -/
theorem resultant_euclid_step {K : Type*} [Field K] (a b q r : K[X])
    (h : a = q * b + r) (hb : b.natDegree ≠ 0) (hdeg : r.natDegree < b.natDegree)
    (hab : b.natDegree ≤ a.natDegree) :
    resultant a b = (-1) ^ (a.natDegree * b.natDegree) *
      (b.leadingCoeff ^ (a.natDegree - r.natDegree) * resultant b r) := by
  have hb0 : b ≠ 0 := by rintro rfl; simp at hb
  have hq : q.natDegree + b.natDegree = a.natDegree := by
    have hq0 : q ≠ 0 := by
      rintro rfl; simp only [zero_mul, zero_add] at h; subst h; omega
    have : (q * b + r).natDegree = (q * b).natDegree := by
      apply natDegree_add_eq_left_of_natDegree_lt
      rw [natDegree_mul hq0 hb0]; omega
    rw [h, this, natDegree_mul hq0 hb0]
  rw [resultant_comm]
  refine congrArg _ ?_
  have e1 : b.resultant a b.natDegree a.natDegree = b.resultant r b.natDegree a.natDegree := by
    have : a = r + b * q := by rw [h]; ring
    have e := resultant_add_mul_right b r q b.natDegree a.natDegree hq.le le_rfl
    rw [← this] at e
    exact e
  rw [e1]
  have e2 : a.natDegree = r.natDegree + (a.natDegree - r.natDegree) :=
    (Nat.add_sub_cancel' (hdeg.le.trans hab)).symm
  conv_lhs => rw [e2]
  rw [resultant_add_right_deg _ _ _ _ _ le_rfl]
  rfl

end NTV.Res
