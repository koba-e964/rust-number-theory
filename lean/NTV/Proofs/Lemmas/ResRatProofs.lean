import NTV.Proofs.Lemmas.PolyGProofs
import NTV.Proofs.Lemmas.ResProofs
import Mathlib.RingTheory.Polynomial.Resultant.Basic
/-! Canonical coefficient lists (`Canon` = no trailing zero): `fromRaw`, leading coefficient and degree of
`toPoly`; then the division contract of `div_rem_bigrational` and the resultant over ℚ (`resultant_rational`). -/
open Polynomial
namespace NTV.PolyG

def Canon {R : Type} [Zero R] (l : List R) : Prop := ∀ h : l ≠ [], l.getLast h ≠ 0

theorem getLast_eq_getD {α : Type} [Zero α] (l : List α) (h : l ≠ []) : l.getLast h = l.getD (l.length - 1) 0 := by
  have hpos : 0 < l.length := List.length_pos_of_ne_nil h
  rw [List.getLast_eq_getElem, List.getD_eq_getElem?_getD, List.getElem?_eq_getElem (by omega)]
  rfl

section
variable {R : Type} [CommRing R] [DecidableEq R]

theorem canon_fromRaw (l : List R) : Canon (fromRaw l) := by
  intro h
  unfold fromRaw at h ⊢
  rw [List.getLast_reverse]
  have hne : l.reverse.dropWhile (fun x => decide (x = 0)) ≠ [] := by
    intro e; apply h; rw [e]; rfl
  have := List.head_dropWhile_not (fun x => decide (x = 0)) hne
  simpa using this

theorem getD_fromRaw (l : List R) (j : Nat) : (fromRaw l).getD j 0 = l.getD j 0 := by
  rw [← coeff_toPoly, toPoly_fromRaw, coeff_toPoly]

theorem length_fromRaw_le (l : List R) (k : Nat) (h : ∀ j, k ≤ j → l.getD j 0 = 0) : (fromRaw l).length ≤ k := by
  by_contra hlt
  have hne : fromRaw l ≠ [] := by intro e; rw [e] at hlt; simp at hlt
  have hc := canon_fromRaw l hne
  have hlast := getLast_eq_getD (fromRaw l) hne
  rw [hlast, getD_fromRaw] at hc
  exact hc (h _ (Nat.le_sub_one_of_lt (Nat.not_le.mp hlt)))

theorem lc_of_ne_nil (l : List R) (h : l ≠ []) : lc l = l.getLast h := by
  unfold lc
  rw [List.getLastD_eq_getLast?, List.getLast?_eq_some_getLast h]; rfl

theorem lc_eq_getD (b : List R) (hb : b ≠ []) : b.getD (b.length - 1) 0 = lc b := by
  rw [lc_of_ne_nil b hb, getLast_eq_getD]

theorem lc_ne_zero (b : List R) (hb : b ≠ []) (hcb : Canon b) : lc b ≠ 0 :=
  lc_of_ne_nil b hb ▸ hcb hb

theorem lc_mem (b : List R) (hb : b ≠ []) : lc b ∈ b :=
  lc_of_ne_nil b hb ▸ List.getLast_mem hb

theorem natDegree_toPoly_le (s : List R) : (toPoly s).natDegree ≤ s.length - 1 := by
  rw [natDegree_le_iff_coeff_eq_zero]
  intro N hN
  rw [coeff_toPoly]; exact getD_of_length_le s N (Nat.le_of_pred_lt hN)

theorem natDegree_toPoly (l : List R) (hne : l ≠ []) (hc : Canon l) :
    (toPoly l).natDegree = l.length - 1 ∧ (toPoly l).leadingCoeff = lc l ∧ toPoly l ≠ 0 := by
  have hlast := getLast_eq_getD l hne
  have hcoef : (toPoly l).coeff (l.length - 1) ≠ 0 := by rw [coeff_toPoly, ← hlast]; exact hc hne
  have hdeg : (toPoly l).natDegree = l.length - 1 :=
    le_antisymm (natDegree_toPoly_le l) (le_natDegree_of_ne_zero hcoef)
  refine ⟨hdeg, ?_, ?_⟩
  · rw [leadingCoeff, hdeg, coeff_toPoly, lc_eq_getD l hne]
  · intro e; rw [e] at hcoef; simp at hcoef
end

theorem natDegree_toPoly_canon {R : Type} [CommRing R] [DecidableEq R] (l : List R) (hc : Canon l) :
    (toPoly l).natDegree = l.length - 1 := by
  by_cases e : l = []
  · subst e; simp [toPoly]
  · exact (natDegree_toPoly l e hc).1

/-- contract of `div_rem_bigrational` (main branch) -/
theorem divRemRat_spec (a b : List Rat) (ha : a ≠ []) (hb : b ≠ []) (hcb : Canon b) (hab : b.length ≤ a.length) :
    toPoly a = toPoly (divRemRat a b).1 * toPoly b + toPoly (divRemRat a b).2 ∧
    (divRemRat a b).2.length < b.length ∧ Canon (divRemRat a b).2 := by
  unfold divRemRat
  have h1 : a.isEmpty = false := List.isEmpty_eq_false_iff.mpr ha
  have h2 : b.isEmpty = false := List.isEmpty_eq_false_iff.mpr hb
  have h3 : ¬ a.length < b.length := Nat.not_lt.mpr hab
  simp only [h1, h2, Bool.or_self, h3, decide_false, Bool.false_eq_true, ↓reduceIte]
  have hblen : b.length = (b.length - 1) + 1 := (Nat.sub_add_cancel (List.length_pos_of_ne_nil hb)).symm
  have hlc0 : lc b ≠ 0 := lc_ne_zero b hb hcb
  have hid := divLoop_identity b (fun top => top / lc b) (b.length - 1) (a.length - b.length + 1) a []
  have hdg := divLoop_degree b (b.length - 1) hblen (fun top => top / lc b)
    (by intro t; rw [lc_eq_getD b hb]; field_simp) (a.length - b.length + 1) a []
    (fun j hj => getD_of_length_le a j (by omega))
  refine ⟨?_, ?_, canon_fromRaw _⟩
  · simp only [toPoly_fromRaw]
    simp only [toPoly, mul_zero, zero_mul, add_zero] at hid
    rw [← hid]; ring
  · exact (length_fromRaw_le _ (b.length - 1) hdg).trans_lt
      (Nat.sub_lt (List.length_pos_of_ne_nil hb) Nat.one_pos)

theorem pred_lt_pred {m n : Nat} (hn : 2 ≤ n) (h : m < n) : m - 1 < n - 1 := by omega

/-- the sign flip `if deg f and deg g are odd { s = -s }` of the resultant routines -/
theorem toggle_eq {R : Type} [Ring R] (s : R) (m n : Nat) :
    (if m % 2 = 1 ∧ n % 2 = 1 then -s else s) = s * (-1) ^ (m * n) := by
  by_cases h : m % 2 = 1 ∧ n % 2 = 1
  · rw [if_pos h, ((Nat.odd_iff.mpr h.1).mul (Nat.odd_iff.mpr h.2)).neg_one_pow, mul_neg_one]
  · have : Even (m * n) := Nat.not_odd_iff_even.mp fun ho =>
      h ⟨Nat.odd_iff.mp (Nat.odd_mul.mp ho).1, Nat.odd_iff.mp (Nat.odd_mul.mp ho).2⟩
    rw [if_neg h, this.neg_one_pow, mul_one]

theorem ratPow_eq (x : Rat) (n : Nat) : ratPow x n = x ^ n := by
  induction n with
  | zero => simp [ratPow]
  | succ n ih => simp [ratPow, ih, pow_succ]

/-- C04, rational variant: the model of `resultant_rational` computes the determinant of
the Sylvester matrix (Mathlib's `Polynomial.resultant`) for all non-zero canonical inputs. -/
theorem resRatAux_eq (fuel : Nat) (a b : List Rat) (ha : a ≠ []) (hb : b ≠ []) (hca : Canon a) (hcb : Canon b)
    (hf : b.length ≤ fuel) :
    resRatAux fuel a b = resultant (toPoly a) (toPoly b) := by
  induction fuel generalizing a b with
  | zero => exact absurd (List.length_pos_of_ne_nil hb) (Nat.not_lt.mpr hf)
  | succ fuel ih =>
    obtain ⟨hda, hla, hna⟩ := natDegree_toPoly a ha hca
    obtain ⟨hdb, hlb, hnb⟩ := natDegree_toPoly b hb hcb
    unfold resRatAux
    have h1 : a.isEmpty = false := List.isEmpty_eq_false_iff.mpr ha
    have h2 : b.isEmpty = false := List.isEmpty_eq_false_iff.mpr hb
    simp only [h1, h2, Bool.or_self, Bool.false_eq_true, ↓reduceIte]
    by_cases hb1 : b.length = 1
    · -- b is a non-zero constant
      simp only [hb1, ↓reduceIte]
      obtain ⟨c, rfl⟩ := List.length_eq_one_iff.mp hb1
      simp only [toPoly, mul_zero, add_zero, List.getD_cons_zero]
      rw [ratPow_eq]
      rw [← hda, mul_zero, add_zero, natDegree_C, resultant_C_zero_right]
    · simp only [hb1, ↓reduceIte]
      have hblen : 2 ≤ b.length := Nat.lt_of_le_of_ne (List.length_pos_of_ne_nil hb) (Ne.symm hb1)
      have hnb0 : (toPoly b).natDegree ≠ 0 := hdb ▸ Nat.sub_ne_zero_of_lt hblen
      have hsign : ∀ x : Rat, (if (a.length - 1) % 2 = 1 ∧ (b.length - 1) % 2 = 1 then -x else x)
          = (-1 : Rat) ^ ((toPoly a).natDegree * (toPoly b).natDegree) * x := fun x => by
        rw [toggle_eq, hda, hdb, mul_comm]
      by_cases hlt : a.length < b.length
      · -- no division step: the remainder is `a` itself
        have hr : (divRemRat a b).2 = a := by
          unfold divRemRat; simp [hlt]
        rw [hr]
        simp only [h1, Bool.false_eq_true, ↓reduceIte, Nat.sub_self]
        rw [ih b a hb ha hcb hca (Nat.le_of_lt_succ (hlt.trans_le hf)), hsign, resultant_comm]
        simp only [ratPow, mul_one]
        rw [← mul_assoc, mul_comm (toPoly b).natDegree, ← pow_add, ← two_mul, pow_mul]
        simp
      · obtain ⟨hdiv, hrlen, hcr⟩ := divRemRat_spec a b ha hb hcb (Nat.not_lt.mp hlt)
        have hdr := natDegree_toPoly_canon _ hcr
        have step := NTV.Res.resultant_euclid_step (toPoly a) (toPoly b) (toPoly (divRemRat a b).1)
          (toPoly (divRemRat a b).2) hdiv hnb0 (by rw [hdr, hdb]; exact pred_lt_pred hblen hrlen)
          (by rw [hda, hdb]; exact Nat.sub_le_sub_right (Nat.not_lt.mp hlt) 1)
        by_cases hr0 : (divRemRat a b).2 = []
        · -- exact division: Res(b, 0) = 0 as deg b ≥ 1
          have h0 : toPoly (divRemRat a b).2 = 0 := by rw [hr0]; rfl
          simp only [hr0, List.isEmpty_nil, ↓reduceIte]
          rw [step, h0, NTV.Res.resultant_zero_right_of_natDegree_ne_zero _ hnb0, mul_zero, mul_zero]
        · simp only [List.isEmpty_eq_false_iff.mpr hr0, Bool.false_eq_true, ↓reduceIte]
          rw [ih b _ hb hr0 hcb hcr (Nat.le_of_lt_succ (hrlen.trans_le hf)), hsign, ratPow_eq, step, hlb, hda, hdr]
          ring

theorem resultantRational_eq (a b : List Rat) (ha : a ≠ []) (hb : b ≠ []) (hca : Canon a) (hcb : Canon b) :
    resultantRational a b = resultant (toPoly a) (toPoly b) :=
  resRatAux_eq (b.length + 1) a b ha hb hca hcb (Nat.le_succ _)

end NTV.PolyG
