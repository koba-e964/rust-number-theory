import NTV.Model.Round2
import NTV.Proofs.Lemmas.OrdUnionCanon
/-! Shapes in `round2::one_step`: every intermediate integer matrix is rectangular, so that the Hermite
normal form lemmas apply (used by `oneStep_inv` in `Round2ProofsB`: a successful `oneStep` reaches its last
`HNF::new` with a rectangular `up` of width `deg`). -/
namespace NTV.Round2
open NTV.Ord NTV.PolyG

theorem bind_ok {α β : Type} (x : M α) (f : α → M β) (r : β) :
    (x >>= f) = .ok r ↔ ∃ a, x = .ok a ∧ f a = .ok r := by
  cases x with
  | error e => exact ⟨fun h => (by cases h), fun ⟨_, h, _⟩ => (by cases h)⟩
  | ok a => exact ⟨fun h => ⟨a, rfl, h⟩, fun ⟨_, hb, h⟩ => by cases hb; exact h⟩

theorem mapM_inv {α β : Type} (l : List α) (f : α → M β) (r : List β) (h : l.mapM f = .ok r) :
    r.length = l.length ∧ ∀ i (hi : i < l.length) (hr : i < r.length), f l[i] = .ok r[i] := by
  induction l generalizing r with
  | nil =>
    rw [List.mapM_nil] at h
    cases h
    exact ⟨rfl, fun i hi => absurd hi (by simp)⟩
  | cons x xs ih =>
    rw [List.mapM_cons] at h
    obtain ⟨y, hy, h⟩ := (bind_ok _ _ _).mp h
    obtain ⟨ys, hys, h⟩ := (bind_ok _ _ _).mp h
    cases h
    obtain ⟨hl, hi⟩ := ih ys hys
    refine ⟨by simp [hl], ?_⟩
    intro i h1 h2
    cases i with
    | zero => simpa using hy
    | succ i => simpa using hi i (by simpa using h1) (by simpa using h2)

theorem tabulate_inv {α : Type} (n : Nat) (f : Nat → M α) (r : List α) (h : tabulate n f = .ok r) :
    r.length = n ∧ ∀ i (_ : i < n) (hr : i < r.length), f i = .ok r[i] := by
  obtain ⟨hl, hi⟩ := mapM_inv _ f r h
  rw [List.length_range] at hl
  refine ⟨hl, ?_⟩
  intro i h1 h2
  have := hi i (by simpa using h1) h2
  simpa using this

theorem tabulate_mem {α : Type} (n : Nat) (f : Nat → M α) (r : List α) (h : tabulate n f = .ok r) :
    ∀ x ∈ r, ∃ i < n, f i = .ok x := by
  obtain ⟨hl, hi⟩ := tabulate_inv n f r h
  intro x hx
  obtain ⟨i, hi', rfl⟩ := List.mem_iff_getElem.mp hx
  exact ⟨i, by omega, hi i (by omega) hi'⟩

def Cube (deg : Nat) (t : Table) : Prop := ∀ ti ∈ t, ∀ tij ∈ ti, tij.length = deg

theorem tables_cube (f : List Int) (o : Order) (deg : Nat) (p p2 : Int) (t t2 : Table)
    (h : tables f o deg p p2 = .ok (t, t2)) : Cube deg t ∧ Cube deg t2 := by
  unfold tables at h
  obtain ⟨T2, hT2, h⟩ := (bind_ok _ _ _).mp h
  simp only [pure, Except.pure, Except.ok.injEq, Prod.mk.injEq] at h
  obtain ⟨rfl, rfl⟩ := h
  have c2 : Cube deg T2 := by
    intro ti hti tij htij
    obtain ⟨i, _, hi⟩ := tabulate_mem _ _ _ hT2 ti hti
    obtain ⟨oi, _, hi⟩ := (bind_ok _ _ _).mp hi
    obtain ⟨j, _, hj⟩ := tabulate_mem _ _ _ hi tij htij
    obtain ⟨oj, _, hj⟩ := (bind_ok _ _ _).mp hj
    obtain ⟨prod, _, hj⟩ := (bind_ok _ _ _).mp hj
    obtain ⟨inv, _, hj⟩ := (bind_ok _ _ _).mp hj
    exact (tabulate_inv _ _ _ hj).1
  refine ⟨?_, c2⟩
  intro ti hti tij htij
  obtain ⟨ti', hti', rfl⟩ := List.mem_map.mp hti
  obtain ⟨tij', htij', rfl⟩ := List.mem_map.mp htij
  rw [List.length_map]
  exact c2 ti' hti' tij' htij'

theorem foldl_length {γ ρ : Type} (step : List ρ → γ → List ρ) (deg : Nat) (l : List γ) (init : List ρ)
    (hinit : init.length = deg) (hstep : ∀ res, res.length = deg → ∀ x ∈ l, (step res x).length = deg) :
    (l.foldl step init).length = deg := by
  induction l generalizing init with
  | nil => exact hinit
  | cons x xs ih =>
    exact ih _ (hstep init hinit x List.mem_cons_self) (fun res hr y hy => hstep res hr y (List.mem_cons_of_mem _ hy))

theorem foldl_zipWith_length {γ ρ : Type} (g : γ → ρ → ρ → ρ) (row : γ → List ρ) (deg : Nat)
    (l : List γ) (init : List ρ) (hinit : init.length = deg) (hl : ∀ x ∈ l, (row x).length = deg) :
    (l.foldl (fun res x => List.zipWith (g x) res (row x)) init).length = deg :=
  foldl_length _ deg l init hinit (fun res hr x hx => by rw [List.length_zipWith, hr, hl x hx, Nat.min_self])

theorem mulModP_length (a b : List Int) (t : Table) (p : Int) (deg : Nat) (ha : a.length = deg)
    (ht : Cube deg t) : (mulModP a b t p).length = deg := by
  unfold mulModP
  simp only [List.length_map]
  exact foldl_length _ deg _ _ (by simp [ha]) (fun res hr x hx =>
    foldl_zipWith_length (fun (btij : Int × List Int) r t => r + x.1 * btij.1 * t) (fun btij => btij.2) deg _ res hr
      (fun y hy => ht x.2 (List.of_mem_zip hx).2 y.2 (List.of_mem_zip hy).2))

theorem powLoop_length (t : Table) (p : Int) (deg : Nat) (ht : Cube deg t) (fuel : Nat) (e : Int)
    (prod cur r : List Int) (hp : prod.length = deg) (hc : cur.length = deg)
    (h : powLoop t p fuel e prod cur = .ok r) : r.length = deg := by
  induction fuel generalizing e prod cur with
  | zero =>
    unfold powLoop at h
    split at h
    · cases h
    · cases h; exact hp
  | succ fuel ih =>
    unfold powLoop at h
    split at h
    · apply ih _ _ _ _ _ h
      · split
        · exact mulModP_length _ _ _ _ _ hp ht
        · exact hp
      · exact mulModP_length _ _ _ _ _ hc ht
    · cases h; exact hp

theorem scalarRows_rect (deg : Nat) (p : Int) : NTV.Hnf.Rect deg deg (scalarRows deg p) := by
  refine ⟨by simp [scalarRows], ?_⟩
  intro r hr
  simp only [scalarRows, List.mem_map, List.mem_range] at hr
  obtain ⟨i, _, rfl⟩ := hr
  simp

theorem phiw_rect (t : Table) (p pow : Int) (deg : Nat) (ht : Cube deg t) (phiw : IMat)
    (h : tabulate deg (fun i =>
      powModP ((List.range deg).map (fun j => if i = j then 1 else 0)) pow t p) = .ok phiw) :
    NTV.Hnf.Rect deg deg phiw := by
  refine ⟨(tabulate_inv _ _ _ h).1, ?_⟩
  intro r hr
  obtain ⟨i, _, hi⟩ := tabulate_mem _ _ _ h r hr
  unfold powModP at hi
  exact powLoop_length t p deg ht _ _ _ _ r (by simp) (by simp) hi

theorem kernelM_rect (A : IMat) (n m : Nat) (hr : NTV.Hnf.Rect n m A) (hn : 0 < n) (hm : 0 < m) (K : IMat)
    (h : kernelM A = .ok K) : ∃ k, NTV.Hnf.Rect k n K := by
  unfold kernelM at h
  split at h
  · rename_i K' hK
    cases h
    unfold NTV.Hnf.kernel at hK
    cases hw : NTV.Hnf.hnfWithU A with
    | none => rw [hw] at hK; cases hK
    | some res =>
      obtain ⟨H, U, k⟩ := res
      rw [hw] at hK
      simp only [Option.map_some, Option.some.injEq] at hK
      obtain ⟨W, pv, R⟩ := NTV.Hnf.Result.of_spec A n m hr hn hm H U k hw
      refine ⟨k, ?_⟩
      subst hK
      refine ⟨by simp [R.rU.1, R.hk], ?_⟩
      intro r hr
      exact R.rU.2 r (List.mem_of_mem_take hr)
  · cases h

theorem hnfM_rect (A : IMat) (n m : Nat) (hr : NTV.Hnf.Rect n m A) (hm : 0 < m) (H : IMat)
    (h : hnfM A = .ok H) : ∃ r, NTV.Hnf.Rect r m H := by
  unfold hnfM at h
  split at h
  · rename_i H' hH
    cases h
    by_cases hn : n = 0
    · have : A = [] := List.eq_nil_of_length_eq_zero (by rw [hr.1, hn])
      subst this
      have : H = [] := by simpa [NTV.Hnf.hnfNew, NTV.Hnf.hnfWithU] using hH.symm
      subst this
      exact ⟨0, rfl, by simp⟩
    · obtain ⟨H2, r, h1, hH2, _, _⟩ := NTV.Hnf.hnfNew_lattice A n m hr (by omega) hm
      rw [h1] at hH
      cases hH
      exact ⟨r, hH2⟩
  · cases h

theorem linComb_length (deg : Nat) (c : List Int) (rows : IMat) (hr : ∀ r ∈ rows, r.length = deg) :
    (linComb deg c rows).length = deg := by
  unfold linComb
  exact foldl_zipWith_length (fun (cr : Int × List Int) r x => r + cr.1 * x) (fun cr => cr.2) deg _ _
    (by simp) (fun y hy => hr y.2 (List.of_mem_zip hy).2)

theorem rect_map_take (A : IMat) (r m d : Nat) (hA : NTV.Hnf.Rect r m A) (hd : d ≤ m) :
    NTV.Hnf.Rect r d (A.map (fun row => row.take d)) := by
  refine ⟨by simp [hA.1], ?_⟩
  intro x hx
  obtain ⟨y, hy, rfl⟩ := List.mem_map.mp hx
  simp [hA.2 y hy, hd]

theorem upStep_rect (deg : Nat) (hdeg : 0 < deg) (p p2 : Int) (t2 : Table) (ip up : IMat)
    (etai : List Int) (r : Nat) (hup : NTV.Hnf.Rect r deg up) (up' : IMat)
    (h : upStep deg p p2 t2 ip up etai = .ok up') : ∃ r', NTV.Hnf.Rect r' deg up' := by
  unfold upStep at h
  obtain ⟨bot, hbot, h⟩ := (bind_ok _ _ _).mp h
  obtain ⟨K, hK, h⟩ := (bind_ok _ _ _).mp h
  obtain ⟨N, hN, h⟩ := (bind_ok _ _ _).mp h
  have hfin : ∀ (N' : IMat), NTV.Hnf.Rect N'.length deg (N'.map (fun row => linComb deg row up)) := by
    intro N'
    refine ⟨by simp, ?_⟩
    intro x hx
    obtain ⟨y, _, rfl⟩ := List.mem_map.mp hx
    exact linComb_length deg _ up hup.2
  exact hnfM_rect _ _ deg (hfin _) hdeg up' h

theorem foldlM_inv {α β : Type} (P : β → Prop) (l : List α) (f : β → α → M β)
    (hstep : ∀ b, P b → ∀ a ∈ l, ∀ b', f b a = .ok b' → P b') (b0 b1 : β) (h0 : P b0)
    (h : l.foldlM f b0 = .ok b1) : P b1 := by
  induction l generalizing b0 with
  | nil =>
    rw [List.foldlM_nil] at h
    cases h; exact h0
  | cons x xs ih =>
    rw [List.foldlM_cons] at h
    obtain ⟨b', hb', h⟩ := (bind_ok _ _ _).mp h
    exact ih (fun b hb a ha => hstep b hb a (by simp [ha])) b' (hstep b0 h0 x (by simp) b' hb') h

end NTV.Round2
