import NTV.Proofs.Lemmas.Round2ProofsA
/-! Reading `tabulate`, `idx` and folds of `zipWith` rows through `getD`; inversion of a successful
`round2::one_step`; induction along the loop for one prime. -/
namespace NTV.Round2
open NTV.Ord NTV.PolyG

theorem getD_eq_getElem {α : Type} (l : List α) (d : α) (k : Nat) (h : k < l.length) : l.getD k d = l[k] := by
  simp [List.getD_eq_getElem?_getD, List.getElem?_eq_getElem h]

theorem idx_eq_getD {α : Type} (v : List α) (d : α) (i : Nat) (h : i < v.length) : idx v i = .ok (v.getD i d) := by
  rw [idx_ok v i h, getD_eq_getElem v d i h]

theorem exists_getD_of_mem {α : Type} (l : List α) (d : α) {x : α} (hx : x ∈ l) :
    ∃ i < l.length, l.getD i d = x := by
  obtain ⟨i, hi, rfl⟩ := List.mem_iff_getElem.mp hx
  exact ⟨i, hi, getD_eq_getElem l d i hi⟩

theorem tabulate_getD {α : Type} (n : Nat) (g : Nat → M α) (r : List α) (d : α) (h : tabulate n g = .ok r) :
    r.length = n ∧ ∀ i < n, g i = .ok (r.getD i d) := by
  obtain ⟨hl, hi⟩ := tabulate_inv n g r h
  refine ⟨hl, fun i hin => ?_⟩
  have hr : i < r.length := hl ▸ hin
  rw [getD_eq_getElem r d i hr]
  exact hi i hin hr

theorem foldl_zipWith_add_mul_getD {R γ : Type} [Semiring R] (g : γ → R) (row : γ → List R) (l : List γ)
    (init : List R) (deg k : Nat) (hk : k < deg) (hinit : init.length = deg)
    (hl : ∀ x ∈ l, (row x).length = deg) :
    (l.foldl (fun acc x => List.zipWith (fun r t => r + g x * t) acc (row x)) init).getD k 0 =
      init.getD k 0 + (l.map (fun x => g x * (row x).getD k 0)).sum := by
  induction l generalizing init with
  | nil => simp
  | cons x xs ih =>
    simp only [List.foldl_cons, List.map_cons, List.sum_cons]
    have hx : (row x).length = deg := hl x (by simp)
    rw [ih _ (by simp [hinit, hx]) (fun y hy => hl y (by simp [hy]))]
    have e : (List.zipWith (fun r t => r + g x * t) init (row x)).getD k 0 =
        init.getD k 0 + g x * (row x).getD k 0 := by
      simp [List.getD_eq_getElem?_getD, hinit, hx, hk]
    rw [e, add_assoc]

theorem zip_map_sum {α β R : Type} [AddCommMonoid R] (da : α) (db : β) (F : α → β → R) (u : List α) (v : List β)
    (h : u.length = v.length) :
    ((List.zip u v).map (fun x => F x.1 x.2)).sum =
      ∑ j ∈ Finset.range v.length, F (u.getD j da) (v.getD j db) := by
  induction v generalizing u with
  | nil => simp
  | cons r rs ih =>
    cases u with
    | nil => simp at h
    | cons c cs =>
      simp only [List.zip_cons_cons, List.map_cons, List.sum_cons, List.length_cons]
      rw [Finset.sum_range_succ', ih cs (by simpa using h), add_comm]
      rfl

/-- the rational matrix `(1/p)·u·o` as computed by the triple loop of `one_step` -/
def newBasisM (deg : Nat) (p : Int) (u : IMat) (o : Order) : M QMat :=
  tabulate deg (fun i => do
    let ui ← idx u i
    pure ((List.zip ui o).foldl (fun acc uo =>
      List.zipWith (fun r x => r + ((uo.1 : Rat) / (p : Rat)) * x) acc uo.2) (List.replicate deg (0 : Rat))))

/-- every intermediate value of a successful `one_step`, with the shape of the generators `up` of `U_p` -/
theorem oneStep_steps (f : List Int) (o : Order) (p : Int) (o' : Order) (h : Nat) (hdeg : 0 < degU f)
    (H : oneStep f o p = .ok (o', h)) :
    ∃ (pow : Int) (t t2 : Table) (phiw K0 ip0 up u : IMat) (r : Nat) (nb : QMat) (index : Int),
      powBound (degU f) p (degU f) 1 = .ok pow ∧ tables f o (degU f) p (p * p) = .ok (t, t2) ∧
      tabulate (degU f) (fun i =>
        powModP ((List.range (degU f)).map (fun j => if i = j then 1 else 0)) pow t p) = .ok phiw ∧
      kernelM (phiw ++ scalarRows (degU f) p) = .ok K0 ∧ hnfM K0 = .ok ip0 ∧
      (ip0.map (fun row => row.take (degU f))).foldlM
        (fun up etai => upStep (degU f) p (p * p) t2 (ip0.map (fun row => row.take (degU f))) up etai)
        (ip0.map (fun row => row.take (degU f))) = .ok up ∧
      NTV.Hnf.Rect r (degU f) up ∧ hnfM (up ++ scalarRows (degU f) p) = .ok u ∧ u.length = degU f ∧
      newBasisM (degU f) p u o = .ok nb ∧ fromBasis nb = .ok o' ∧
      NTV.Ord.index o' o = .ok index ∧ howmanyLoop p (index.toNat.log2 + 2) index 0 = .ok h := by
  unfold oneStep at H
  obtain ⟨pow, hpow, H⟩ := (bind_ok _ _ _).mp H
  obtain ⟨⟨table, table2⟩, htab, H⟩ := (bind_ok _ _ _).mp H
  obtain ⟨ct, _⟩ := tables_cube _ _ _ _ _ _ _ htab
  simp only at H
  obtain ⟨phiw, hphiw, H⟩ := (bind_ok _ _ _).mp H
  obtain ⟨K, hK, H⟩ := (bind_ok _ _ _).mp H
  obtain ⟨ip0, hip0, H⟩ := (bind_ok _ _ _).mp H
  obtain ⟨up, hup, H⟩ := (bind_ok _ _ _).mp H
  have rphiw := phiw_rect table p pow (degU f) ct phiw hphiw
  have rstack := NTV.Hnf.rect_append _ _ _ _ _ rphiw (scalarRows_rect (degU f) p)
  obtain ⟨k, rK⟩ := kernelM_rect _ _ _ rstack (by omega) hdeg K hK
  obtain ⟨r0, rip0⟩ := hnfM_rect K k _ rK (by omega) ip0 hip0
  have rip := rect_map_take ip0 r0 _ (degU f) rip0 (by omega)
  have rup : ∃ r, NTV.Hnf.Rect r (degU f) up := by
    apply foldlM_inv (fun up => ∃ r, NTV.Hnf.Rect r (degU f) up) _ _ _ _ up ⟨r0, rip⟩ hup
    rintro b ⟨r, hb⟩ a _ b' hb'
    exact upStep_rect (degU f) hdeg p (p * p) table2 _ b a r hb b' hb'
  obtain ⟨r, rup⟩ := rup
  split at H
  · cases H
  · obtain ⟨u, hu, H⟩ := (bind_ok _ _ _).mp H
    split at H
    · cases H
    · rename_i hlen
      obtain ⟨nb, hnb, H⟩ := (bind_ok _ _ _).mp H
      obtain ⟨newO, hnewO, H⟩ := (bind_ok _ _ _).mp H
      obtain ⟨index, hindex, H⟩ := (bind_ok _ _ _).mp H
      obtain ⟨hm, hhm, H⟩ := (bind_ok _ _ _).mp H
      simp only [pure, Except.pure, Except.ok.injEq, Prod.mk.injEq] at H
      obtain ⟨rfl, rfl⟩ := H
      exact ⟨pow, table, table2, phiw, K, ip0, up, u, r, nb, index, hpow, htab, hphiw, hK, hip0, hup, rup, hu,
        by simpa using hlen, hnb, hnewO, hindex, hhm⟩

theorem oneStep_inv (f : List Int) (o : Order) (p : Int) (o' : Order) (h : Nat) (hdeg : 0 < degU f)
    (H : oneStep f o p = .ok (o', h)) :
    ∃ (up u : IMat) (r : Nat) (newBasis : QMat) (index : Int),
      NTV.Hnf.Rect r (degU f) up ∧ hnfM (up ++ scalarRows (degU f) p) = .ok u ∧ u.length = degU f ∧
      newBasisM (degU f) p u o = .ok newBasis ∧ fromBasis newBasis = .ok o' ∧
      NTV.Ord.index o' o = .ok index ∧ howmanyLoop p (index.toNat.log2 + 2) index 0 = .ok h := by
  obtain ⟨_, _, _, _, _, _, up, u, r, nb, index, _, _, _, _, _, _, rest⟩ := oneStep_steps f o p o' h hdeg H
  exact ⟨up, u, r, nb, index, rest⟩

/-- induction along a successful `primeLoop`: a relation between the start `(o, e)` and the result holds if it holds
when the loop stops at once, when a step with `howmany = 0` ends it, and if it passes from the rest of the loop
through a step with `howmany ≠ 0` -/
theorem primeLoop_induction {f : List Int} {p : Int} {Q : Order → Nat → Order → Prop}
    (stop : ∀ o e, ¬ e ≥ 2 → Q o e o)
    (last : ∀ o e newO, e ≥ 2 → oneStep f o p = .ok (newO, 0) → Q o e newO)
    (step : ∀ o e newO hm o', e ≥ 2 → oneStep f o p = .ok (newO, hm) → ¬ 2 * hm > e → hm ≠ 0 →
      Q newO (e - 2 * hm) o' → Q o e o') :
    ∀ (fuel : Nat) (o : Order) (e : Nat) (o' : Order), primeLoop f p fuel o e = .ok o' → Q o e o' := by
  intro fuel
  induction fuel with
  | zero =>
    intro o e o' H
    unfold primeLoop at H
    split at H
    · cases H
    · cases H
      exact stop _ e ‹_›
  | succ fuel ih =>
    intro o e o' H
    unfold primeLoop at H
    split at H
    · rename_i he
      obtain ⟨⟨newO, hm⟩, hstep, H⟩ := (bind_ok _ _ _).mp H
      simp only at H
      split at H
      · cases H
      · rename_i hle
        split at H
        · rename_i h0
          simp only [pure, Except.pure, Except.ok.injEq] at H
          subst H h0
          exact last o e _ he hstep
        · exact step o e newO hm o' he hstep hle ‹_› (ih newO _ o' H)
    · cases H
      exact stop _ e ‹_›

end NTV.Round2
