import NTV.Proofs.Lemmas.Round2ProofsB
import NTV.Proofs.Lemmas.HnfDet
/-! Linear algebra of `round2::one_step`: the new basis is `(1/p)·u·o`. -/
open Matrix Finset
namespace NTV.Round2
open NTV.Ord NTV.PolyG
open NTV.RowOps (toM Rect ent)

theorem newBasisM_spec (n : Nat) (p : Int) (u : IMat) (o nb : QMat) (hu : NTV.Hnf.Rect n n u)
    (ho : Rect n n o) (h : newBasisM n p u o = .ok nb) :
    Rect n n nb ∧ toM n n nb =
      ((p : ℚ))⁻¹ • ((NTV.Hnf.toM n n u).map (Int.castRingHom ℚ) * toM n n o) := by
  unfold newBasisM at h
  obtain ⟨hlen, hrow⟩ := tabulate_inv _ _ _ h
  have hrow' : ∀ i (hi : i < n) (hr : i < nb.length), nb[i] = (List.zip (u.getD i []) o).foldl
      (fun acc uo => List.zipWith (fun r x => r + ((uo.1 : Rat) / (p : Rat)) * x) acc uo.2)
      (List.replicate n (0 : Rat)) := by
    intro i hi hr
    have hui : i < u.length := by rw [hu.1]; exact hi
    have := hrow i hi hr
    rw [idx_ok u i hui] at this
    simp only [bind, Except.bind, pure, Except.pure, Except.ok.injEq] at this
    rw [← this]
    simp [List.getD_eq_getElem?_getD, List.getElem?_eq_getElem hui]
  have hzl : ∀ i, ∀ x ∈ List.zip (u.getD i []) o, x.2.length = n :=
    fun i x hx => ho.2 x.2 (List.of_mem_zip hx).2
  refine ⟨⟨hlen, ?_⟩, ?_⟩
  · intro r hr
    obtain ⟨i, hi, rfl⟩ := List.mem_iff_getElem.mp hr
    rw [hrow' i (by omega) hi]
    exact foldl_zipWith_length (fun (uo : Int × List Rat) r x => r + ((uo.1 : Rat) / (p : Rat)) * x)
      (fun uo => uo.2) n _ _ (by simp) (hzl i)
  · ext i k
    have hi : i.val < nb.length := by rw [hlen]; exact i.isLt
    have hui : i.val < u.length := by rw [hu.1]; exact i.isLt
    have huil : (u.getD i.val []).length = o.length := by
      have : u.getD i.val [] = u[i.val] := by
        simp [List.getD_eq_getElem?_getD, List.getElem?_eq_getElem hui]
      rw [this, hu.2 _ (List.getElem_mem hui), ho.1]
    have e1 : toM n n nb i k = (nb[i.val]).getD k.val 0 := by
      simp [toM, ent, List.getD_eq_getElem?_getD, List.getElem?_eq_getElem hi]
    rw [e1, hrow' i.val i.isLt hi,
      foldl_zipWith_add_mul_getD (fun uo : Int × List Rat => (uo.1 : Rat) / (p : Rat)) (fun uo => uo.2) _ _ n k.val k.isLt
        (by simp) (hzl i.val),
      zip_map_sum (0 : Int) ([] : List Rat) (fun c row => (c : Rat) / (p : Rat) * row.getD k.val 0) _ o huil, ho.1]
    simp only [Matrix.smul_apply, Matrix.mul_apply, Matrix.map_apply, Int.coe_castRingHom, smul_eq_mul,
      Finset.mul_sum]
    rw [← Fin.sum_univ_eq_sum_range (fun j => (((u.getD i.val []).getD j 0 : Int) : Rat) / (p : Rat) * (o.getD j []).getD k.val 0) n]
    have : (List.replicate n (0 : Rat)).getD k.val 0 = 0 := by
      simp [List.getD_eq_getElem?_getD]
    rw [this, zero_add]
    apply Finset.sum_congr rfl
    intro j _
    simp only [toM, ent, NTV.Hnf.toM, NTV.Hnf.ent]
    ring

end NTV.Round2
