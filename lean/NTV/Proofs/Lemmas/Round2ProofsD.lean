import NTV.Proofs.Lemmas.Round2ProofsC
/-! A stored order is lower triangular with positive diagonal (it is `(1/L)·H`, `H` a Hermite normal form), so its
determinant is positive; the last normal form of `one_step` is square, non-singular, with lattice ⊇ `p·ℤⁿ`. -/
open Matrix Finset
namespace NTV.Round2
open NTV.Ord NTV.PolyG
open NTV.RowOps (toM Rect ent)

theorem hnf_lower (A : NTV.Ord.IMat) (n : Nat) (hr : NTV.Hnf.Rect n n A) (hn : 0 < n)
    (hdet : (NTV.Hnf.toM n n A).det ≠ 0) (H : NTV.Ord.IMat) (h : NTV.Hnf.hnfNew A = some H) :
    NTV.Hnf.Rect n n H ∧ (∀ i j : Fin n, i.val < j.val → NTV.Hnf.toM n n H i j = 0) ∧
      ∀ i : Fin n, 0 < NTV.Hnf.toM n n H i i := by
  unfold NTV.Hnf.hnfNew at h
  cases hw : NTV.Hnf.hnfWithU A with
  | none => rw [hw] at h; cases h
  | some res =>
    obtain ⟨H', U, k⟩ := res
    rw [hw] at h
    simp only [Option.map_some, Option.some.injEq] at h
    subst h
    obtain ⟨W, pv, R⟩ := NTV.Hnf.Result.of_spec A n n hr hn hn H' U k hw
    have hdetW : (NTV.Hnf.toM n n W).det ≠ 0 := by
      rw [← R.ua, Matrix.det_mul]
      exact mul_ne_zero (R.det.ne_zero) hdet
    have hk : k = 0 := by
      by_contra hk0
      have hkpos : 0 < k := Nat.pos_of_ne_zero hk0
      apply hdetW
      apply Matrix.det_eq_zero_of_row_eq_zero ⟨0, hn⟩
      intro j
      exact R.zero 0 hkpos j j.isLt
    subst hk
    have hHW : H' = W := by rw [R.hH]; simp
    have hrH : NTV.Hnf.Rect n n H' := by rw [hHW]; exact R.rW
    refine ⟨hrH, ?_, ?_⟩
    all_goals
      have hpvlen : pv.length = n := by rw [R.lenPv]; omega
      have hpv := NTV.Hnf.pairwise_lt_eq_id pv n hpvlen R.shape.incr R.shape.lt
    · intro i j hij
      have hi : i.val < pv.length := by rw [hpvlen]; exact i.isLt
      have := R.shape.last i.val hi j.val (by rw [hpv i.val hi]; exact hij) j.isLt
      simpa [NTV.Hnf.toM] using this
    · intro i
      have hi : i.val < pv.length := by rw [hpvlen]; exact i.isLt
      have := R.shape.pos i.val hi
      rw [hpv i.val hi] at this
      simpa [NTV.Hnf.toM] using this

/-- a successful `hnf_reduce` of a square matrix: the normal form `H` of the scaled integer matrix has `n` rows (otherwise
the rescaling loop index-panics), spans the same lattice, and the result is `(1/L)·H` -/
theorem hnfReduce_ok_inv (A : QMat) (n : Nat) (hn : 0 < n) (hA : Rect n n A) (S : QMat) (h : hnfReduce A = .ok S) :
    ∃ H, NTV.Hnf.hnfNew (scaledBy (lcmDen A 1) A n) = some H ∧ NTV.Hnf.Rect n n H ∧
      (∀ v, NTV.Hnf.InLattice n n H v ↔ NTV.Hnf.InLattice n n (scaledBy (lcmDen A 1) A n) v) ∧
      unscaled n (lcmDen A 1) H = S := by
  have hsc : scaled A n = scaledBy (lcmDen A 1) A n := rfl
  rw [hnfReduce_unfold A n hA, hsc] at h
  obtain ⟨H, r, hH, rH, hrn, hlat⟩ := NTV.Hnf.hnfNew_lattice _ n n (scaledBy_rect (lcmDen A 1) A n) hn hn
  rw [hH] at h
  simp only at h
  have hr : r = n := by
    have h' := h
    unfold unscale at h'
    obtain ⟨_, hrow⟩ := tabulate_inv _ _ _ h'
    have h1 := hrow (n - 1) (by omega) (by omega)
    obtain ⟨_, hcol⟩ := tabulate_inv _ _ _ h1
    have h2 := hcol 0 hn (by omega)
    obtain ⟨row, hrow', _⟩ := (bind_ok _ _ _).mp h2
    unfold idx at hrow'
    split at hrow'
    · rename_i x hx
      have : n - 1 < H.length := by
        by_contra hc
        rw [List.getElem?_eq_none (by omega)] at hx
        cases hx
      rw [rH.1] at this
      omega
    · cases hrow'
  subst hr
  rw [unscale_ok r _ H rH] at h
  exact ⟨H, hH, rH, hlat, by injection h⟩

theorem stored_lower (o : QMat) (n : Nat) (hn : 0 < n) (ho : Rect n n o) (hdet : (toM n n o).det ≠ 0)
    (hst : fromBasis o = .ok o) :
    (∀ i j : Fin n, i.val < j.val → toM n n o i j = 0) ∧ ∀ i : Fin n, 0 < toM n n o i i := by
  have hLpos : 0 < lcmDen o 1 := lcmDen_pos o 1 one_pos
  have hLq : (0 : ℚ) < ((lcmDen o 1 : Int) : Rat) := Int.cast_pos.mpr hLpos
  obtain ⟨H, hH, _, _, ho'⟩ := hnfReduce_ok_inv o n hn ho o hst
  have hdS := scaledBy_det_ne (lcmDen o 1) o n ho (lcmDen_spec o 1).2.1 (by omega) hdet
  obtain ⟨_, hlow, hdiag⟩ := hnf_lower _ n (scaledBy_rect _ o n) hn hdS H hH
  rw [← ho', unscaled_toM]
  constructor
  · intro i j hij
    rw [Matrix.smul_apply, Matrix.map_apply, hlow i j hij, map_zero, smul_zero]
  · intro i
    simp only [Matrix.smul_apply, Matrix.map_apply, smul_eq_mul, Int.coe_castRingHom]
    exact mul_pos (inv_pos.mpr hLq) (Int.cast_pos.mpr (hdiag i))

theorem stored_det_pos (o : QMat) (n : Nat) (hn : 0 < n) (ho : Rect n n o) (hdet : (toM n n o).det ≠ 0)
    (hst : fromBasis o = .ok o) : 0 < (toM n n o).det := by
  obtain ⟨hlow, hdiag⟩ := stored_lower o n hn ho hdet hst
  rw [det_of_isLowerTriangular _ hlow]
  exact Finset.prod_pos (fun i _ => hdiag i)

theorem scalarRows_toM (n : Nat) (p : Int) :
    NTV.Hnf.toM n n (scalarRows n p) = p • (1 : Matrix (Fin n) (Fin n) ℤ) := by
  ext i j
  simp only [NTV.Hnf.toM, NTV.Hnf.ent, scalarRows, Matrix.smul_apply, Matrix.one_apply, smul_eq_mul]
  simp [List.getD_eq_getElem?_getD, i.isLt, j.isLt, Fin.ext_iff]

theorem lastHnf_spec (n r : Nat) (hn : 0 < n) (p : Int) (hp : p ≠ 0) (up u : IMat)
    (hup : NTV.Hnf.Rect r n up) (h : hnfM (up ++ scalarRows n p) = .ok u) :
    NTV.Hnf.Rect n n u ∧ (NTV.Hnf.toM n n u).det ≠ 0 ∧
      ∃ C : Matrix (Fin n) (Fin n) ℤ, p • (1 : Matrix (Fin n) (Fin n) ℤ) = C * NTV.Hnf.toM n n u := by
  have hstack := NTV.Hnf.rect_append up (scalarRows n p) r n n hup (scalarRows_rect n p)
  have hF : (p • (1 : Matrix (Fin n) (Fin n) ℤ)).det ≠ 0 := by
    rw [Matrix.det_smul, Matrix.det_one, mul_one]
    exact pow_ne_zero _ hp
  have hFX : ∀ i, NTV.Hnf.InLattice (r + n) n (up ++ scalarRows n p) ((p • (1 : Matrix (Fin n) (Fin n) ℤ)) i) := by
    intro i
    rw [NTV.Hnf.lattice_append up (scalarRows n p) r n n hup]
    refine ⟨0, Pi.single i 1, ?_⟩
    rw [Matrix.zero_vecMul, zero_add, Matrix.single_one_vecMul, scalarRows_toM]
    rfl
  obtain ⟨H, hH, rH, dH, lH⟩ := NTV.Hnf.hnfNew_full (up ++ scalarRows n p) (r + n) n hstack (by omega) hn _ hF hFX
  unfold hnfM at h
  rw [hH] at h
  simp only at h
  injection h with h
  subst h
  refine ⟨rH, dH, ?_⟩
  exact NTV.Hnf.InLattice.exists_mul (fun i => (lH _).mpr (hFX i))

end NTV.Round2
