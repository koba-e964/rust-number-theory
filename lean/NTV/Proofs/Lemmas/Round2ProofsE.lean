import NTV.Proofs.Lemmas.Round2ProofsD
/-! `round2::one_step` enlarges the order: the new order is non-singular, stored, contains the old one, with index
`p^howmany` (`oneStep_ext`; the consequence for the discriminant is in `Round2ProofsF`). -/
open Matrix Finset
namespace NTV.Round2
open NTV.Ord NTV.PolyG
open NTV.RowOps (toM Rect ent)

/-- `o'` is a non-singular stored order containing (the module of) `o` with index `i ≥ 1` -/
structure Ext (n : Nat) (o o' : QMat) (i : Int) : Prop where
  rect : Rect n n o'
  det : (toM n n o').det ≠ 0
  stored : fromBasis o' = .ok o'
  sub : ∃ P : Matrix (Fin n) (Fin n) ℤ, toM n n o = P.map (Int.castRingHom ℚ) * toM n n o'
  idx : index o' o = .ok i
  pos : 1 ≤ i

theorem Ext.refl (n : Nat) (o : QMat) (ho : Rect n n o) (hd : (toM n n o).det ≠ 0)
    (hst : fromBasis o = .ok o) : Ext n o o 1 where
  rect := ho
  det := hd
  stored := hst
  sub := ⟨1, by simp⟩
  idx := by rw [index_ok_iff o o n ho ho hd, Int.cast_one, one_mul]
  pos := le_refl 1

theorem Ext.trans {n : Nat} {o o' o'' : QMat} {i j : Int} (ho : Rect n n o) (h1 : Ext n o o' i)
    (h2 : Ext n o' o'' j) : Ext n o o'' (i * j) where
  rect := h2.rect
  det := h2.det
  stored := h2.stored
  sub := by
    obtain ⟨P, hP⟩ := h1.sub
    obtain ⟨Q, hQ⟩ := h2.sub
    exact ⟨P * Q, by rw [hP, hQ, Matrix.map_mul, Matrix.mul_assoc]⟩
  idx := by
    have a := (index_ok_iff o' o n h1.rect ho h1.det i).mp h1.idx
    have b := (index_ok_iff o'' o' n h2.rect h1.rect h2.det j).mp h2.idx
    rw [index_ok_iff o'' o n h2.rect ho h2.det, a, b, Int.cast_mul, mul_assoc]
  pos := one_le_mul_of_one_le_of_one_le h1.pos h2.pos

theorem howmanyLoop_spec (p : Int) (hp : 0 < p) (fuel : Nat) (i : Int) (h0 h : Nat) (hi : 1 ≤ i)
    (H : howmanyLoop p fuel i h0 = .ok h) : h0 ≤ h ∧ i = p ^ (h - h0) := by
  fun_induction howmanyLoop p fuel i h0
  case case1 => cases H
  case case3 fuel i h0 hgt ih =>
    obtain ⟨r, hr, H⟩ := (bind_ok _ _ _).mp H
    unfold remX at hr
    rw [if_neg (by omega)] at hr
    cases hr
    split at H
    · cases H
    · rename_i hr0
      have hdiv : p * Int.tdiv i p = i := by
        have := Int.mul_tdiv_add_tmod i p
        rwa [not_not.mp hr0, add_zero] at this
      have hq : 1 ≤ Int.tdiv i p := by
        by_contra hq
        have := Int.mul_nonpos_of_nonneg_of_nonpos hp.le (show Int.tdiv i p ≤ 0 by omega)
        omega
      obtain ⟨hle, hpow⟩ := ih hq H
      refine ⟨by omega, ?_⟩
      rw [← hdiv, hpow, ← pow_succ']
      congr 1
      omega
  -- the loop stops at index 1
  all_goals
    cases H
    exact ⟨le_refl _, by rw [Nat.sub_self, pow_zero]; omega⟩

/-- the new basis is `U·(1/p)·u·o` with `U` unimodular and `C·u = p·I`, so `o = (C·U⁻¹)·o'`; the index `det (C·U⁻¹)` is
positive because both stored orders have positive determinant, and `howmanyLoop` then reads off `p^howmany` -/
theorem oneStep_ext (f : List Int) (o : Order) (p : Int) (o' : Order) (h : Nat) (hdeg : 0 < degU f)
    (ho : Rect (degU f) (degU f) o) (hdet : (toM (degU f) (degU f) o).det ≠ 0) (hst : fromBasis o = .ok o)
    (hp : 0 < p) (H : oneStep f o p = .ok (o', h)) : Ext (degU f) o o' (p ^ h) := by
  obtain ⟨up, u, r, nb, index, rup, hu, _, hnb, hnewO, hindex, hhm⟩ := oneStep_inv f o p o' h hdeg H
  generalize degU f = n at *
  have hp0 : p ≠ 0 := by omega
  have hpq : (p : ℚ) ≠ 0 := Int.cast_ne_zero.mpr hp0
  obtain ⟨ru, du, C, hC⟩ := lastHnf_spec n r hdeg p hp0 up u rup hu
  obtain ⟨rnb, hnbM⟩ := newBasisM_spec n p u o nb ru ho hnb
  have dnb : (toM n n nb).det ≠ 0 := by
    rw [hnbM, Matrix.det_smul, Matrix.det_mul, det_map_intCast]
    exact mul_ne_zero (pow_ne_zero _ (inv_ne_zero hpq)) (mul_ne_zero (Int.cast_ne_zero.mpr du) hdet)
  obtain ⟨O, hO, rO, U, hU, hrel⟩ := fromBasis_spans nb n hdeg rnb dnb
  rw [hnewO] at hO
  injection hO with hO
  subst hO
  have dO : (toM n n o').det ≠ 0 := by
    rw [hrel, Matrix.det_mul, det_map_intCast]
    exact mul_ne_zero (Int.cast_ne_zero.mpr hU.ne_zero) dnb
  have sO : fromBasis o' = .ok o' := by
    have := hnfReduce_canonical nb o' n hdeg rnb rO U hU hrel
    unfold fromBasis at hnewO ⊢
    rw [this, hnewO]
  -- containment: o = C · nb = C · U⁻¹ · o'
  have hCnb : toM n n o = C.map (Int.castRingHom ℚ) * toM n n nb := by
    have hpI : (p • (1 : Matrix (Fin n) (Fin n) ℤ)).map (Int.castRingHom ℚ) = (p : ℚ) • 1 := by
      rw [Matrix.smul_one_eq_diagonal, Matrix.diagonal_map (map_zero _), Matrix.smul_one_eq_diagonal]
      rfl
    rw [hnbM, Matrix.mul_smul, ← Matrix.mul_assoc, ← Matrix.map_mul, ← hC, hpI, Matrix.smul_mul, Matrix.one_mul,
      smul_smul, inv_mul_cancel₀ hpq, one_smul]
  have hsub : toM n n o = (C * U⁻¹).map (Int.castRingHom ℚ) * toM n n o' := by
    rw [hrel, ← Matrix.mul_assoc, ← Matrix.map_mul, Matrix.mul_assoc, Matrix.nonsing_inv_mul _ hU,
      Matrix.mul_one]
    exact hCnb
  have hidx : NTV.Ord.index o' o = .ok (C * U⁻¹).det := by
    rw [index_ok_iff o' o n rO ho dO, hsub, Matrix.det_mul, det_map_intCast]
  rw [hidx] at hindex
  injection hindex with hindex
  have posO := stored_det_pos o' n hdeg rO dO sO
  have poso := stored_det_pos o n hdeg ho hdet hst
  have hipos : 1 ≤ index := by
    have e := (index_ok_iff o' o n rO ho dO _).mp hidx
    rw [hindex] at e
    exact Int.cast_pos.mp ((mul_pos_iff_of_pos_right posO).mp (e ▸ poso))
  obtain ⟨_, hpow⟩ := howmanyLoop_spec p hp _ index 0 h hipos hhm
  rw [Nat.sub_zero] at hpow
  exact ⟨rO, dO, sO, ⟨_, hsub⟩, by rw [hidx, hindex, hpow], by rw [← hpow]; exact hipos⟩

end NTV.Round2
