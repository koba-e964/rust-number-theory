import NTV.Proofs.Lemmas.Round2ProofsE
import NTV.Proofs.Lemmas.TrialProofs
/-! The loops of `find_integral_basis`: containment, index and discriminant through `primeLoop` and the
fold over the prime factorisation of the discriminant. -/
open Matrix Finset
namespace NTV.Round2
open NTV.Ord NTV.PolyG
open NTV.RowOps (toM Rect ent)

/-- for `(o' : o) = i ≥ 1` the value `disc(f)·det²/lc^(2n−2)` of `o` is `i²` times that of `o'`, so `Order::discriminant`
returns `i²·d'` on `o` exactly when it returns `d'` on `o'` -/
theorem disc_ext_iff {n : Nat} {o o' : QMat} {i : Int} (ho : Rect n n o) (h : Ext n o o' i) (f : List Int)
    (d' : Int) : discriminantOrd o f = .ok (i * i * d') ↔ discriminantOrd o' f = .ok d' := by
  have hi : (i : ℚ) * i ≠ 0 := by
    have : (i : ℚ) ≠ 0 := Int.cast_ne_zero.mpr (by have := h.pos; omega)
    exact mul_ne_zero this this
  have key : ∀ dd : Int, discValue dd f (toM n n o).det = ((i * i * d' : Int) : ℚ) ↔
      discValue dd f (toM n n o').det = (d' : ℚ) := by
    intro dd
    have e : discValue dd f (toM n n o).det = (i : ℚ) * i * discValue dd f (toM n n o').det := by
      rw [(index_ok_iff o' o n h.rect ho h.det i).mp h.idx]
      unfold discValue
      ring
    rw [e, Int.cast_mul, Int.cast_mul, mul_right_inj' hi]
  simp only [discriminantOrd_ok_iff o n ho, discriminantOrd_ok_iff o' n h.rect, key]

theorem disc_pow_ext_iff {n : Nat} {o o' : QMat} {p : Int} {k : Nat} (ho : Rect n n o) (h : Ext n o o' (p ^ k))
    (f : List Int) (d' : Int) :
    discriminantOrd o f = .ok (p ^ (2 * k) * d') ↔ discriminantOrd o' f = .ok d' := by
  rw [← disc_ext_iff ho h f d', ← pow_two, ← pow_mul, Nat.mul_comm]

/-- C15: disc(o) = i²·disc(o') -/
theorem disc_of_ext' {n : Nat} {o o' : QMat} {i : Int} (ho : Rect n n o) (h : Ext n o o' i) (f : List Int)
    (d' : Int) (hd : discriminantOrd o' f = .ok d') : discriminantOrd o f = .ok (i * i * d') :=
  (disc_ext_iff ho h f d').mpr hd

theorem primeLoop_ext (f : List Int) (p : Int) (hp : 0 < p) (hdeg : 0 < degU f) (fuel : Nat) (o : Order)
    (e : Nat) (o' : Order) (ho : Rect (degU f) (degU f) o) (hdet : (toM (degU f) (degU f) o).det ≠ 0)
    (hst : fromBasis o = .ok o) (H : primeLoop f p fuel o e = .ok o') :
    ∃ k : Nat, 2 * k ≤ e ∧ Ext (degU f) o o' (p ^ k) := by
  refine primeLoop_induction (Q := fun o e o' => Rect (degU f) (degU f) o → (toM (degU f) (degU f) o).det ≠ 0 →
    fromBasis o = .ok o → ∃ k : Nat, 2 * k ≤ e ∧ Ext (degU f) o o' (p ^ k)) ?_ ?_ ?_ fuel o e o' H ho hdet hst
  · intro o e _ ho hdet hst
    exact ⟨0, by omega, pow_zero p ▸ Ext.refl _ _ ho hdet hst⟩
  · intro o e newO _ hstep ho hdet hst
    exact ⟨0, by omega, oneStep_ext f o p newO 0 hdeg ho hdet hst hp hstep⟩
  · intro o e newO hm o' _ hstep hle _ ih ho hdet hst
    have hext := oneStep_ext f o p newO hm hdeg ho hdet hst hp hstep
    obtain ⟨k, hk, hext2⟩ := ih hext.rect hext.det hext.stored
    exact ⟨hm + k, by omega, pow_add p hm k ▸ Ext.trans ho hext hext2⟩

theorem fold_ext (f : List Int) (hdeg : 0 < degU f) (fac : List (Nat × Nat)) (hfac : ∀ pe ∈ fac, 0 < pe.1)
    (o O : Order) (ho : Rect (degU f) (degU f) o) (hdet : (toM (degU f) (degU f) o).det ≠ 0)
    (hst : fromBasis o = .ok o)
    (H : fac.foldlM (fun o pe => primeLoop f (pe.1 : Int) (pe.2 + 1) o pe.2) o = .ok O) :
    ∃ i : Int, Ext (degU f) o O i ∧ i * i ∣ (NTV.Trial.prodOf fac : Int) := by
  induction fac generalizing o with
  | nil =>
    rw [List.foldlM_nil] at H
    cases H
    exact ⟨1, Ext.refl _ _ ho hdet hst, by simp⟩
  | cons pe rest ih =>
    rw [List.foldlM_cons] at H
    obtain ⟨o1, h1, H⟩ := (bind_ok _ _ _).mp H
    have hp : (0 : Int) < (pe.1 : Int) := Int.natCast_pos.mpr (hfac pe List.mem_cons_self)
    obtain ⟨k, hk, hext⟩ := primeLoop_ext f pe.1 hp hdeg _ o pe.2 o1 ho hdet hst h1
    obtain ⟨j, hext2, hj⟩ := ih (fun q hq => hfac q (by simp [hq])) o1 hext.rect hext.det hext.stored H
    refine ⟨(pe.1 : Int) ^ k * j, Ext.trans ho hext hext2, ?_⟩
    have hprod : (NTV.Trial.prodOf (pe :: rest) : Int) = (pe.1 : Int) ^ pe.2 * (NTV.Trial.prodOf rest : Int) := by
      simp [NTV.Trial.prodOf]
    rw [hprod]
    have : (pe.1 : Int) ^ k * j * ((pe.1 : Int) ^ k * j) = ((pe.1 : Int) ^ (2 * k)) * (j * j) := by ring
    rw [this]
    exact mul_dvd_mul (pow_dvd_pow _ hk) hj

end NTV.Round2
