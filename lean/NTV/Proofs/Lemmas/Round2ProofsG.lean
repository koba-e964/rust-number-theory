import NTV.Proofs.Lemmas.Round2ProofsF
/-! The starting order `non_monic_initial_order` (the module Z⟨1, a_nθ, a_nθ²+a_{n−1}θ, …⟩; the Rust source calls it
Z[θ] ∩ Z[1/θ], an identification not proved here): square, stored, containing 1, a unimodular
transform of the matrix handed to `hnf_reduce`. -/
open Matrix Finset
namespace NTV.Round2
open NTV.Ord NTV.PolyG
open NTV.RowOps (toM Rect ent)

/-- the matrix handed to `hnf_reduce` by `non_monic_initial_order` -/
def startBasis (f : List Int) : QMat :=
  (List.range (degU f)).map (fun i => (List.range (degU f)).map (fun j =>
    if i = 0 then (if j = 0 then 1 else 0)
    else if 1 ≤ j ∧ j ≤ i then ((coefAt f (degU f - (i - j)) : Int) : Rat) else 0))

theorem startBasis_rect (f : List Int) : Rect (degU f) (degU f) (startBasis f) := by
  refine ⟨by simp [startBasis], ?_⟩
  intro r hr
  simp only [startBasis, List.mem_map, List.mem_range] at hr
  obtain ⟨i, _, rfl⟩ := hr
  simp

theorem startBasis_getD (f : List Int) {i j : Nat} (hi : i < degU f) (hj : j < degU f) :
    ((startBasis f).getD i []).getD j 0 =
      if i = 0 then (if j = 0 then 1 else 0)
      else if 1 ≤ j ∧ j ≤ i then ((coefAt f (degU f - (i - j)) : Int) : Rat) else 0 := by
  simp only [startBasis, List.getD_eq_getElem?_getD, List.getElem?_map, List.getElem?_range hi,
    List.getElem?_range hj, Option.map_some, Option.getD_some]

theorem startBasis_row0 (f : List Int) (hn : 0 < degU f) :
    toM (degU f) (degU f) (startBasis f) ⟨0, hn⟩ = fun j => if j.val = 0 then 1 else 0 := by
  ext j
  exact (startBasis_getD f hn j.isLt).trans (if_pos rfl)

theorem nonMonicInitialOrder_inv (f : List Int) (S : QMat) (h : nonMonicInitialOrder f = .ok S) :
    0 < degU f ∧ f.length = degU f + 1 ∧ hnfReduce (startBasis f) = .ok S := by
  unfold nonMonicInitialOrder at h
  cases f with
  | nil => cases h
  | cons a l =>
    by_cases hd : degU (a :: l) = 0
    · rw [if_neg (by simp), if_pos hd] at h
      cases h
    · rw [if_neg (by simp), if_neg hd] at h
      exact ⟨by omega, by simp [degU], h⟩

theorem hnfReduce_ok_nonsing (A : QMat) (n : Nat) (hn : 0 < n) (hA : Rect n n A) (S : QMat)
    (h : hnfReduce A = .ok S) : Rect n n S ∧ ((toM n n S).det ≠ 0 → (toM n n A).det ≠ 0) := by
  obtain ⟨H, _, _, hlat, rfl⟩ := hnfReduce_ok_inv A n hn hA S h
  refine ⟨unscaled_rect n _ H, ?_⟩
  intro hdS hdA
  apply hdS
  obtain ⟨C, hC⟩ := NTV.Hnf.InLattice.exists_mul (fun i => (hlat _).mp (NTV.Hnf.InLattice.row i))
  have hsd : (NTV.Hnf.toM n n (scaledBy (lcmDen A 1) A n)).det = 0 := by
    have := congrArg Matrix.det (scaledBy_map (lcmDen A 1) A n hA (lcmDen_spec A 1).2.1)
    rw [det_map_intCast, Matrix.det_smul, hdA, mul_zero] at this
    exact Int.cast_eq_zero.mp this
  rw [unscaled_toM, Matrix.det_smul, det_map_intCast, hC, Matrix.det_mul, hsd, mul_zero, Int.cast_zero, mul_zero]

theorem start_spans_of_det (f : List Int) (S : QMat) (hS : nonMonicInitialOrder f = .ok S)
    (dB : (toM (degU f) (degU f) (startBasis f)).det ≠ 0) :
    fromBasis S = .ok S ∧ ∃ U : Matrix (Fin (degU f)) (Fin (degU f)) ℤ, IsUnit U.det ∧
      toM (degU f) (degU f) S = U.map (Int.castRingHom ℚ) * toM (degU f) (degU f) (startBasis f) := by
  obtain ⟨hn, _, hred⟩ := nonMonicInitialOrder_inv f S hS
  obtain ⟨O, hO, rO, U, hU, hrel⟩ := fromBasis_spans (startBasis f) _ hn (startBasis_rect f) dB
  have hOS : O = S := by
    unfold fromBasis at hO
    rw [hred] at hO
    injection hO with hO
    exact hO.symm
  subst hOS
  refine ⟨?_, U, hU, hrel⟩
  have := hnfReduce_canonical (startBasis f) O _ hn (startBasis_rect f) rO U hU hrel
  unfold fromBasis
  rw [this, hred]

theorem start_spans (f : List Int) (S : QMat) (hS : nonMonicInitialOrder f = .ok S) :
    0 < degU f ∧ Rect (degU f) (degU f) S ∧ ((toM (degU f) (degU f) S).det ≠ 0 →
      fromBasis S = .ok S ∧ ∃ U : Matrix (Fin (degU f)) (Fin (degU f)) ℤ, IsUnit U.det ∧
        toM (degU f) (degU f) S = U.map (Int.castRingHom ℚ) * toM (degU f) (degU f) (startBasis f) ∧
        toM (degU f) (degU f) (startBasis f) = (U⁻¹).map (Int.castRingHom ℚ) * toM (degU f) (degU f) S) := by
  obtain ⟨hn, _, hred⟩ := nonMonicInitialOrder_inv f S hS
  obtain ⟨rS, hns⟩ := hnfReduce_ok_nonsing _ _ hn (startBasis_rect f) S hred
  refine ⟨hn, rS, fun dS => ?_⟩
  obtain ⟨sS, U, hU, hrel⟩ := start_spans_of_det f S hS (hns dS)
  refine ⟨sS, U, hU, hrel, ?_⟩
  rw [hrel, ← Matrix.mul_assoc, ← Matrix.map_mul, Matrix.nonsing_inv_mul _ hU,
    Matrix.map_one _ (map_zero _) (map_one _), Matrix.one_mul]

theorem start_good (f : List Int) (S : QMat) (d : Int) (hS : nonMonicInitialOrder f = .ok S)
    (hd : discriminantOrd S f = .ok d) (hd0 : d ≠ 0) :
    0 < degU f ∧ Rect (degU f) (degU f) S ∧ (toM (degU f) (degU f) S).det ≠ 0 ∧ fromBasis S = .ok S ∧
      ∃ c : Fin (degU f) → ℤ, castV c ᵥ* toM (degU f) (degU f) S = fun j => if j.val = 0 then 1 else 0 := by
  obtain ⟨hn, rS, hsp⟩ := start_spans f S hS
  have dS : (toM (degU f) (degU f) S).det ≠ 0 := by
    intro h0
    obtain ⟨dd, fl, _, _, _, hv⟩ := (discriminantOrd_ok_iff S _ rS f d).mp hd
    unfold discValue at hv
    rw [h0, mul_zero, zero_div] at hv
    exact hd0 (Int.cast_eq_zero.mp hv.symm)
  obtain ⟨sS, U, _, _, hinv⟩ := hsp dS
  refine ⟨hn, rS, dS, sS, (U⁻¹) ⟨0, hn⟩, ?_⟩
  rw [← startBasis_row0 f hn, hinv, Matrix.mul_apply_eq_vecMul]
  rfl

end NTV.Round2
