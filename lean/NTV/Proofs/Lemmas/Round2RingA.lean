import Mathlib.Algebra.CharP.Lemmas
import Mathlib.Algebra.Ring.Subring.Basic
import Mathlib.Algebra.BigOperators.Fin
import Mathlib.RingTheory.Coprime.Lemmas
import Mathlib.Data.Nat.Order.Lemmas
/-! Round 2 (Pohst–Zassenhaus), the commutative algebra. `K` is a commutative ring, `O` a subring, `p` a prime
number. `pO O p = p·O`, `radQ O p q = {x ∈ O | x^q ∈ pO}` (for `q = p^k` an ideal of `O`: Frobenius),
`multR I = {x ∈ K | x·I ⊆ I}` (the multiplier ring), the description of `(1/p)(U + pO)` as the multiplier ring,
and the maximality argument: an over-ring `S ⊇ O` with `p^r S ⊆ O` is contained in `O` as soon as the
multiplier ring of the `p`-radical is. No list-level model is involved here. -/
namespace NTV.R2Abs

variable {K : Type*} [CommRing K]

/-- `p·O` -/
def pO (O : Subring K) (p : ℕ) : Set K := {x | ∃ y ∈ O, x = (p : K) * y}

theorem pO_sub {O : Subring K} {p : ℕ} {x : K} (h : x ∈ pO O p) : x ∈ O := by
  obtain ⟨y, hy, rfl⟩ := h
  exact O.mul_mem (natCast_mem O p) hy

theorem pO_zero (O : Subring K) (p : ℕ) : (0 : K) ∈ pO O p := ⟨0, O.zero_mem, (mul_zero _).symm⟩

theorem pO_add {O : Subring K} {p : ℕ} {x y : K} (hx : x ∈ pO O p) (hy : y ∈ pO O p) : x + y ∈ pO O p := by
  obtain ⟨a, ha, rfl⟩ := hx
  obtain ⟨b, hb, rfl⟩ := hy
  exact ⟨a + b, O.add_mem ha hb, (mul_add _ _ _).symm⟩

theorem pO_mul {O : Subring K} {p : ℕ} {a x : K} (ha : a ∈ O) (hx : x ∈ pO O p) : a * x ∈ pO O p := by
  obtain ⟨b, hb, rfl⟩ := hx
  exact ⟨a * b, O.mul_mem ha hb, mul_left_comm _ _ _⟩

theorem pO_mul' {O : Subring K} {p : ℕ} {a x : K} (ha : a ∈ O) (hx : x ∈ pO O p) : x * a ∈ pO O p := by
  rw [mul_comm]; exact pO_mul ha hx

theorem pO_pow {O : Subring K} {p : ℕ} {x : K} (hx : x ∈ pO O p) (t : ℕ) (ht : 1 ≤ t) : x ^ t ∈ pO O p := by
  obtain ⟨s, rfl⟩ : ∃ s, t = s + 1 := ⟨t - 1, by omega⟩
  rw [pow_succ]
  exact pO_mul (O.pow_mem (pO_sub hx) s) hx

/-- `{x ∈ O | x^q ∈ pO}` -/
def radQ (O : Subring K) (p q : ℕ) : Set K := {x | x ∈ O ∧ x ^ q ∈ pO O p}

/-- an ideal of the subring `O`, as a subset of `K` -/
structure IdealIn (O : Subring K) (I : Set K) : Prop where
  sub : ∀ x ∈ I, x ∈ O
  zero : (0 : K) ∈ I
  add : ∀ x ∈ I, ∀ y ∈ I, x + y ∈ I
  mul : ∀ a ∈ O, ∀ x ∈ I, a * x ∈ I

theorem IdealIn.neg {O : Subring K} {I : Set K} (h : IdealIn O I) {x : K} (hx : x ∈ I) : -x ∈ I := by
  have := h.mul (-1) (O.neg_mem O.one_mem) x hx
  simpa using this

theorem IdealIn.sub' {O : Subring K} {I : Set K} (h : IdealIn O I) {x y : K} (hx : x ∈ I) (hy : y ∈ I) :
    x - y ∈ I := by
  rw [sub_eq_add_neg]; exact h.add x hx _ (h.neg hy)

theorem IdealIn.mem_iff_of_sub_mem {O : Subring K} {I : Set K} (h : IdealIn O I) {x y : K} (hxy : x - y ∈ I) :
    x ∈ I ↔ y ∈ I := by
  constructor
  · intro hx
    have := h.sub' hx hxy
    rwa [sub_sub_cancel] at this
  · intro hy
    have := h.add _ hxy _ hy
    rwa [sub_add_cancel] at this

theorem IdealIn.sum {O : Subring K} {I : Set K} (h : IdealIn O I) {ι : Type*} (s : Finset ι) (g : ι → K)
    (hg : ∀ i ∈ s, g i ∈ I) : ∑ i ∈ s, g i ∈ I := by
  classical
  induction s using Finset.induction_on with
  | empty => simpa using h.zero
  | insert a s ha ih =>
    rw [Finset.sum_insert ha]
    exact h.add _ (hg a (by simp)) _ (ih (fun i hi => hg i (by simp [hi])))

theorem pO_ideal (O : Subring K) (m : ℕ) : IdealIn O (pO O m) :=
  ⟨fun _ => pO_sub, pO_zero O m, fun _ hx _ hy => pO_add hx hy, fun _ ha _ hx => pO_mul ha hx⟩

theorem add_pow_prime_pow_sub_mem {O : Subring K} {p : ℕ} (hp : p.Prime) (k : ℕ) {x y : K} (hx : x ∈ O)
    (hy : y ∈ O) : (x + y) ^ p ^ k - (x ^ p ^ k + y ^ p ^ k) ∈ pO O p := by
  obtain ⟨r, hr⟩ := exists_add_pow_prime_pow_eq hp (⟨x, hx⟩ : O) ⟨y, hy⟩ k
  have hr' := congrArg Subtype.val hr
  simp only [Subring.coe_pow, Subring.coe_add, Subring.coe_mul, Subring.coe_natCast] at hr'
  exact ⟨x * y * r.1, O.mul_mem (O.mul_mem hx hy) r.2, by rw [hr']; ring⟩

theorem radQ_ideal (O : Subring K) (p k : ℕ) (hp : p.Prime) : IdealIn O (radQ O p (p ^ k)) where
  sub := fun x hx => hx.1
  zero := ⟨O.zero_mem, by
    rw [zero_pow (pow_ne_zero _ hp.ne_zero)]; exact pO_zero O p⟩
  add := by
    rintro x ⟨hx, hxq⟩ y ⟨hy, hyq⟩
    have := pO_add (add_pow_prime_pow_sub_mem hp k hx hy) (pO_add hxq hyq)
    rw [sub_add_cancel] at this
    exact ⟨O.add_mem hx hy, this⟩
  mul := by
    rintro a ha x ⟨hx, hxq⟩
    refine ⟨O.mul_mem ha hx, ?_⟩
    rw [mul_pow]
    exact pO_mul (O.pow_mem ha _) hxq

theorem pO_sub_radQ (O : Subring K) (p q : ℕ) (hq : 1 ≤ q) {x : K} (hx : x ∈ pO O p) : x ∈ radQ O p q :=
  ⟨pO_sub hx, pO_pow hx q hq⟩

theorem p_mem_radQ (O : Subring K) (p q : ℕ) (hq : 1 ≤ q) : (p : K) ∈ radQ O p q :=
  pO_sub_radQ O p q hq ⟨1, O.one_mem, by simp⟩

/-- the multiplier set `{x | x·I ⊆ I}` -/
def multR (I : Set K) : Set K := {x | ∀ y ∈ I, x * y ∈ I}

/-- the multiplier ring of an ideal of `O` -/
def multRing (O : Subring K) (I : Set K) (h : IdealIn O I) : Subring K where
  carrier := multR I
  mul_mem' := by
    intro a b ha hb y hy
    rw [mul_assoc]
    exact ha _ (hb y hy)
  one_mem' := by intro y hy; simpa using hy
  add_mem' := by
    intro a b ha hb y hy
    rw [add_mul]
    exact h.add _ (ha y hy) _ (hb y hy)
  zero_mem' := by intro y _; simpa using h.zero
  neg_mem' := by
    intro a ha y hy
    rw [neg_mul]
    exact h.neg (ha y hy)

theorem mem_multRing {O : Subring K} {I : Set K} (h : IdealIn O I) (x : K) :
    x ∈ multRing O I h ↔ ∀ y ∈ I, x * y ∈ I := Iff.rfl

theorem le_multRing (O : Subring K) (I : Set K) (h : IdealIn O I) : O ≤ multRing O I h :=
  fun a ha y hy => h.mul a ha y hy

/-- `p·I` -/
def pI (I : Set K) (p : ℕ) : Set K := {x | ∃ y ∈ I, x = (p : K) * y}

/-- the set computed by the `U_p` loop of Round 2: `{u ∈ I | u·I ⊆ p·I}` -/
def U0 (I : Set K) (p : ℕ) : Set K := {x | x ∈ I ∧ ∀ y ∈ I, y * x ∈ pI I p}

/-- **the new order is the multiplier ring**: `p·x ∈ U0 + pO ↔ x·I ⊆ I` (for an ideal `I ∋ p` of `O`,
`K` without `p`-torsion) -/
theorem mem_multR_iff (O : Subring K) (I : Set K) (h : IdealIn O I) (p : ℕ) (hpI : (p : K) ∈ I)
    (hcancel : ∀ x y : K, (p : K) * x = p * y → x = y) (x : K) :
    (∃ u ∈ U0 I p, ∃ w ∈ pO O p, (p : K) * x = u + w) ↔ x ∈ multR I := by
  constructor
  · rintro ⟨u, ⟨_, hu⟩, w, ⟨w', hw', rfl⟩, hx⟩ y hy
    obtain ⟨t, ht, hty⟩ := hu y hy
    have : x * y = t + w' * y := by
      apply hcancel
      calc (p : K) * (x * y) = (p * x) * y := by ring
        _ = (u + p * w') * y := by rw [hx]
        _ = y * u + p * (w' * y) := by ring
        _ = p * (t + w' * y) := by rw [hty]; ring
    rw [this]
    exact h.add _ ht _ (h.mul _ hw' _ hy)
  · intro hx
    refine ⟨p * x, ⟨?_, ?_⟩, 0, pO_zero O p, by simp⟩
    · rw [mul_comm]; exact hx _ hpI
    · intro y hy
      exact ⟨x * y, hx y hy, by ring⟩

/-- **the maximality argument** (Pohst–Zassenhaus). `S ⊇ O` is a ring with `p^r·S ⊆ O`; the `p`-radical
`I = radQ O p q` is generated over ℤ by finitely many `η_j`, and it IS the radical: `z ∈ O`, `z^t ∈ pO` ⇒
`z^q ∈ pO`. If every element of `S` that multiplies `I` into itself lies in `O`, then `S ⊆ O`. -/
theorem over_le_of_mult (O S : Subring K) (p r q : ℕ) (hOS : O ≤ S)
    (hpr : ∀ x ∈ S, (p : K) ^ r * x ∈ O)
    (hrad : ∀ z ∈ O, ∀ t : ℕ, z ^ t ∈ pO O p → z ^ q ∈ pO O p)
    (m : ℕ) (η : Fin m → K) (hη : ∀ j, η j ∈ radQ O p q)
    (hgen : ∀ y ∈ radQ O p q, ∃ c : Fin m → ℤ, y = ∑ j, c j • η j)
    (hmult : ∀ x ∈ S, (∀ y ∈ radQ O p q, x * y ∈ radQ O p q) → x ∈ O) : S ≤ O := by
  intro x0 hx0
  by_contra hx0O
  have hpow : ∀ y ∈ radQ O p q, ∀ x ∈ S, y ^ (q * r) * x ∈ O := by
    rintro y ⟨hy, w, hw, hyw⟩ x hx
    rw [pow_mul, hyw, mul_pow]
    have := O.mul_mem (O.pow_mem hw r) (hpr x hx)
    convert this using 1
    ring
  -- kill the generators one at a time: replace `x` by `η_a^N·x` for the last `N` with `η_a^N·x ∉ O`
  have stepA : ∀ s : Finset (Fin m), ∃ x ∈ S, x ∉ O ∧ ∀ i ∈ s, x * η i ∈ O := by
    classical
    intro s
    induction s using Finset.induction_on with
    | empty => exact ⟨x0, hx0, hx0O, fun i hi => absurd hi (Finset.notMem_empty i)⟩
    | insert a s _ ih =>
      obtain ⟨x, hxS, hxO, hxi⟩ := ih
      obtain ⟨N, hN, hN1⟩ := Nat.exists_not_and_succ_of_not_zero_of_exists (p := fun N => η a ^ N * x ∈ O)
        (by rwa [pow_zero, one_mul]) ⟨q * r, hpow _ (hη a) x hxS⟩
      refine ⟨η a ^ N * x, S.mul_mem (S.pow_mem (hOS (hη a).1) _) hxS, hN, fun i hi => ?_⟩
      rcases Finset.mem_insert.mp hi with rfl | his
      · rwa [mul_right_comm, ← pow_succ]
      · rw [mul_assoc]
        exact O.mul_mem (O.pow_mem (hη a).1 N) (hxi i his)
  obtain ⟨x, hxS, hxO, hxη⟩ := stepA Finset.univ
  apply hxO
  apply hmult x hxS
  intro y hy
  obtain ⟨c, hc⟩ := hgen y hy
  have hxyO : x * y ∈ O := by
    rw [hc, Finset.mul_sum]
    apply O.sum_mem
    intro j _
    rw [mul_smul_comm]
    exact O.zsmul_mem (hxη j (Finset.mem_univ j)) _
  refine ⟨hxyO, ?_⟩
  apply hrad _ hxyO (q * (r + 1))
  obtain ⟨hyO, w, hw, hyw⟩ := hy
  rw [mul_pow, pow_mul y, hyw, mul_pow]
  refine ⟨(p : K) ^ r * x ^ (q * (r + 1)) * w ^ (r + 1), ?_, by ring⟩
  exact O.mul_mem (hpr _ (S.pow_mem hxS _)) (O.pow_mem hw _)

/-- `O` is `p`-maximal: no strictly larger subring `S` with `p^r·S ⊆ O` -/
def PMax (O : Subring K) (p : ℕ) : Prop :=
  ∀ S : Subring K, O ≤ S → (∃ r : ℕ, ∀ x ∈ S, (p : K) ^ r * x ∈ O) → S ≤ O

/-- the subring `O + c·S` for subrings `O ⊆ S` -/
def addSmul (O S : Subring K) (hOS : O ≤ S) (c : ℕ) : Subring K where
  carrier := {z | ∃ a ∈ O, ∃ s ∈ S, z = a + (c : K) * s}
  mul_mem' := by
    rintro _ _ ⟨a, ha, s, hs, rfl⟩ ⟨b, hb, t, ht, rfl⟩
    refine ⟨a * b, O.mul_mem ha hb, a * t + b * s + (c : K) * (s * t), ?_, by ring⟩
    exact S.add_mem (S.add_mem (S.mul_mem (hOS ha) ht) (S.mul_mem (hOS hb) hs))
      (S.mul_mem (natCast_mem S c) (S.mul_mem hs ht))
  one_mem' := ⟨1, O.one_mem, 0, S.zero_mem, by rw [mul_zero, add_zero]⟩
  add_mem' := by
    rintro _ _ ⟨a, ha, s, hs, rfl⟩ ⟨b, hb, t, ht, rfl⟩
    exact ⟨a + b, O.add_mem ha hb, s + t, S.add_mem hs ht, by ring⟩
  zero_mem' := ⟨0, O.zero_mem, 0, S.zero_mem, by rw [mul_zero, add_zero]⟩
  neg_mem' := by
    rintro _ ⟨a, ha, s, hs, rfl⟩
    exact ⟨-a, O.neg_mem ha, -s, S.neg_mem hs, by ring⟩

theorem le_addSmul (O S : Subring K) (hOS : O ≤ S) (c : ℕ) : O ≤ addSmul O S hOS c :=
  fun a ha => ⟨a, ha, 0, S.zero_mem, by rw [mul_zero, add_zero]⟩

theorem smul_mem_addSmul (O S : Subring K) (hOS : O ≤ S) (c : ℕ) {s : K} (hs : s ∈ S) :
    (c : K) * s ∈ addSmul O S hOS c :=
  ⟨0, O.zero_mem, s, hs, (zero_add _).symm⟩

theorem mul_addSmul_mem (O S : Subring K) (hOS : O ≤ S) (c : ℕ) {d : K} (hd : d ∈ O)
    (h : ∀ s ∈ S, d * ((c : K) * s) ∈ O) : ∀ x ∈ addSmul O S hOS c, d * x ∈ O := by
  rintro _ ⟨a, ha, s, hs, rfl⟩
  rw [mul_add]
  exact O.add_mem (O.mul_mem hd ha) (h s hs)

/-- `p`-maximality passes up along an index prime to `p`: `m·O₂ ⊆ O ⊆ O₂`, `gcd(m, p) = 1` -/
theorem PMax.of_coprime (O O₂ : Subring K) (p m : ℕ) (h : PMax O p) (hle : O ≤ O₂)
    (hm : ∀ x ∈ O₂, (m : K) * x ∈ O) (hcop : Nat.Coprime m p) : PMax O₂ p := by
  intro S hS ⟨r, hr⟩
  -- `O + m·S` is a ring between `O` and `S` with `p^r·(O + m·S) ⊆ O`, hence `m·S ⊆ O`
  have hS'O : addSmul O S (hle.trans hS) m ≤ O :=
    h _ (le_addSmul O S _ m) ⟨r, mul_addSmul_mem O S _ m (O.pow_mem (natCast_mem O p) r) fun s hs => by
      rw [mul_left_comm]; exact hm _ (hr s hs)⟩
  intro s hs
  have h1 : (m : K) * s ∈ O₂ := hle (hS'O (smul_mem_addSmul O S _ m hs))
  obtain ⟨u, v, huv⟩ := Nat.isCoprime_iff_coprime.mpr (Nat.Coprime.pow_right r hcop)
  have hK : (u : K) * (m : K) + (v : K) * (p : K) ^ r = 1 := by
    have := congrArg (Int.cast (R := K)) huv
    rwa [Int.cast_add, Int.cast_mul, Int.cast_mul, Int.cast_natCast, Int.cast_natCast, Nat.cast_pow,
      Int.cast_one] at this
  have : s = (u : K) * ((m : K) * s) + (v : K) * ((p : K) ^ r * s) := by
    rw [← mul_assoc, ← mul_assoc, ← add_mul, hK, one_mul]
  rw [this]
  exact O₂.add_mem (O₂.mul_mem (intCast_mem O₂ u) h1) (O₂.mul_mem (intCast_mem O₂ v) (hr s hs))

end NTV.R2Abs
