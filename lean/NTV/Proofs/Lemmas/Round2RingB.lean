import NTV.Proofs.Lemmas.TableAbs
import NTV.Proofs.Lemmas.Round2RingA
import Mathlib.LinearAlgebra.Matrix.Charpoly.Coeff
import Mathlib.Data.ZMod.Basic
import Mathlib.Algebra.Field.ZMod
import Mathlib.RingTheory.Noetherian.Basic
import Mathlib.RingTheory.PrincipalIdealDomain
import Mathlib.Algebra.EuclideanDomain.Int
/-! Round 2, the order as a lattice with a multiplication table (`NTV.TableAbs.Ctx`): the ℤ-span `Olat` of the
`Ω_i` is a subring of `K` (when it contains 1); `p·O` in coordinates; the `p`-radical `{x | x^q ∈ pO}` with
`q ≥ n` is the radical of `pO` (a nilpotent endomorphism of an `n`-dimensional `𝔽_p`-space has `n`-th power 0);
it is finitely generated; Pohst–Zassenhaus: if the multiplier ring of the `p`-radical is `O` then `O` is
`p`-maximal. -/
open Matrix
namespace NTV.R2Abs
open NTV.TableAbs

variable {K : Type*} [CommRing K] {n : ℕ} {q : ℚ →+* K} {Ω : Fin n → K} {T : Fin n → Fin n → Fin n → ℤ}

/-- the element `Σ c_i Ω_i` for an integer coordinate vector -/
def el (q : ℚ →+* K) (Ω : Fin n → K) (c : Fin n → ℤ) : K := psi q Ω (castV c)

theorem castV_add (a b : Fin n → ℤ) : castV (a + b) = castV a + castV b := by
  funext i; simp [castV]

theorem castV_zero : castV (0 : Fin n → ℤ) = 0 := by funext i; simp [castV]

theorem castV_zsmul (z : ℤ) (a : Fin n → ℤ) : castV (z • a) = (z : ℚ) • castV a := by
  funext i; simp [castV]

theorem castV_single [DecidableEq (Fin n)] (i : Fin n) :
    castV (Pi.single i (1 : ℤ)) = Pi.single i (1 : ℚ) := by
  funext k
  exact (Pi.apply_single (fun _ (z : ℤ) => (z : ℚ)) (fun _ => Int.cast_zero) i 1 k).trans
    (by rw [Int.cast_one])

theorem el_add (a b : Fin n → ℤ) : el q Ω (a + b) = el q Ω a + el q Ω b := by
  unfold el; rw [castV_add, psi_add]

theorem el_zero : el q Ω (0 : Fin n → ℤ) = 0 := by
  unfold el; rw [castV_zero, psi_zero]

theorem el_zsmul (z : ℤ) (a : Fin n → ℤ) : el q Ω (z • a) = (z : K) * el q Ω a := by
  unfold el; rw [castV_zsmul, psi_smul]; simp

theorem el_single [DecidableEq (Fin n)] (i : Fin n) : el q Ω (Pi.single i 1) = Ω i := by
  unfold el
  rw [castV_single, psi_single]

theorem el_neg (a : Fin n → ℤ) : el q Ω (-a) = -el q Ω a := by
  have := el_zsmul (q := q) (Ω := Ω) (-1) a
  simpa using this

theorem el_sub (a b : Fin n → ℤ) : el q Ω (a - b) = el q Ω a - el q Ω b := by
  rw [sub_eq_add_neg, el_add, el_neg, sub_eq_add_neg]

theorem el_sum {ι : Type*} (s : Finset ι) (g : ι → Fin n → ℤ) :
    el q Ω (∑ i ∈ s, g i) = ∑ i ∈ s, el q Ω (g i) := by
  classical
  induction s using Finset.induction_on with
  | empty => simpa using el_zero
  | insert a s ha ih => rw [Finset.sum_insert ha, Finset.sum_insert ha, el_add, ih]

theorem _root_.NTV.TableAbs.Ctx.el_inj (h : Ctx q Ω T) (a b : Fin n → ℤ) (e : el q Ω a = el q Ω b) : a = b :=
  funext fun i => Int.cast_injective (α := ℚ) (congrFun (h.inj _ _ e) i)

theorem _root_.NTV.TableAbs.Ctx.el_mul (h : Ctx q Ω T) (a b : Fin n → ℤ) : el q Ω a * el q Ω b = el q Ω (mulVec T a b) :=
  h.mul_agrees a b

theorem _root_.NTV.TableAbs.Ctx.el_mul_reg (h : Ctx q Ω T) (w c : Fin n → ℤ) :
    el q Ω w * el q Ω c = el q Ω (w ᵥ* reg T c) := by
  rw [mul_comm, h.el_mul, mulVec_eq_vecMul]

theorem _root_.NTV.TableAbs.Ctx.el_mul_pow (h : Ctx q Ω T) (w c : Fin n → ℤ) (t : ℕ) :
    el q Ω w * el q Ω c ^ t = el q Ω (w ᵥ* reg T c ^ t) := by
  induction t with
  | zero => simp
  | succ t ih =>
    rw [pow_succ, ← mul_assoc, ih, h.el_mul_reg, Matrix.vecMul_vecMul, ← pow_succ]

/-- the ℤ-span of the `Ω_i` as a subring of `K` -/
def Olat (h : Ctx q Ω T) (one : ∃ e : Fin n → ℤ, el q Ω e = 1) : Subring K where
  carrier := Set.range (el q Ω)
  mul_mem' := by
    rintro _ _ ⟨a, rfl⟩ ⟨b, rfl⟩
    exact ⟨_, (h.el_mul a b).symm⟩
  one_mem' := one
  add_mem' := by
    rintro _ _ ⟨a, rfl⟩ ⟨b, rfl⟩
    exact ⟨a + b, el_add a b⟩
  zero_mem' := ⟨0, el_zero⟩
  neg_mem' := by
    rintro _ ⟨a, rfl⟩
    exact ⟨-a, el_neg a⟩

theorem mem_Olat (h : Ctx q Ω T) (one : ∃ e : Fin n → ℤ, el q Ω e = 1) (x : K) :
    x ∈ Olat h one ↔ ∃ c : Fin n → ℤ, el q Ω c = x := Iff.rfl

theorem el_mem_Olat (h : Ctx q Ω T) (one : ∃ e : Fin n → ℤ, el q Ω e = 1) (c : Fin n → ℤ) :
    el q Ω c ∈ Olat h one := ⟨c, rfl⟩

theorem mem_pO_iff (h : Ctx q Ω T) (one : ∃ e : Fin n → ℤ, el q Ω e = 1) (p : ℕ) (c : Fin n → ℤ) :
    el q Ω c ∈ pO (Olat h one) p ↔ ∀ k, (p : ℤ) ∣ c k := by
  constructor
  · rintro ⟨_, ⟨d, rfl⟩, hd⟩
    have : c = (p : ℤ) • d := by
      apply h.el_inj
      rw [hd, el_zsmul]; simp
    intro k
    rw [this]
    exact ⟨d k, by simp⟩
  · intro hk
    choose d hd using hk
    refine ⟨el q Ω d, ⟨d, rfl⟩, ?_⟩
    have : c = (p : ℤ) • d := by funext k; rw [hd k]; simp
    rw [this, el_zsmul]; simp

theorem inv_mul_natCast (q : ℚ →+* K) (p : ℕ) (hp : p ≠ 0) : q ((p : ℚ)⁻¹) * (p : K) = 1 := by
  rw [← map_natCast q p, ← map_mul, inv_mul_cancel₀ (Nat.cast_ne_zero.mpr hp), map_one]

theorem p_cancel (q : ℚ →+* K) (p : ℕ) (hp : p ≠ 0) (x y : K) (e : (p : K) * x = p * y) : x = y := by
  have hq := inv_mul_natCast q p hp
  calc x = q ((p : ℚ)⁻¹) * ((p : K) * x) := by rw [← mul_assoc, hq, one_mul]
    _ = y := by rw [e, ← mul_assoc, hq, one_mul]

/-- **the `p`-radical is the radical**: for `z ∈ O`, if some power of `z` lies in `pO` then so does every
power `z^Q` with `Q ≥ n` -/
theorem rad_of_pow (h : Ctx q Ω T) (one : ∃ e : Fin n → ℤ, el q Ω e = 1) (p : ℕ) (hp : p.Prime)
    (Q : ℕ) (hQ : n ≤ Q) (z : K) (hz : z ∈ Olat h one) (t : ℕ) (ht : z ^ t ∈ pO (Olat h one) p) :
    z ^ Q ∈ pO (Olat h one) p := by
  classical
  have : Fact p.Prime := ⟨hp⟩
  obtain ⟨c, rfl⟩ := hz
  obtain ⟨e, he⟩ := one
  set R := reg T c with hR
  set φ := (Int.castRingHom (ZMod p)).mapMatrix (m := Fin n) with hφ
  have hRt : φ (R ^ t) = 0 := by
    ext i k
    have hmem : el q Ω (Pi.single i 1) * el q Ω c ^ t ∈ pO (Olat h ⟨e, he⟩) p :=
      pO_mul (el_mem_Olat h _ _) ht
    rw [h.el_mul_pow, mem_pO_iff] at hmem
    have := hmem k
    rw [Matrix.single_one_vecMul] at this
    simp only [hφ, RingHom.mapMatrix_apply, Matrix.map_apply, Matrix.zero_apply, eq_intCast]
    exact (ZMod.intCast_zmod_eq_zero_iff_dvd _ p).mpr this
  have hnil : IsNilpotent (φ R) := ⟨t, by rw [← map_pow]; exact hRt⟩
  have hchar : (φ R).charpoly = Polynomial.X ^ n := by
    have := Matrix.isNilpotent_charpoly_sub_pow_of_isNilpotent hnil
    rw [Fintype.card_fin] at this
    exact sub_eq_zero.mp this.eq_zero
  have hRn : φ R ^ n = 0 := by
    have := Matrix.aeval_self_charpoly (φ R)
    rwa [hchar, map_pow, Polynomial.aeval_X] at this
  have hRQ : φ (R ^ Q) = 0 := by
    rw [map_pow, ← Nat.add_sub_cancel' hQ, pow_add, hRn, zero_mul]
  have hdvd : ∀ i k, (p : ℤ) ∣ (R ^ Q) i k := by
    intro i k
    have := congrFun (congrFun hRQ i) k
    simp only [hφ, RingHom.mapMatrix_apply, Matrix.map_apply, Matrix.zero_apply, eq_intCast] at this
    exact (ZMod.intCast_zmod_eq_zero_iff_dvd _ p).mp this
  have : el q Ω c ^ Q = el q Ω (e ᵥ* R ^ Q) := by
    rw [← h.el_mul_pow, he, one_mul]
  rw [this, mem_pO_iff]
  intro k
  simp only [Matrix.vecMul, dotProduct]
  apply Finset.dvd_sum
  intro i _
  exact Dvd.dvd.mul_left (hdvd i k) _

/-- the coordinate vectors of the elements of a subset of `K` closed under `0`, `+` and multiplication by integers
are the ℤ-combinations of finitely many of them (`ℤⁿ` is noetherian) -/
theorem exists_generators (q : ℚ →+* K) (Ω : Fin n → K) (A : Set K) (h0 : (0 : K) ∈ A)
    (hadd : ∀ x ∈ A, ∀ y ∈ A, x + y ∈ A) (hz : ∀ (z : ℤ), ∀ x ∈ A, (z : K) * x ∈ A) :
    ∃ (m : ℕ) (s : Fin m → Fin n → ℤ), (∀ j, el q Ω (s j) ∈ A) ∧
      ∀ c : Fin n → ℤ, el q Ω c ∈ A ↔ ∃ a : Fin m → ℤ, ∑ j, a j • s j = c := by
  let L : Submodule ℤ (Fin n → ℤ) :=
    { carrier := {c | el q Ω c ∈ A}
      add_mem' := by
        intro a b ha hb
        show el q Ω (a + b) ∈ A
        rw [el_add]
        exact hadd _ ha _ hb
      zero_mem' := by
        show el q Ω 0 ∈ A
        rw [el_zero]
        exact h0
      smul_mem' := by
        intro z a ha
        show el q Ω (z • a) ∈ A
        rw [el_zsmul]
        exact hz z _ ha }
  obtain ⟨m, s, hs⟩ := Submodule.fg_iff_exists_fin_generating_family.mp (IsNoetherian.noetherian L)
  refine ⟨m, s, fun j => ?_, fun c => ?_⟩
  · have : s j ∈ L := by rw [← hs]; exact Submodule.subset_span ⟨j, rfl⟩
    exact this
  · rw [← Submodule.mem_span_range_iff_exists_fun ℤ, hs]
    exact Iff.rfl

theorem radQ_fg (h : Ctx q Ω T) (one : ∃ e : Fin n → ℤ, el q Ω e = 1) (p k : ℕ) (hp : p.Prime) :
    ∃ (m : ℕ) (η : Fin m → K), (∀ j, η j ∈ radQ (Olat h one) p (p ^ k)) ∧
      ∀ y ∈ radQ (Olat h one) p (p ^ k), ∃ c : Fin m → ℤ, y = ∑ j, c j • η j := by
  have hI := radQ_ideal (Olat h one) p k hp
  obtain ⟨m, s, hmem, hs⟩ := exists_generators q Ω _ hI.zero hI.add
    fun z x hx => hI.mul _ (intCast_mem _ z) x hx
  refine ⟨m, fun j => el q Ω (s j), hmem, fun y hy => ?_⟩
  obtain ⟨c, rfl⟩ := hy.1
  obtain ⟨a, rfl⟩ := (hs c).mp hy
  refine ⟨a, ?_⟩
  rw [el_sum]
  exact Finset.sum_congr rfl fun j _ => by rw [el_zsmul, zsmul_eq_mul]

/-- **Pohst–Zassenhaus**: if every `x ∈ K` with `x·I_p ⊆ I_p` lies in `O` (i.e. the Round 2 step does not
enlarge `O`) then `O` is `p`-maximal -/
theorem pmax_of_mult (h : Ctx q Ω T) (one : ∃ e : Fin n → ℤ, el q Ω e = 1) (p k : ℕ) (hp : p.Prime)
    (hk : n ≤ p ^ k)
    (hmult : ∀ x : K, x ∈ multR (radQ (Olat h one) p (p ^ k)) → x ∈ Olat h one) :
    PMax (Olat h one) p := by
  rintro S hOS ⟨r, hr⟩
  obtain ⟨m, η, hη, hgen⟩ := radQ_fg h one p k hp
  exact over_le_of_mult (Olat h one) S p r (p ^ k) hOS hr
    (fun z hz t ht => rad_of_pow h one p hp (p ^ k) hk z hz t ht) m η hη hgen
    (fun x _ hx => hmult x hx)

end NTV.R2Abs
