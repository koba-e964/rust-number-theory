import NTV.Proofs.Lemmas.Round2ProofsG
import NTV.Proofs.Lemmas.Round2RingK
/-! Round 2, list level: integer row lattices through `HNF::kernel`, `HNF::new`, truncation and `linComb`;
the values of `mul_mod_p`. -/
open Matrix Finset
namespace NTV.Round2
open NTV.Ord NTV.PolyG
open NTV.Hnf (InLattice)

/-- a row lattice that contains `d·e_0` with `d ≠ 0` has at least one row -/
theorem pos_of_inLattice_smul_single {n r : Nat} {A : IMat} (hn : 0 < n) {d : ℤ} (hd : d ≠ 0)
    [DecidableEq (Fin n)] (h : InLattice r n A (d • Pi.single (⟨0, hn⟩ : Fin n) 1)) : 0 < r := by
  rcases Nat.eq_zero_or_pos r with rfl | h0
  · obtain ⟨c, hc⟩ := h
    have := congrFun hc ⟨0, hn⟩
    rw [Pi.smul_apply, Pi.single_eq_same, smul_eq_mul, mul_one] at this
    exact absurd (this.symm.trans (by simp [Matrix.vecMul, dotProduct])) hd
  · exact h0

theorem ent_take (U : IMat) (k i j : Nat) (hi : i < k) : NTV.Hnf.ent (U.take k) i j = NTV.Hnf.ent U i j := by
  simp [NTV.Hnf.ent, List.getD_eq_getElem?_getD, hi]

/-- `HNF::kernel` of a rectangular `N × m` matrix (`N, m ≥ 1`): the rows generate exactly the left kernel -/
theorem kernelM_lattice (A : IMat) (N m : Nat) (hr : NTV.Hnf.Rect N m A) (hN : 0 < N) (hm : 0 < m) (K : IMat)
    (h : kernelM A = .ok K) :
    ∃ k, NTV.Hnf.Rect k N K ∧ ∀ v : Fin N → ℤ, InLattice k N K v ↔ v ᵥ* NTV.Hnf.toM N m A = 0 := by
  unfold kernelM at h
  split at h
  · rename_i K' hK
    cases h
    unfold NTV.Hnf.kernel at hK
    cases hw : NTV.Hnf.hnfWithU A with
    | none => rw [hw] at hK; cases hK
    | some res =>
      obtain ⟨H, U, k⟩ := res
      rw [hw] at hK
      simp only [Option.map_some, Option.some.injEq] at hK
      obtain ⟨W, pv, R⟩ := NTV.Hnf.Result.of_spec A N m hr hN hm H U k hw
      subst hK
      have hrect : NTV.Hnf.Rect k N (U.take k) := by
        refine ⟨by simp [R.rU.1, R.hk], ?_⟩
        intro r hr
        exact R.rU.2 r (List.mem_of_mem_take hr)
      refine ⟨k, hrect, ?_⟩
      have hrow : ∀ i : Fin k, NTV.Hnf.toM k N (U.take k) i = NTV.Hnf.toM N N U ⟨i.val, by have := R.hk; omega⟩ := by
        intro i
        funext j
        simp only [NTV.Hnf.toM]
        exact ent_take U k i.val j.val i.isLt
      intro v
      constructor
      · rintro ⟨c, rfl⟩
        rw [Matrix.vecMul_vecMul]
        have : NTV.Hnf.toM k N (U.take k) * NTV.Hnf.toM N m A = 0 := by
          ext i j
          have := congrFun (R.annihilates ⟨i.val, by have := R.hk; omega⟩ i.isLt) j
          rw [Matrix.mul_apply_eq_vecMul, hrow i]
          exact this
        rw [this, Matrix.vecMul_zero]
      · intro hv
        obtain ⟨c, hc0, hc⟩ := R.saturated v hv
        -- only the first `k` coefficients of `c` are non-zero
        obtain ⟨d, rfl⟩ := Nat.exists_eq_add_of_le R.hk
        refine ⟨fun i => c (Fin.castAdd d i), ?_⟩
        rw [← hc, Matrix.vecMul_eq_sum, Matrix.vecMul_eq_sum, Fin.sum_univ_add,
          Finset.sum_eq_zero (s := Finset.univ) (f := fun j : Fin d => c (Fin.natAdd k j) • _)
            fun j _ => by rw [hc0 _ (Nat.le_add_right k j), zero_smul],
          add_zero]
        exact Finset.sum_congr rfl fun i _ => by rw [hrow i]; rfl
  · cases h

/-- `HNF::new` keeps the row lattice (any number of rows, `m ≥ 1` columns) -/
theorem hnfM_lattice (A : IMat) (N m : Nat) (hr : NTV.Hnf.Rect N m A) (hm : 0 < m) (H : IMat)
    (h : hnfM A = .ok H) :
    ∃ r, NTV.Hnf.Rect r m H ∧ ∀ v : Fin m → ℤ, InLattice r m H v ↔ InLattice N m A v := by
  unfold hnfM at h
  split at h
  · rename_i H' hH
    cases h
    by_cases hN : N = 0
    · have : A = [] := List.eq_nil_of_length_eq_zero (by rw [hr.1, hN])
      subst this
      have : H = [] := by simpa [NTV.Hnf.hnfNew, NTV.Hnf.hnfWithU] using hH.symm
      subst this
      subst hN
      exact ⟨0, ⟨rfl, by simp⟩, fun v => Iff.rfl⟩
    · obtain ⟨H2, r, h1, hH2, _, hlat⟩ := NTV.Hnf.hnfNew_lattice A N m hr (by omega) hm
      rw [h1] at hH
      cases hH
      exact ⟨r, hH2, hlat⟩
  · cases h

theorem lattice_map_take (M : IMat) (r a b : Nat) (v : Fin a → ℤ) :
    InLattice r a (M.map (fun row => row.take a)) v ↔
      ∃ w : Fin (a + b) → ℤ, InLattice r (a + b) M w ∧ ∀ i : Fin a, w (Fin.castAdd b i) = v i := by
  have hent : ∀ i j, j < a → NTV.Hnf.ent (M.map (fun row => row.take a)) i j = NTV.Hnf.ent M i j := by
    intro i j hj
    simp only [NTV.Hnf.ent, List.getD_eq_getElem?_getD, List.getElem?_map]
    cases M[i]? with
    | none => simp
    | some row => simp [hj]
  have key : ∀ c : Fin r → ℤ, ∀ i : Fin a,
      (c ᵥ* NTV.Hnf.toM r (a + b) M) (Fin.castAdd b i) =
        (c ᵥ* NTV.Hnf.toM r a (M.map (fun row => row.take a))) i := by
    intro c i
    simp only [Matrix.vecMul, dotProduct, NTV.Hnf.toM, Fin.val_castAdd]
    apply Finset.sum_congr rfl
    intro x _
    rw [hent x.val i.val i.isLt]
  constructor
  · rintro ⟨c, rfl⟩
    exact ⟨c ᵥ* NTV.Hnf.toM r (a + b) M, ⟨c, rfl⟩, key c⟩
  · rintro ⟨w, ⟨c, rfl⟩, hw⟩
    refine ⟨c, ?_⟩
    funext i
    rw [← hw i, key c i]

theorem replicate_getD_zero (n k : Nat) : (List.replicate n (0 : Int)).getD k 0 = 0 := by
  simp [List.getD_eq_getElem?_getD, List.getElem?_replicate]
  split <;> rfl

/-- `linComb` is the vector-matrix product -/
theorem linComb_getD (deg r : Nat) (c : List Int) (rows : IMat) (hc : c.length = r)
    (hrows : NTV.Hnf.Rect r deg rows) (k : Nat) (hk : k < deg) :
    (linComb deg c rows).getD k 0 = ∑ j ∈ Finset.range r, c.getD j 0 * NTV.Hnf.ent rows j k := by
  unfold linComb
  have h1 := foldl_zipWith_add_mul_getD (fun (cr : Int × List Int) => cr.1) (fun cr => cr.2) (List.zip c rows)
    (List.replicate deg 0) deg k hk (by simp) (fun x hx => hrows.2 x.2 (List.of_mem_zip hx).2)
  rw [h1, replicate_getD_zero, zero_add]
  have h2 := zip_map_sum (0 : Int) ([] : List Int) (fun a row => a * row.getD k 0) c rows (by rw [hc, hrows.1])
  rw [h2, hrows.1]
  rfl

theorem vecZ_linComb (deg r : Nat) (c : List Int) (rows : IMat) (hc : c.length = r)
    (hrows : NTV.Hnf.Rect r deg rows) :
    vecZ (linComb deg c rows) deg = vecZ c r ᵥ* NTV.Hnf.toM r deg rows := by
  funext k
  simp only [vecZ, Matrix.vecMul, dotProduct, NTV.Hnf.toM]
  rw [linComb_getD deg r c rows hc hrows k.val k.isLt,
    ← Fin.sum_univ_eq_sum_range (fun j => c.getD j 0 * NTV.Hnf.ent rows j k.val) r]

theorem toM_row_eq_vecZ (M : IMat) (r m : Nat) (i : Fin r) :
    NTV.Hnf.toM r m M i = vecZ (M.getD i.val []) m := by
  funext j
  simp [NTV.Hnf.toM, NTV.Hnf.ent, vecZ]

theorem lattice_map_linComb (deg r s : Nat) (N up : IMat) (hN : NTV.Hnf.Rect s r N)
    (hup : NTV.Hnf.Rect r deg up) (v : Fin deg → ℤ) :
    InLattice s deg (N.map (fun row => linComb deg row up)) v ↔
      ∃ c : Fin r → ℤ, InLattice s r N c ∧ v = c ᵥ* NTV.Hnf.toM r deg up := by
  have hM : NTV.Hnf.toM s deg (N.map (fun row => linComb deg row up)) =
      NTV.Hnf.toM s r N * NTV.Hnf.toM r deg up := by
    ext i k
    rw [Matrix.mul_apply_eq_vecMul, toM_row_eq_vecZ N s r i, toM_row_eq_vecZ _ s deg i]
    have hi : i.val < N.length := by rw [hN.1]; exact i.isLt
    have hrow : (N.map (fun row => linComb deg row up)).getD i.val [] = linComb deg (N.getD i.val []) up := by
      simp [List.getD_eq_getElem?_getD, List.getElem?_eq_getElem hi]
    rw [hrow, vecZ_linComb deg r _ up (hN.row_length i.val i.isLt) hup]
  constructor
  · rintro ⟨d, rfl⟩
    exact ⟨d ᵥ* NTV.Hnf.toM s r N, ⟨d, rfl⟩, by rw [hM, Matrix.vecMul_vecMul]⟩
  · rintro ⟨c, ⟨d, rfl⟩, rfl⟩
    exact ⟨d, by rw [hM, Matrix.vecMul_vecMul]⟩

theorem foldl_getD_add {γ : Type} (step : List Int → γ → List Int) (c : γ → Int) (deg k : Nat)
    (l : List γ)
    (hstep : ∀ res x, x ∈ l → res.length = deg →
      (step res x).length = deg ∧ (step res x).getD k 0 = res.getD k 0 + c x)
    (init : List Int) (hinit : init.length = deg) :
    (l.foldl step init).length = deg ∧ (l.foldl step init).getD k 0 = init.getD k 0 + (l.map c).sum := by
  induction l generalizing init with
  | nil => simp [hinit]
  | cons x xs ih =>
    simp only [List.foldl_cons, List.map_cons, List.sum_cons]
    obtain ⟨h1, h2⟩ := hstep init x (by simp) hinit
    obtain ⟨h3, h4⟩ := ih (fun res y hy => hstep res y (by simp [hy])) _ h1
    exact ⟨h3, by rw [h4, h2, add_assoc]⟩

/-- an `n × n × n` table -/
structure Cube3 (n : Nat) (t : Table) : Prop where
  len : t.length = n
  len2 : ∀ ti ∈ t, ti.length = n
  len3 : ∀ ti ∈ t, ∀ tij ∈ ti, tij.length = n

theorem Cube3.cube {n : Nat} {t : Table} (h : Cube3 n t) : Cube n t := h.len3

/-- the value of `mul_mod_p`: `result[k] = (Σ_i Σ_j a_i b_j t[i][j][k]) % m` (truncated remainder) -/
theorem mulModP_getD (n : Nat) (a b : List Int) (t : Table) (m : Int) (ha : a.length = n)
    (hb : b.length = n) (ht : Cube3 n t) (k : Nat) (hk : k < n) :
    (mulModP a b t m).getD k 0 =
      Int.tmod (∑ i ∈ Finset.range n, ∑ j ∈ Finset.range n, a.getD i 0 * b.getD j 0 * tent t i j k) m := by
  unfold mulModP
  have hmap := fun L => NTV.RowOps.getD_map_default (fun x => Int.tmod x m) L k 0
  simp only [Int.zero_tmod] at hmap
  rw [hmap]
  congr 1
  have houter := foldl_getD_add
    (fun res (ati : Int × List (List Int)) => (List.zip b ati.2).foldl (fun res btij =>
        List.zipWith (fun r t => r + ati.1 * btij.1 * t) res btij.2) res)
    (fun ati => ∑ j ∈ Finset.range n, ati.1 * b.getD j 0 * (ati.2.getD j []).getD k 0) n k (List.zip a t)
    (by
      intro res ati hati hres
      have hati2 : ati.2 ∈ t := (List.of_mem_zip hati).2
      refine ⟨?_, ?_⟩
      · exact foldl_zipWith_length (fun (btij : Int × List Int) r t => r + ati.1 * btij.1 * t)
          (fun btij => btij.2) n _ res hres (fun y hy => ht.len3 _ hati2 y.2 (List.of_mem_zip hy).2)
      · have h1 := foldl_zipWith_add_mul_getD (fun (btij : Int × List Int) => ati.1 * btij.1) (fun btij => btij.2)
          (List.zip b ati.2) res n k hk hres (fun y hy => ht.len3 _ hati2 y.2 (List.of_mem_zip hy).2)
        rw [h1]
        congr 1
        have h2 := zip_map_sum (0 : Int) ([] : List Int) (fun bj row => ati.1 * bj * row.getD k 0) b ati.2
          (by rw [hb, ht.len2 _ hati2])
        rw [h2, ht.len2 _ hati2])
    (List.replicate a.length 0) (by simp [ha])
  rw [houter.2, replicate_getD_zero, zero_add]
  have h3 := zip_map_sum (0 : Int) ([] : List (List Int))
    (fun ai ti => ∑ j ∈ Finset.range n, ai * b.getD j 0 * (ti.getD j []).getD k 0) a t (by rw [ha, ht.len])
  rw [h3, ht.len]
  rfl

end NTV.Round2
