import NTV.Proofs.Lemmas.Round2RingC
/-! Round 2, list level: the tables computed by `one_step` are the multiplication table of the order reduced
modulo `p²` and modulo `p`; a successful `one_step` certifies that the order is closed under multiplication. -/
open Matrix Finset
namespace NTV.Round2
open NTV.Ord NTV.PolyG
open NTV.RowOps (toM Rect ent)

/-- the innermost loop of the table computation -/
theorem cell_inv (x : List Rat) (n : Nat) (hx : x.length = n) (p p2 : Int) (hp2 : p2 ≠ 0) (row : List Int)
    (h : tabulate n (fun k => do
        let e ← idx x k
        if !isInteger e then .error "panic assert"
        else
          let r2 ← remX (toInteger e) p2
          let _ ← remX r2 p
          pure r2) = .ok row) :
    row.length = n ∧ ∀ k < n, isInteger (x.getD k 0) = true ∧
      row.getD k 0 = Int.tmod (toInteger (x.getD k 0)) p2 := by
  obtain ⟨hl, hrow⟩ := tabulate_getD _ _ _ 0 h
  refine ⟨hl, ?_⟩
  intro k hk
  have := hrow k hk
  rw [idx_getD0 x k (by omega)] at this
  simp only [bind, Except.bind] at this
  by_cases hi : isInteger (x.getD k 0) = true
  · refine ⟨hi, ?_⟩
    simp only [hi, Bool.not_true, Bool.false_eq_true, if_false] at this
    unfold remX at this
    rw [if_neg hp2] at this
    simp only at this
    split at this
    · cases this
    · simp only [pure, Except.pure, Except.ok.injEq] at this
      exact this.symm
  · have hi' : (!isInteger (x.getD k 0)) = true := by simpa using hi
    rw [if_pos hi'] at this
    cases this

theorem _root_.NTV.Ord.Setup.solveExpect_coords {f : List Int} {o : QMat} {n : Nat} (S : Setup f o n) (i j : Nat) :
    solveExpect o ((List.range n).map (fun k => coefAt (prodOf f o i j) k)) = .ok (coordsOf f o i j) := by
  have := (S.solve_coords i j).1
  rw [S.rect.1] at this
  unfold solveExpect
  rw [this]

/-- **the tables of `one_step`**: success certifies that all products of basis vectors have integral
coordinates; `table2` is the multiplication table reduced modulo `p²`, `table` is `table2` reduced modulo `p`
(truncated remainders) -/
theorem tables_spec {f : List Int} {o : QMat} {n : Nat} (S : Setup f o n) (p p2 : Int) (hp2 : p2 ≠ 0)
    (t t2 : Table) (h : tables f o n p p2 = .ok (t, t2)) :
    AllInt f o n ∧ Cube3 n t ∧ Cube3 n t2 ∧
    ∀ i < n, ∀ j < n, ∀ k < n,
      tent t2 i j k = Int.tmod (tent (tableOf f o n) i j k) p2 ∧
      tent t i j k = Int.tmod (tent t2 i j k) p := by
  unfold tables at h
  obtain ⟨T2, hT2, h⟩ := (bind_ok _ _ _).mp h
  simp only [pure, Except.pure, Except.ok.injEq, Prod.mk.injEq] at h
  obtain ⟨rfl, rfl⟩ := h
  obtain ⟨hl1, hrow1⟩ := tabulate_getD _ _ _ [] hT2
  have hcell : ∀ i < n, ∀ j < n, (T2.getD i []).length = n ∧ ((T2.getD i []).getD j []).length = n ∧
      ∀ k < n, isInteger ((coordsOf f o i j).getD k 0) = true ∧
        tent T2 i j k = Int.tmod (toInteger ((coordsOf f o i j).getD k 0)) p2 := by
    intro i hi j hj
    have hbody := hrow1 i hi
    rw [idx_getD o i (by rw [S.rect.1]; exact hi)] at hbody
    simp only [bind, Except.bind] at hbody
    obtain ⟨hl2, hrow2⟩ := tabulate_getD _ _ _ [] hbody
    have hbody2 := hrow2 j hj
    rw [idx_getD o j (by rw [S.rect.1]; exact hj)] at hbody2
    simp only at hbody2
    have hm := (S.mul_omega i j hi hj).1
    unfold omega at hm
    rw [hm] at hbody2
    simp only [Except.mapError] at hbody2
    rw [S.solveExpect_coords i j] at hbody2
    simp only at hbody2
    obtain ⟨hl3, hc⟩ := cell_inv _ n (S.solve_coords i j).2.1 p p2 hp2 _ hbody2
    exact ⟨hl2, hl3, hc⟩
  have hC2 : Cube3 n T2 := by
    refine ⟨hl1, ?_, ?_⟩
    · intro ti hti
      obtain ⟨i, hi, rfl⟩ := exists_getD_of_mem T2 [] hti
      exact (hcell i (hl1 ▸ hi) 0 S.pos).1
    · intro ti hti tij htij
      obtain ⟨i, hi, rfl⟩ := exists_getD_of_mem T2 [] hti
      obtain ⟨j, hj, rfl⟩ := exists_getD_of_mem _ [] htij
      have hi' : i < n := hl1 ▸ hi
      exact (hcell i hi' j ((hcell i hi' 0 S.pos).1 ▸ hj)).2.1
  have hC1 : Cube3 n (T2.map (fun ti => ti.map (fun tij => tij.map (fun x => Int.tmod x p)))) := by
    refine ⟨by simp [hl1], ?_, ?_⟩
    · intro ti hti
      obtain ⟨ti', hti', rfl⟩ := List.mem_map.mp hti
      simp [hC2.len2 ti' hti']
    · intro ti hti tij htij
      obtain ⟨ti', hti', rfl⟩ := List.mem_map.mp hti
      obtain ⟨tij', htij', rfl⟩ := List.mem_map.mp htij
      simp [hC2.len3 ti' hti' tij' htij']
  refine ⟨fun i hi j hj k hk => ((hcell i hi j hj).2.2 k hk).1, hC1, hC2, ?_⟩
  intro i hi j hj k hk
  refine ⟨?_, ?_⟩
  · rw [((hcell i hi j hj).2.2 k hk).2, tent_tableOf i j k hi hj hk]
  · -- `getD` commutes with `map` on all three levels (`tmod 0 p = 0`)
    have e1 := NTV.RowOps.getD_map_default
      (fun ti : List (List Int) => ti.map (fun tij => tij.map (fun x => Int.tmod x p))) T2 i []
    have e2 := NTV.RowOps.getD_map_default (fun tij : List Int => tij.map (fun x => Int.tmod x p))
      (T2.getD i []) j []
    have e3 := NTV.RowOps.getD_map_default (fun x => Int.tmod x p) ((T2.getD i []).getD j []) k 0
    rw [Int.zero_tmod] at e3
    simp only [List.map_nil] at e1 e2
    unfold tent
    rw [e1, e2, e3]

theorem tables_closed {f : List Int} {o : QMat} {n : Nat} (S : Setup f o n) (p p2 : Int) (hp2 : p2 ≠ 0)
    (t t2 : Table) (h : tables f o n p p2 = .ok (t, t2)) : Closed f o n :=
  S.closed_iff.mpr (tables_spec S p p2 hp2 t t2 h).1

end NTV.Round2
