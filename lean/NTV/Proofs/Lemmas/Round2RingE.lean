import NTV.Proofs.Lemmas.Round2RingB
import NTV.Proofs.Lemmas.Round2RingD
import Mathlib.FieldTheory.Finite.Basic
/-! Round 2: congruences modulo `m·O` and Frobenius on coordinate vectors (`NTV.R2Abs`); `mul_mod_p`, `pow_mod_p`
and the bound `pow` in terms of the arithmetic of `K`. -/
open Matrix Finset
namespace NTV.R2Abs
open NTV.TableAbs

variable {K : Type*} [CommRing K]

/-- congruence modulo `m·O` -/
def CongO (O : Subring K) (m : ℕ) (x y : K) : Prop := x - y ∈ pO O m

theorem pO_neg {O : Subring K} {m : ℕ} {x : K} (hx : x ∈ pO O m) : -x ∈ pO O m :=
  (pO_ideal O m).neg hx

theorem pO_sum {O : Subring K} {m : ℕ} {ι : Type*} (s : Finset ι) (g : ι → K)
    (hg : ∀ i ∈ s, g i ∈ pO O m) : ∑ i ∈ s, g i ∈ pO O m :=
  (pO_ideal O m).sum s g hg

namespace CongO
variable {O : Subring K} {m : ℕ} {x y z x' y' : K}

theorem refl (x : K) : CongO O m x x := by unfold CongO; rw [sub_self]; exact pO_zero O m

theorem symm (h : CongO O m x y) : CongO O m y x := by
  unfold CongO at *; rw [← neg_sub]; exact pO_neg h

theorem trans (h1 : CongO O m x y) (h2 : CongO O m y z) : CongO O m x z := by
  unfold CongO at *
  have := pO_add h1 h2
  rwa [sub_add_sub_cancel] at this

theorem add (h1 : CongO O m x x') (h2 : CongO O m y y') : CongO O m (x + y) (x' + y') := by
  unfold CongO at *
  have := pO_add h1 h2
  convert this using 1; ring

theorem mul (hx : x ∈ O) (hy' : y' ∈ O) (h1 : CongO O m x x') (h2 : CongO O m y y') :
    CongO O m (x * y) (x' * y') := by
  unfold CongO at *
  have := pO_add (pO_mul hx h2) (pO_mul hy' h1)
  convert this using 1; ring

theorem mul_left (a : K) (ha : a ∈ O) (h : CongO O m x y) : CongO O m (a * x) (a * y) := by
  unfold CongO at *
  rw [← mul_sub]; exact pO_mul ha h

theorem sum {ι : Type*} (s : Finset ι) (f g : ι → K) (h : ∀ i ∈ s, CongO O m (f i) (g i)) :
    CongO O m (∑ i ∈ s, f i) (∑ i ∈ s, g i) := by
  unfold CongO at *
  rw [← Finset.sum_sub_distrib]
  exact pO_sum s _ h

theorem mem_left (h : CongO O m x y) (hy : y ∈ O) : x ∈ O := by
  have := O.add_mem (pO_sub h) hy
  simpa using this

theorem mem_pO_iff (h : CongO O m x y) : x ∈ pO O m ↔ y ∈ pO O m := by
  unfold CongO at h
  constructor
  · intro hx
    have := pO_add hx (pO_neg h)
    convert this using 1; ring
  · intro hy
    have := pO_add hy h
    convert this using 1; ring

end CongO

theorem frob_sum (O : Subring K) (p k : ℕ) (hp : p.Prime) {ι : Type*} (s : Finset ι) (x : ι → K)
    (hx : ∀ i ∈ s, x i ∈ O) : CongO O p ((∑ i ∈ s, x i) ^ p ^ k) (∑ i ∈ s, x i ^ p ^ k) := by
  classical
  induction s using Finset.induction_on with
  | empty =>
    simp only [Finset.sum_empty]
    rw [zero_pow (pow_ne_zero _ hp.ne_zero)]
    exact CongO.refl 0
  | insert a s ha ih =>
    rw [Finset.sum_insert ha, Finset.sum_insert ha]
    have h1 : CongO O p ((x a + ∑ i ∈ s, x i) ^ p ^ k) (x a ^ p ^ k + (∑ i ∈ s, x i) ^ p ^ k) :=
      add_pow_prime_pow_sub_mem hp k (hx a (Finset.mem_insert_self a s))
        (O.sum_mem fun i hi => hx i (Finset.mem_insert_of_mem hi))
    exact h1.trans ((CongO.refl _).add (ih fun i hi => hx i (Finset.mem_insert_of_mem hi)))

theorem frob_int (p k : ℕ) (hp : p.Prime) (c : ℤ) : (p : ℤ) ∣ c ^ p ^ k - c := by
  have : Fact p.Prime := ⟨hp⟩
  rw [← ZMod.intCast_zmod_eq_zero_iff_dvd]
  push_cast
  rw [ZMod.pow_card_pow, sub_self]

variable {n : ℕ} {q : ℚ →+* K} {Ω : Fin n → K} {T : Fin n → Fin n → Fin n → ℤ}

theorem el_eq_sum (c : Fin n → ℤ) : el q Ω c = ∑ i, (c i : K) * Ω i := by
  unfold el psi
  apply Finset.sum_congr rfl
  intro i _
  simp [castV]

theorem el_vecMul {r : ℕ} (v : Fin r → ℤ) (M : Matrix (Fin r) (Fin n) ℤ) :
    el q Ω (v ᵥ* M) = ∑ i, (v i : K) * el q Ω (M i) := by
  rw [Matrix.vecMul_eq_sum, el_sum]
  apply Finset.sum_congr rfl
  intro i _
  rw [el_zsmul]

theorem el_of_rows {Ω' : Fin n → K} (c : K) (Q : Matrix (Fin n) (Fin n) ℤ)
    (hΩ : ∀ i, c * Ω' i = el q Ω (Q i)) (z : Fin n → ℤ) : c * el q Ω' z = el q Ω (z ᵥ* Q) := by
  rw [el_vecMul, el_eq_sum, Finset.mul_sum]
  refine Finset.sum_congr rfl fun i _ => ?_
  rw [mul_left_comm, hΩ]

theorem frob_el (h : Ctx q Ω T) (one : ∃ e : Fin n → ℤ, el q Ω e = 1) (p k : ℕ) (hp : p.Prime)
    (hΩ : ∀ i, Ω i ∈ Olat h one) (c : Fin n → ℤ) :
    CongO (Olat h one) p (el q Ω c ^ p ^ k) (∑ i, (c i : K) * Ω i ^ p ^ k) := by
  rw [el_eq_sum]
  have hmem : ∀ i ∈ (Finset.univ : Finset (Fin n)), (c i : K) * Ω i ∈ Olat h one :=
    fun i _ => (Olat h one).mul_mem (intCast_mem _ _) (hΩ i)
  refine (frob_sum (Olat h one) p k hp Finset.univ _ hmem).trans ?_
  apply CongO.sum
  intro i _
  rw [mul_pow]
  unfold CongO
  rw [← sub_mul]
  obtain ⟨d, hd⟩ := frob_int p k hp (c i)
  refine ⟨(d : K) * Ω i ^ p ^ k, (Olat h one).mul_mem (intCast_mem _ _) ((Olat h one).pow_mem (hΩ i) _), ?_⟩
  have : ((c i : K)) ^ p ^ k - (c i : K) = (p : K) * (d : K) := by
    have := congrArg (Int.cast (R := K)) hd
    rwa [Int.cast_sub, Int.cast_pow, Int.cast_mul, Int.cast_natCast] at this
  rw [this]; ring

theorem Omega_mem (h : Ctx q Ω T) (one : ∃ e : Fin n → ℤ, el q Ω e = 1) (i : Fin n) : Ω i ∈ Olat h one := by
  classical
  exact ⟨Pi.single i 1, el_single i⟩

end NTV.R2Abs

namespace NTV.Round2
open NTV.Ord NTV.PolyG NTV.R2Abs
open NTV.TableAbs (Ctx mulVec)

variable {K : Type*} [CommRing K] {n : ℕ} {q : ℚ →+* K} {Ω : Fin n → K} {T : Fin n → Fin n → Fin n → ℤ}

/-- the list-level table `t` is the table `T` modulo `m` -/
def TableMod (n : ℕ) (t : Table) (T : Fin n → Fin n → Fin n → ℤ) (m : ℕ) : Prop :=
  ∀ i j k : Fin n, (m : ℤ) ∣ tent t i j k - T i j k

theorem dvd_tmod_sub (X M : ℤ) : M ∣ Int.tmod X M - X :=
  ⟨-(X.tdiv M), by
    rw [mul_neg, ← sub_eq_zero, sub_neg_eq_add, sub_add_eq_add_sub, Int.tmod_add_mul_tdiv, sub_self]⟩

/-- **`mul_mod_p` multiplies modulo `m·O`** (for a table that is the true table modulo `m`, `m ∣ M`) -/
theorem mulModP_el (h : Ctx q Ω T) (one : ∃ e : Fin n → ℤ, el q Ω e = 1) (m : ℕ) (M : Int)
    (hM : (m : ℤ) ∣ M) (a b : List Int) (t : Table) (ha : a.length = n) (hb : b.length = n)
    (ht : Cube3 n t) (hT : TableMod n t T m) :
    CongO (Olat h one) m (el q Ω (vecZ (mulModP a b t M) n)) (el q Ω (vecZ a n) * el q Ω (vecZ b n)) := by
  unfold CongO
  rw [h.el_mul, ← el_sub, mem_pO_iff]
  intro k
  simp only [Pi.sub_apply, vecZ, NTV.TableAbs.mulVec]
  rw [mulModP_getD n a b t M ha hb ht k.val k.isLt, sum_range_fin]
  have e2 : (m : ℤ) ∣ (∑ i : Fin n, ∑ j ∈ Finset.range n, a.getD i 0 * b.getD j 0 * tent t i j k) -
      ∑ i : Fin n, ∑ j : Fin n, a.getD i 0 * b.getD j 0 * T i j k := by
    rw [← Finset.sum_sub_distrib]
    apply Finset.dvd_sum
    intro i _
    rw [sum_range_fin, ← Finset.sum_sub_distrib]
    apply Finset.dvd_sum
    intro j _
    rw [← mul_sub]
    exact Dvd.dvd.mul_left (hT i j k) _
  have := dvd_add (dvd_trans hM (dvd_tmod_sub (∑ i : Fin n, ∑ j ∈ Finset.range n,
    a.getD i 0 * b.getD j 0 * tent t i j k) M)) e2
  rw [sub_add_sub_cancel] at this
  exact this

theorem halve_exp (e : ℤ) (he : 0 < e) (s c : ℕ) :
    0 ≤ Int.tdiv e 2 ∧
      s + (if Int.tmod e 2 = 1 then c else 0) + (c + c) * (Int.tdiv e 2).toNat = s + c * e.toNat := by
  obtain ⟨k, rfl⟩ := Int.eq_ofNat_of_zero_le he.le
  have hd : Int.tdiv (k : ℤ) 2 = ((k / 2 : ℕ) : ℤ) := by
    rw [Int.tdiv_eq_ediv_of_nonneg he.le, Int.natCast_div, Nat.cast_ofNat]
  have hm : Int.tmod (k : ℤ) 2 = ((k % 2 : ℕ) : ℤ) := by
    rw [Int.tmod_eq_emod_of_nonneg he.le, Int.natCast_mod, Nat.cast_ofNat]
  rw [hd, hm, Int.toNat_natCast, Int.toNat_natCast]
  refine ⟨Int.natCast_nonneg _, ?_⟩
  conv_rhs => rw [← Nat.div_add_mod k 2]
  rcases Nat.mod_two_eq_zero_or_one k with h | h
  · rw [h, if_neg (by decide)]; ring
  · rw [h, if_pos (by decide)]; ring

/-- loop invariant of `pow_mod_p`: with `prod ≡ X^s` and `cur ≡ X^c` the answer is `≡ X^(s + c·e)` -/
theorem powLoop_el (h : Ctx q Ω T) (one : ∃ e : Fin n → ℤ, el q Ω e = 1) (m : ℕ) (p : Int)
    (hp : (m : ℤ) ∣ p) (t : Table) (ht : Cube3 n t) (hT : TableMod n t T m) (X : K) (hX : X ∈ Olat h one) :
    ∀ (fuel : Nat) (e : Int) (prod cur r : List Int) (s c : ℕ), 0 ≤ e → prod.length = n → cur.length = n →
      CongO (Olat h one) m (el q Ω (vecZ prod n)) (X ^ s) →
      CongO (Olat h one) m (el q Ω (vecZ cur n)) (X ^ c) →
      powLoop t p fuel e prod cur = .ok r →
      r.length = n ∧ CongO (Olat h one) m (el q Ω (vecZ r n)) (X ^ (s + c * e.toNat)) := by
  have hmul : ∀ (a b : List Int) (sa sb : ℕ), a.length = n → b.length = n →
      CongO (Olat h one) m (el q Ω (vecZ a n)) (X ^ sa) → CongO (Olat h one) m (el q Ω (vecZ b n)) (X ^ sb) →
      CongO (Olat h one) m (el q Ω (vecZ (mulModP a b t p) n)) (X ^ (sa + sb)) := by
    intro a b sa sb ha hb h1 h2
    rw [pow_add]
    exact (mulModP_el h one m p hp a b t ha hb ht hT).trans
      (CongO.mul (el_mem_Olat h one _) ((Olat h one).pow_mem hX _) h1 h2)
  have hstop : ∀ (e : Int) (prod : List Int) (s c : ℕ), 0 ≤ e → ¬ e > 0 → prod.length = n →
      CongO (Olat h one) m (el q Ω (vecZ prod n)) (X ^ s) →
      prod.length = n ∧ CongO (Olat h one) m (el q Ω (vecZ prod n)) (X ^ (s + c * e.toNat)) := by
    intro e prod s c he hpos hpl hps
    obtain rfl : e = 0 := by omega
    exact ⟨hpl, by rwa [Int.toNat_zero, mul_zero, add_zero]⟩
  intro fuel
  induction fuel with
  | zero =>
    intro e prod cur r s c he hpl _ hps _ hr
    unfold powLoop at hr
    split at hr
    · cases hr
    · cases hr
      exact hstop e prod s c he ‹_› hpl hps
  | succ fuel ih =>
    intro e prod cur r s c he hpl hcl hps hcs hr
    unfold powLoop at hr
    split at hr
    · rename_i hpos
      obtain ⟨h2, hexp⟩ := halve_exp e hpos s c
      have hprod : (if Int.tmod e 2 = 1 then mulModP prod cur t p else prod).length = n ∧
          CongO (Olat h one) m (el q Ω (vecZ (if Int.tmod e 2 = 1 then mulModP prod cur t p else prod) n))
            (X ^ (s + if Int.tmod e 2 = 1 then c else 0)) := by
        by_cases hodd : Int.tmod e 2 = 1
        · rw [if_pos hodd, if_pos hodd]
          exact ⟨mulModP_length _ _ _ _ _ hpl ht.cube, hmul prod cur s c hpl hcl hps hcs⟩
        · rw [if_neg hodd, if_neg hodd]
          exact ⟨hpl, hps⟩
      have := ih (Int.tdiv e 2) _ _ r _ (c + c) h2 hprod.1 (mulModP_length _ _ _ _ _ hcl ht.cube) hprod.2
        (hmul cur cur c c hcl hcl hcs hcs) hr
      rwa [hexp] at this
    · cases hr
      exact hstop e prod s c he ‹_› hpl hps

/-- **`pow_mod_p` raises to the power `e ≥ 1` modulo `m·O`** -/
theorem powModP_el (h : Ctx q Ω T) (one : ∃ e : Fin n → ℤ, el q Ω e = 1) (m : ℕ) (p : Int)
    (hp : (m : ℤ) ∣ p) (t : Table) (ht : Cube3 n t) (hT : TableMod n t T m) (a r : List Int) (e : Int)
    (he : 1 ≤ e) (ha : a.length = n) (hr : powModP a e t p = .ok r) :
    r.length = n ∧ CongO (Olat h one) m (el q Ω (vecZ r n)) (el q Ω (vecZ a n) ^ e.toNat) := by
  unfold powModP at hr
  have h1 : CongO (Olat h one) m (el q Ω (vecZ a n)) (el q Ω (vecZ a n) ^ 1) := by
    rw [pow_one]
    exact CongO.refl _
  have := powLoop_el h one m p hp t ht hT (el q Ω (vecZ a n)) (el_mem_Olat h one _) _ (e - 1) a a r 1 1
    (sub_nonneg.mpr he) ha ha h1 h1 hr
  have e1 : 1 + 1 * (e - 1).toNat = e.toNat := by
    rw [one_mul, add_comm, ← Int.toNat_one, ← Int.toNat_add (sub_nonneg.mpr he) zero_le_one, sub_add_cancel]
  rwa [e1] at this

/-- the loop `while pow < deg { pow *= p }` returns the FIRST value `pow·p^k` that is `≥ deg` -/
theorem powBound_least (deg : Nat) (p : Int) :
    ∀ (fuel : Nat) (pow r : Int), powBound deg p fuel pow = .ok r →
      ∃ k : ℕ, r = pow * p ^ k ∧ (deg : Int) ≤ r ∧ ∀ j < k, pow * p ^ j < (deg : Int) := by
  intro fuel
  induction fuel with
  | zero =>
    intro pow r hr
    unfold powBound at hr
    split at hr
    · cases hr
    · cases hr; exact ⟨0, by simp, by omega, fun j hj => absurd hj (by omega)⟩
  | succ fuel ih =>
    intro pow r hr
    unfold powBound at hr
    split at hr
    · rename_i hlt
      obtain ⟨k, hk, h1, h2⟩ := ih _ _ hr
      refine ⟨k + 1, by rw [hk, pow_succ]; ring, h1, ?_⟩
      intro j hj
      cases j with
      | zero => simpa using hlt
      | succ j =>
        have := h2 j (by omega)
        rw [pow_succ]
        convert this using 1
        ring
    · cases hr; exact ⟨0, by simp, by omega, fun j hj => absurd hj (by omega)⟩

theorem powBound_spec (deg : Nat) (p : Int) :
    ∀ (fuel : Nat) (pow r : Int), powBound deg p fuel pow = .ok r → (deg : Int) ≤ r ∧ ∃ k : ℕ, r = pow * p ^ k := by
  intro fuel pow r hr
  obtain ⟨k, hk, h1, _⟩ := powBound_least deg p fuel pow r hr
  exact ⟨h1, k, hk⟩

end NTV.Round2
