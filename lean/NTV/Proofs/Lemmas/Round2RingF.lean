import NTV.Proofs.Lemmas.Round2RingE
/-! Round 2, integer level: the row lattices computed by `one_step` —
`ip` (kernel of `[phi ; p·I]`, truncated), one iteration `upStep` of the `U_p` loop, and the last normal form
`u = HNF(up ++ p·I)`. -/
open Matrix Finset
namespace NTV.Round2
open NTV.Ord NTV.PolyG
open NTV.Hnf (InLattice)

theorem vecMul_scalarRows (n : ℕ) (p : ℤ) (d : Fin n → ℤ) :
    d ᵥ* NTV.Hnf.toM n n (scalarRows n p) = p • d := by
  rw [scalarRows_toM, Matrix.vecMul_smul, Matrix.vecMul_one]

theorem exists_smul_iff_dvd {n : ℕ} (p : ℤ) (x : Fin n → ℤ) :
    (∃ d : Fin n → ℤ, x + p • d = 0) ↔ ∀ k, p ∣ x k := by
  constructor
  · rintro ⟨d, hd⟩ k
    have := congrFun hd k
    simp only [Pi.add_apply, Pi.smul_apply, smul_eq_mul, Pi.zero_apply] at this
    exact ⟨-d k, by rw [mul_neg]; exact eq_neg_of_add_eq_zero_left this⟩
  · intro hk
    choose d hd using hk
    refine ⟨fun k => -d k, ?_⟩
    funext k
    simp only [Pi.add_apply, Pi.smul_apply, smul_eq_mul, Pi.zero_apply]
    rw [hd k, mul_neg, add_neg_cancel]

/-- the truncated normal form of the kernel of a stacked matrix `[X ; Y]` generates `{c | c·X + d·Y = 0 for some d}` -/
theorem kernel_take_lattice (X Y K0 N0 : IMat) (a b m : ℕ) (hab : 0 < a + b) (hm : 0 < m)
    (hX : NTV.Hnf.Rect a m X) (hY : NTV.Hnf.Rect b m Y) (hK : kernelM (X ++ Y) = .ok K0)
    (hN : hnfM K0 = .ok N0) :
    ∃ s, NTV.Hnf.Rect s a (N0.map (fun row => row.take a)) ∧
      ∀ c : Fin a → ℤ, InLattice s a (N0.map (fun row => row.take a)) c ↔
        ∃ d : Fin b → ℤ, c ᵥ* NTV.Hnf.toM a m X + d ᵥ* NTV.Hnf.toM b m Y = 0 := by
  have rstack := NTV.Hnf.rect_append _ _ _ _ _ hX hY
  obtain ⟨k0, rK, hKlat⟩ := kernelM_lattice _ (a + b) m rstack hab hm K0 hK
  obtain ⟨s, rN0, hNlat⟩ := hnfM_lattice K0 k0 (a + b) rK hab N0 hN
  refine ⟨s, rect_map_take N0 s (a + b) a rN0 (Nat.le_add_right a b), fun c => ?_⟩
  rw [lattice_map_take N0 s a b c]
  constructor
  · rintro ⟨w, hw, hwc⟩
    have h0 := (hKlat w).mp ((hNlat w).mp hw)
    rw [NTV.Hnf.vecMul_append X Y a b m hX, funext hwc] at h0
    exact ⟨fun i => w (Fin.natAdd a i), h0⟩
  · rintro ⟨d, hd⟩
    refine ⟨Fin.addCases c d, (hNlat _).mpr ((hKlat _).mpr ?_), fun i => by simp⟩
    rw [NTV.Hnf.vecMul_append X Y a b m hX]
    simp only [Fin.addCases_left, Fin.addCases_right]
    exact hd

/-- **the lattice `ip`** (integer level): the truncated normal form of the kernel of `[Φ ; p·I]` generates
`{v | p divides every entry of v·Φ}` -/
theorem ip_lattice_int (n : ℕ) (hn : 0 < n) (p : ℤ) (phiw K0 ip0 : IMat)
    (rphiw : NTV.Hnf.Rect n n phiw) (hK : kernelM (phiw ++ scalarRows n p) = .ok K0)
    (hip0 : hnfM K0 = .ok ip0) :
    ∃ r0, NTV.Hnf.Rect r0 n (ip0.map (fun row => row.take n)) ∧
      ∀ v : Fin n → ℤ, InLattice r0 n (ip0.map (fun row => row.take n)) v ↔
        ∀ k, p ∣ (v ᵥ* NTV.Hnf.toM n n phiw) k := by
  obtain ⟨r0, rip, hlat⟩ := kernel_take_lattice phiw (scalarRows n p) K0 ip0 n n n (Nat.add_pos_left hn n) hn
    rphiw (scalarRows_rect n p) hK hip0
  refine ⟨r0, rip, fun v => ?_⟩
  rw [hlat v, ← exists_smul_iff_dvd p]
  simp only [vecMul_scalarRows]

/-- the rows `p·ip` built by the inner loop of `upStep` -/
theorem bot_spec (n r0 : ℕ) (p : ℤ) (ip bot : IMat) (hip : NTV.Hnf.Rect r0 n ip)
    (h : tabulate ip.length (fun i => tabulate n (fun j => do
      let e ← idx (← idx ip i) j
      pure (e * p))) = .ok bot) :
    NTV.Hnf.Rect r0 n bot ∧ NTV.Hnf.toM r0 n bot = p • NTV.Hnf.toM r0 n ip := by
  obtain ⟨hl, hrow⟩ := tabulate_getD _ _ _ [] h
  rw [hip.1] at hl hrow
  have hrows : ∀ i < r0, (bot.getD i []).length = n ∧
      ∀ j < n, NTV.Hnf.ent bot i j = NTV.Hnf.ent ip i j * p := by
    intro i hi
    obtain ⟨hl2, hcol⟩ := tabulate_getD _ _ _ 0 (hrow i hi)
    refine ⟨hl2, fun j hj => ?_⟩
    have h2 := hcol j hj
    rw [idx_eq_getD ip [] i (by rw [hip.1]; exact hi)] at h2
    simp only [bind, Except.bind] at h2
    rw [idx_eq_getD _ 0 j (by rw [hip.row_length i hi]; exact hj)] at h2
    simp only [pure, Except.pure, Except.ok.injEq] at h2
    exact h2.symm
  refine ⟨⟨hl, fun x hx => ?_⟩, ?_⟩
  · obtain ⟨i, hi, rfl⟩ := exists_getD_of_mem bot [] hx
    exact (hrows i (hl ▸ hi)).1
  · ext i j
    rw [Matrix.smul_apply, smul_eq_mul, mul_comm]
    exact (hrows i.val i.isLt).2 j.val j.isLt

/-- **one iteration of the `U_p` loop** (integer level): the new generators span
`{c·up | c·top ∈ p·lattice(ip)}` where `top_j = mul_mod_p(η, up_j)` -/
theorem upStep_lattice_int (n : ℕ) (hn : 0 < n) (p p2 : ℤ) (t2 : Table) (ct2 : Cube n t2) (ip up : IMat)
    (etai : List Int) (r0 r : ℕ) (hr0 : 0 < r0) (hip : NTV.Hnf.Rect r0 n ip) (hup : NTV.Hnf.Rect r n up)
    (he : etai.length = n) (up' : IMat) (h : upStep n p p2 t2 ip up etai = .ok up') :
    ∃ r', NTV.Hnf.Rect r' n up' ∧ ∀ v : Fin n → ℤ, InLattice r' n up' v ↔
      ∃ c : Fin r → ℤ, v = c ᵥ* NTV.Hnf.toM r n up ∧
        ∃ d : Fin r0 → ℤ, c ᵥ* NTV.Hnf.toM r n (up.map (fun uj => mulModP etai uj t2 p2)) +
          p • (d ᵥ* NTV.Hnf.toM r0 n ip) = 0 := by
  unfold upStep at h
  obtain ⟨bot, hbot, h⟩ := (bind_ok _ _ _).mp h
  obtain ⟨K, hK, h⟩ := (bind_ok _ _ _).mp h
  obtain ⟨N0, hN0, h⟩ := (bind_ok _ _ _).mp h
  obtain ⟨rbot, hbotM⟩ := bot_spec n r0 p ip bot hip hbot
  have rtop : NTV.Hnf.Rect r n (up.map (fun uj => mulModP etai uj t2 p2)) := by
    refine ⟨by simp [hup.1], ?_⟩
    intro x hx
    obtain ⟨y, _, rfl⟩ := List.mem_map.mp hx
    exact mulModP_length _ _ _ _ _ he ct2
  obtain ⟨s, rN', hNlat⟩ := kernel_take_lattice _ bot K N0 r r0 n (Nat.add_pos_right r hr0) hn rtop rbot hK hN0
  have rN : NTV.Hnf.Rect s r (N0.map (fun row => row.take up.length)) := by
    rw [hup.1]; exact rN'
  have rfin : NTV.Hnf.Rect s n ((N0.map (fun row => row.take up.length)).map (fun row => linComb n row up)) := by
    refine ⟨by rw [List.length_map]; exact rN.1, ?_⟩
    intro x hx
    obtain ⟨y, _, rfl⟩ := List.mem_map.mp hx
    exact linComb_length n _ up hup.2
  obtain ⟨r', rup', hup'lat⟩ := hnfM_lattice _ s n rfin hn up' h
  refine ⟨r', rup', ?_⟩
  intro v
  rw [hup'lat v, lattice_map_linComb n r s _ up rN hup v]
  constructor
  · rintro ⟨c, hc, rfl⟩
    rw [hup.1, hNlat c, hbotM] at hc
    obtain ⟨d, hd⟩ := hc
    rw [Matrix.vecMul_smul] at hd
    exact ⟨c, rfl, d, hd⟩
  · rintro ⟨c, rfl, d, hd⟩
    refine ⟨c, ?_, rfl⟩
    rw [hup.1, hNlat c, hbotM]
    exact ⟨d, by rw [Matrix.vecMul_smul]; exact hd⟩

/-- the last normal form `u = HNF(up ++ p·I)` generates `lattice(up) + p·ℤⁿ` -/
theorem u_lattice_int (n r : ℕ) (hn : 0 < n) (p : ℤ) (up u : IMat) (hup : NTV.Hnf.Rect r n up)
    (h : hnfM (up ++ scalarRows n p) = .ok u) :
    ∃ ru, NTV.Hnf.Rect ru n u ∧ ∀ v : Fin n → ℤ, InLattice ru n u v ↔
      ∃ a : Fin n → ℤ, InLattice r n up a ∧ ∃ d : Fin n → ℤ, v = a + p • d := by
  have rstack := NTV.Hnf.rect_append up (scalarRows n p) r n n hup (scalarRows_rect n p)
  obtain ⟨ru, rU, hlat⟩ := hnfM_lattice _ (r + n) n rstack hn u h
  refine ⟨ru, rU, ?_⟩
  intro v
  rw [hlat v, NTV.Hnf.lattice_append up (scalarRows n p) r n n hup]
  simp only [vecMul_scalarRows]
  constructor
  · rintro ⟨c, d, rfl⟩
    exact ⟨_, ⟨c, rfl⟩, d, rfl⟩
  · rintro ⟨a, ⟨c, rfl⟩, d, rfl⟩
    exact ⟨c, d, rfl⟩

end NTV.Round2
