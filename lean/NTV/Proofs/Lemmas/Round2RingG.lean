import NTV.Proofs.Lemmas.Round2RingF
/-! Round 2: what the lattices of `one_step` mean in `K`. With `O = Olat`, `I = radQ O P (P^kk)` (the
`p`-radical): `ip` spans `I`, the `U_p` loop computes `U0 I P = {u ∈ I | u·I ⊆ p·I}`, the last normal form `u`
spans `U0 + pO`, and `{x | p·x ∈ el(lattice u)}` is the multiplier ring `{x | x·I ⊆ I}`. -/
open Matrix Finset
namespace NTV.Round2
open NTV.Ord NTV.PolyG NTV.R2Abs
open NTV.Hnf (InLattice)
open NTV.TableAbs (Ctx)

variable {K : Type*} [CommRing K] {n : ℕ} {q : ℚ →+* K} {Ω : Fin n → K} {T : Fin n → Fin n → Fin n → ℤ}

theorem pI_ideal {O : Subring K} {I : Set K} (hI : IdealIn O I) (P : ℕ) : IdealIn O (pI I P) where
  sub := by
    rintro _ ⟨y, hy, rfl⟩
    exact O.mul_mem (natCast_mem O P) (hI.sub y hy)
  zero := ⟨0, hI.zero, (mul_zero _).symm⟩
  add := by
    rintro _ ⟨a, ha, rfl⟩ _ ⟨b, hb, rfl⟩
    exact ⟨a + b, hI.add a ha b hb, (mul_add _ _ _).symm⟩
  mul := by
    rintro a ha _ ⟨b, hb, rfl⟩
    exact ⟨a * b, hI.mul a ha b hb, mul_left_comm _ _ _⟩

theorem vecZ_unit (n i : ℕ) (hi : i < n) [DecidableEq (Fin n)] :
    vecZ ((List.range n).map (fun j => if i = j then (1 : Int) else 0)) n = Pi.single (⟨i, hi⟩ : Fin n) 1 := by
  funext k
  simp only [vecZ, List.getD_eq_getElem?_getD, List.getElem?_map, List.getElem?_range k.isLt, Option.map_some,
    Option.getD_some, Pi.single_apply]
  by_cases h : i = k.val
  · rw [if_pos h, if_pos (Fin.ext h.symm)]
  · rw [if_neg h, if_neg (fun e => h (by rw [e]))]

/-- **the lattice `ip` is the `p`-radical** `I_p = {x ∈ O | x^(p^k) ∈ pO}` -/
theorem ip_lattice (h : Ctx q Ω T) (one : ∃ e : Fin n → ℤ, el q Ω e = 1) (hn : 0 < n) (P kk : ℕ)
    (hP : P.Prime) (t : Table) (ct : Cube3 n t) (hT : TableMod n t T P) (phiw K0 ip0 : IMat)
    (hphiw : tabulate n (fun i =>
      powModP ((List.range n).map (fun j => if i = j then 1 else 0)) ((P : ℤ) ^ kk) t (P : ℤ)) = .ok phiw)
    (hK : kernelM (phiw ++ scalarRows n (P : ℤ)) = .ok K0) (hip0 : hnfM K0 = .ok ip0) :
    ∃ r0, NTV.Hnf.Rect r0 n (ip0.map (fun row => row.take n)) ∧
      ∀ v : Fin n → ℤ, InLattice r0 n (ip0.map (fun row => row.take n)) v ↔
        el q Ω v ∈ radQ (Olat h one) P (P ^ kk) := by
  classical
  have rphiw := phiw_rect t (P : ℤ) ((P : ℤ) ^ kk) n ct.cube phiw hphiw
  obtain ⟨r0, rip, hlat⟩ := ip_lattice_int n hn (P : ℤ) phiw K0 ip0 rphiw hK hip0
  refine ⟨r0, rip, ?_⟩
  -- the rows of phiw are the Frobenius images of the Ω_i
  have hrows : ∀ i : Fin n, CongO (Olat h one) P (el q Ω (NTV.Hnf.toM n n phiw i)) (Ω i ^ P ^ kk) := by
    intro i
    have h1 := (tabulate_getD _ _ _ [] hphiw).2 i.val i.isLt
    have hpow1 : (1 : ℤ) ≤ (P : ℤ) ^ kk := one_le_pow₀ (Int.natCast_pos.mpr hP.pos)
    obtain ⟨_, hc⟩ := powModP_el h one P (P : ℤ) (dvd_refl _) t ct hT _ _ ((P : ℤ) ^ kk) hpow1 (by simp) h1
    rw [vecZ_unit n i.val i.isLt, el_single] at hc
    have e1 : ((P : ℤ) ^ kk).toNat = P ^ kk := by
      rw [← Nat.cast_pow, Int.toNat_natCast]
    rw [e1] at hc
    rw [toM_row_eq_vecZ]
    exact hc
  intro v
  rw [hlat v, ← mem_pO_iff h one P]
  have hcong : CongO (Olat h one) P (el q Ω (v ᵥ* NTV.Hnf.toM n n phiw)) (el q Ω v ^ P ^ kk) := by
    rw [el_vecMul]
    refine CongO.trans ?_ (frob_el h one P kk hP (Omega_mem h one) v).symm
    apply CongO.sum
    intro i _
    exact CongO.mul_left _ (intCast_mem _ _) (hrows i)
  rw [hcong.mem_pO_iff]
  exact ⟨fun hx => ⟨el_mem_Olat h one v, hx⟩, fun hx => hx.2⟩

theorem smul_lattice_iff (h : Ctx q Ω T) (one : ∃ e : Fin n → ℤ, el q Ω e = 1) (P : ℕ) {I : Set K}
    (hsub : ∀ x ∈ I, x ∈ Olat h one) (ip : IMat) (r0 : ℕ)
    (hipI : ∀ v : Fin n → ℤ, InLattice r0 n ip v ↔ el q Ω v ∈ I) (w : Fin n → ℤ) :
    (∃ d : Fin r0 → ℤ, w + (P : ℤ) • (d ᵥ* NTV.Hnf.toM r0 n ip) = 0) ↔ el q Ω w ∈ pI I P := by
  constructor
  · rintro ⟨d, hd⟩
    have e : w = (P : ℤ) • ((-d) ᵥ* NTV.Hnf.toM r0 n ip) := by
      rw [Matrix.neg_vecMul, smul_neg]
      exact eq_neg_of_add_eq_zero_left hd
    rw [e, el_zsmul]
    exact ⟨_, (hipI _).mp ⟨-d, rfl⟩, by rw [Int.cast_natCast]⟩
  · rintro ⟨y, hy, hyw⟩
    obtain ⟨y', rfl⟩ := hsub y hy
    obtain ⟨d', hd'⟩ := (hipI y').mpr hy
    have e : w = (P : ℤ) • y' := h.el_inj _ _ (by rw [hyw, el_zsmul, Int.cast_natCast])
    exact ⟨-d', by rw [e, Matrix.neg_vecMul, hd', smul_neg, add_neg_cancel]⟩

section UpStep
variable (h : Ctx q Ω T) (one : ∃ e : Fin n → ℤ, el q Ω e = 1) (P kk : ℕ)

theorem radQ_facts (hP : P.Prime) :
    IdealIn (Olat h one) (radQ (Olat h one) P (P ^ kk)) ∧ (P : K) ∈ radQ (Olat h one) P (P ^ kk) ∧
    ∀ x ∈ pO (Olat h one) P, x ∈ radQ (Olat h one) P (P ^ kk) :=
  ⟨radQ_ideal _ P kk hP, p_mem_radQ _ P _ (Nat.one_le_pow _ _ hP.pos),
    fun _ hx => pO_sub_radQ _ P _ (Nat.one_le_pow _ _ hP.pos) hx⟩

/-- **one iteration of the `U_p` loop**: the new lattice is `{v ∈ lattice(up) | η·v ∈ p·I}` -/
theorem upStep_lattice (hP : P.Prime) (hn : 0 < n) (t2 : Table) (ct2 : Cube3 n t2) (hT2 : TableMod n t2 T (P * P))
    (ip : IMat) (r0 : ℕ) (hr0 : 0 < r0) (hip : NTV.Hnf.Rect r0 n ip)
    (hipI : ∀ v : Fin n → ℤ, InLattice r0 n ip v ↔ el q Ω v ∈ radQ (Olat h one) P (P ^ kk))
    (up : IMat) (r : ℕ) (hup : NTV.Hnf.Rect r n up) (etai : List Int) (he : etai.length = n) (up' : IMat)
    (hstep : upStep n (P : ℤ) ((P : ℤ) * (P : ℤ)) t2 ip up etai = .ok up') :
    ∃ r', NTV.Hnf.Rect r' n up' ∧ ∀ v : Fin n → ℤ, InLattice r' n up' v ↔
      InLattice r n up v ∧ el q Ω (vecZ etai n) * el q Ω v ∈ pI (radQ (Olat h one) P (P ^ kk)) P := by
  obtain ⟨hI, hPI, hpOI⟩ := radQ_facts h one P kk hP
  have hpI := pI_ideal hI P
  obtain ⟨r', rup', hlat⟩ := upStep_lattice_int n hn (P : ℤ) ((P : ℤ) * (P : ℤ)) t2 ct2.cube ip up etai r0 r hr0
    hip hup he up' hstep
  refine ⟨r', rup', ?_⟩
  have hp2 : ∀ x ∈ pO (Olat h one) (P * P), x ∈ pI (radQ (Olat h one) P (P ^ kk)) P := by
    rintro _ ⟨y, hy, rfl⟩
    exact ⟨(P : K) * y, hpOI _ ⟨y, hy, rfl⟩, by push_cast; ring⟩
  have hcong : ∀ c : Fin r → ℤ,
      CongO (Olat h one) (P * P)
        (el q Ω (c ᵥ* NTV.Hnf.toM r n (up.map (fun uj => mulModP etai uj t2 ((P : ℤ) * (P : ℤ))))))
        (el q Ω (vecZ etai n) * el q Ω (c ᵥ* NTV.Hnf.toM r n up)) := by
    intro c
    rw [el_vecMul, el_vecMul, Finset.mul_sum]
    apply CongO.sum
    intro j _
    rw [mul_left_comm]
    apply CongO.mul_left _ (intCast_mem _ _)
    have hj : j.val < up.length := by rw [hup.1]; exact j.isLt
    rw [toM_row_eq_vecZ, toM_row_eq_vecZ]
    have e : (up.map (fun uj => mulModP etai uj t2 ((P : ℤ) * (P : ℤ)))).getD j.val [] =
        mulModP etai (up.getD j.val []) t2 ((P : ℤ) * (P : ℤ)) := by
      simp [List.getD_eq_getElem?_getD, List.getElem?_eq_getElem hj]
    rw [e]
    exact mulModP_el h one (P * P) _ (by push_cast; exact dvd_refl _) etai _ t2 he
      (hup.row_length j.val j.isLt) ct2 hT2
  -- `c·top ∈ p·lattice(ip)` iff `el(c·top) ∈ p·I` iff `η·el(c·up) ∈ p·I`
  have hiff := fun c : Fin r → ℤ => (smul_lattice_iff h one P hI.sub ip r0 hipI _).trans
    (hpI.mem_iff_of_sub_mem (hp2 _ (hcong c)))
  intro v
  rw [hlat v]
  constructor
  · rintro ⟨c, rfl, hd⟩
    exact ⟨⟨c, rfl⟩, (hiff c).mp hd⟩
  · rintro ⟨⟨c, rfl⟩, hprod⟩
    exact ⟨c, rfl, (hiff c).mpr hprod⟩

theorem upFold_lattice (hP : P.Prime) (hn : 0 < n) (t2 : Table) (ct2 : Cube3 n t2) (hT2 : TableMod n t2 T (P * P))
    (ip : IMat) (r0 : ℕ) (hr0 : 0 < r0) (hip : NTV.Hnf.Rect r0 n ip)
    (hipI : ∀ v : Fin n → ℤ, InLattice r0 n ip v ↔ el q Ω v ∈ radQ (Olat h one) P (P ^ kk))
    (l : List (List Int)) (hl : ∀ η ∈ l, η.length = n) :
    ∀ (up : IMat) (r : ℕ), NTV.Hnf.Rect r n up → ∀ up' : IMat,
      l.foldlM (fun up etai => upStep n (P : ℤ) ((P : ℤ) * (P : ℤ)) t2 ip up etai) up = .ok up' →
      ∃ r', NTV.Hnf.Rect r' n up' ∧ ∀ v : Fin n → ℤ, InLattice r' n up' v ↔ InLattice r n up v ∧
        ∀ η ∈ l, el q Ω (vecZ η n) * el q Ω v ∈ pI (radQ (Olat h one) P (P ^ kk)) P := by
  induction l with
  | nil =>
    intro up r hup up' hfold
    rw [List.foldlM_nil] at hfold
    cases hfold
    exact ⟨r, hup, fun v => by simp⟩
  | cons η rest ih =>
    intro up r hup up' hfold
    rw [List.foldlM_cons] at hfold
    obtain ⟨up1, h1, hfold⟩ := (bind_ok _ _ _).mp hfold
    obtain ⟨r1, rup1, hlat1⟩ := upStep_lattice h one P kk hP hn t2 ct2 hT2 ip r0 hr0 hip hipI up r hup η
      (hl η List.mem_cons_self) up1 h1
    obtain ⟨r', rup', hlat'⟩ := ih (fun x hx => hl x (List.mem_cons_of_mem _ hx)) up1 r1 rup1 up' hfold
    exact ⟨r', rup', fun v => by rw [hlat' v, hlat1 v, List.forall_mem_cons, and_assoc]⟩

/-- **the `U_p` loop computes** `U0 = {u ∈ I_p | u·I_p ⊆ p·I_p}` -/
theorem up_lattice (hP : P.Prime) (hn : 0 < n) (t2 : Table) (ct2 : Cube3 n t2) (hT2 : TableMod n t2 T (P * P))
    (ip : IMat) (r0 : ℕ) (hr0 : 0 < r0) (hip : NTV.Hnf.Rect r0 n ip)
    (hipI : ∀ v : Fin n → ℤ, InLattice r0 n ip v ↔ el q Ω v ∈ radQ (Olat h one) P (P ^ kk)) (up : IMat)
    (hfold : ip.foldlM (fun up etai => upStep n (P : ℤ) ((P : ℤ) * (P : ℤ)) t2 ip up etai) ip = .ok up) :
    ∃ r, NTV.Hnf.Rect r n up ∧ ∀ v : Fin n → ℤ, InLattice r n up v ↔
      el q Ω v ∈ U0 (radQ (Olat h one) P (P ^ kk)) P := by
  obtain ⟨hI, hPI, hpOI⟩ := radQ_facts h one P kk hP
  have hpI := pI_ideal hI P
  obtain ⟨r, rup, hlat⟩ := upFold_lattice h one P kk hP hn t2 ct2 hT2 ip r0 hr0 hip hipI ip hip.2 ip r0 hip
    up hfold
  refine ⟨r, rup, ?_⟩
  intro v
  rw [hlat v, hipI v]
  constructor
  · rintro ⟨hv, hη⟩
    refine ⟨hv, ?_⟩
    intro y hy
    obtain ⟨y', rfl⟩ := hy.1
    obtain ⟨d, rfl⟩ := (hipI y').mpr hy
    rw [el_vecMul, Finset.sum_mul]
    apply hpI.sum
    intro i _
    rw [mul_assoc]
    apply hpI.mul _ (intCast_mem _ _)
    rw [toM_row_eq_vecZ]
    apply hη
    have hi : i.val < ip.length := by rw [hip.1]; exact i.isLt
    rw [getD_eq_getElem _ _ _ hi]
    exact List.getElem_mem hi
  · rintro ⟨hv, hU⟩
    refine ⟨hv, ?_⟩
    intro η hη
    apply hU
    obtain ⟨i, hi, rfl⟩ := exists_getD_of_mem ip [] hη
    apply (hipI _).mp
    rw [← toM_row_eq_vecZ ip r0 n ⟨i, hip.1 ▸ hi⟩]
    exact NTV.Hnf.InLattice.row _

/-- **the last normal form**: `p·x ∈ el(lattice u)` iff `x` multiplies `I_p` into itself -/
theorem u_lattice (hP : P.Prime) (hn : 0 < n) (up u : IMat) (r : ℕ) (hup : NTV.Hnf.Rect r n up)
    (hupU : ∀ v : Fin n → ℤ, InLattice r n up v ↔ el q Ω v ∈ U0 (radQ (Olat h one) P (P ^ kk)) P)
    (hu : hnfM (up ++ scalarRows n (P : ℤ)) = .ok u) :
    ∃ ru, NTV.Hnf.Rect ru n u ∧ ∀ x : K,
      (∃ v : Fin n → ℤ, InLattice ru n u v ∧ (P : K) * x = el q Ω v) ↔
        x ∈ multR (radQ (Olat h one) P (P ^ kk)) := by
  obtain ⟨hI, hPI, hpOI⟩ := radQ_facts h one P kk hP
  obtain ⟨ru, rU, hlat⟩ := u_lattice_int n r hn (P : ℤ) up u hup hu
  refine ⟨ru, rU, ?_⟩
  intro x
  rw [← mem_multR_iff (Olat h one) _ hI P hPI (p_cancel q P hP.ne_zero) x]
  constructor
  · rintro ⟨v, hv, hx⟩
    obtain ⟨a, ha, d, rfl⟩ := (hlat v).mp hv
    refine ⟨el q Ω a, (hupU a).mp ha, el q Ω ((P : ℤ) • d), ?_, ?_⟩
    · rw [el_zsmul]; exact ⟨el q Ω d, el_mem_Olat h one d, by simp⟩
    · rw [hx, el_add]
  · rintro ⟨u0, hu0, w, ⟨w', hw', rfl⟩, hx⟩
    obtain ⟨a, rfl⟩ := hI.sub _ hu0.1
    obtain ⟨d, rfl⟩ := hw'
    refine ⟨a + (P : ℤ) • d, (hlat _).mpr ⟨a, (hupU a).mpr hu0, d, rfl⟩, ?_⟩
    rw [hx, el_add, el_zsmul]; simp

end UpStep

end NTV.Round2
