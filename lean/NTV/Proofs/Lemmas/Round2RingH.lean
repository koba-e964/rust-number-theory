import NTV.Proofs.Lemmas.Round2RingG
/-! Round 2: the semantics of a whole `one_step`. For an order `o` containing 1 (closedness is certified by
the table computation) and a prime `p`, the ℤ-span of the new basis `o'` is the multiplier ring
`{x ∈ K | x·I_p ⊆ I_p}` of the `p`-radical `I_p` of `o` (`oneStep_sem`). Before that: the list-level tables as the true table modulo `p`
and `p²`, and change of basis at the level of elements (`el_scaled`: `c • A = Q·B` gives
`c·Σ z_i α_i = Σ (z·Q)_j β_j`). -/
open Matrix Finset Polynomial
namespace NTV.Round2
open NTV.Ord NTV.PolyG NTV.R2Abs
open NTV.Hnf (InLattice)
open NTV.TableAbs (Ctx psi)
open NTV.RowOps (toM Rect ent)

variable {f : List Int} {o : QMat} {n : Nat}

theorem _root_.NTV.Ord.Setup.degU_eq (S : Setup f o n) : degU f = n :=
  NTV.PolyG.degU_of_length S.len

theorem one_of_vec (S : Setup f o n) (c : Fin n → ℤ)
    (hc : (fun k => (c k : ℚ)) ᵥ* toM n n o = fun j => if j.val = 0 then 1 else 0) :
    el (qK f) (omegaK f o n) c = 1 := by
  unfold el
  rw [psi_eq_cls]
  have : toPoly [(1 : ℚ)] = ∑ k : Fin n, C (NTV.TableAbs.castV c k) * toPoly (o.getD k []) := by
    apply toPoly_comb S.rect _ [1] S.pos
    intro j hj
    have := congrFun hc ⟨j, hj⟩
    simp only [Matrix.vecMul, dotProduct] at this
    have e : [(1 : ℚ)].getD j 0 = if j = 0 then 1 else 0 := by cases j <;> rfl
    rw [e, ← this]
    rfl
  have e1 : toPoly [(1 : ℚ)] = C 1 := toPoly_unit_row 1 0
  rw [← this, e1, C_1, map_one]

theorem tables_mod (S : Setup f o n) (P : ℕ) (t t2 : Table)
    (h : tables f o n (P : ℤ) ((P : ℤ) * (P : ℤ)) = .ok (t, t2)) (hP : P ≠ 0) :
    Cube3 n t ∧ Cube3 n t2 ∧ TableMod n t (tabT (tableOf f o n) n) P ∧
      TableMod n t2 (tabT (tableOf f o n) n) (P * P) := by
  have hp2 : (P : ℤ) * (P : ℤ) ≠ 0 := by
    have : (P : ℤ) ≠ 0 := by exact_mod_cast hP
    exact mul_ne_zero this this
  obtain ⟨_, c1, c2, hval⟩ := tables_spec S (P : ℤ) _ hp2 t t2 h
  refine ⟨c1, c2, ?_, ?_⟩
  · intro i j k
    obtain ⟨h2, h1⟩ := hval i i.isLt j j.isLt k k.isLt
    unfold tabT
    rw [h1]
    have a1 := dvd_tmod_sub (tent t2 i j k) (P : ℤ)
    have a2 : (P : ℤ) ∣ tent t2 i j k - tent (tableOf f o n) i j k := by
      rw [h2]
      exact dvd_trans (Dvd.intro _ rfl) (dvd_tmod_sub _ ((P : ℤ) * (P : ℤ)))
    have := dvd_add a1 a2
    rwa [sub_add_sub_cancel] at this
  · intro i j k
    obtain ⟨h2, _⟩ := hval i i.isLt j j.isLt k k.isLt
    unfold tabT
    rw [h2]
    push_cast
    exact dvd_tmod_sub _ _

/-- a rational matrix as a list matrix -/
def qmatOfFn (M : Matrix (Fin n) (Fin n) ℚ) : QMat := List.ofFn fun i => List.ofFn fun j => M i j

theorem qmatOfFn_rect (M : Matrix (Fin n) (Fin n) ℚ) : Rect n n (qmatOfFn M) := by
  refine ⟨by simp [qmatOfFn], ?_⟩
  intro r hr
  simp only [qmatOfFn, List.mem_ofFn] at hr
  obtain ⟨i, rfl⟩ := hr
  simp

theorem qmatOfFn_toM (M : Matrix (Fin n) (Fin n) ℚ) : toM n n (qmatOfFn M) = M := by
  ext i j
  simp [toM, ent, qmatOfFn, List.getD_eq_getElem?_getD, i.isLt, j.isLt]

theorem el_scaled (A B : QMat) (rA : Rect n n A) (rB : Rect n n B) (c : ℚ)
    (Q : Matrix (Fin n) (Fin n) ℤ) (h : c • toM n n A = Q.map (Int.castRingHom ℚ) * toM n n B)
    (z : Fin n → ℤ) :
    (qK f) c * el (qK f) (omegaK f A n) z = el (qK f) (omegaK f B n) (z ᵥ* Q) := by
  classical
  refine el_of_rows _ Q (fun i => ?_) z
  -- the class of row `i` of `c • A`, once as a combination of the rows of `A`, once of those of `B`
  have h1 := omegaK_of_mul (f := f) (qmatOfFn (c • toM n n A)) A (qmatOfFn_rect _) rA
    (c • (1 : Matrix (Fin n) (Fin n) ℚ)) (by rw [qmatOfFn_toM, Matrix.smul_mul, Matrix.one_mul]) i
  have h2 := omegaK_of_mul (f := f) (qmatOfFn (c • toM n n A)) B (qmatOfFn_rect _) rB _
    (by rw [qmatOfFn_toM, h]) i
  have e : (c • (1 : Matrix (Fin n) (Fin n) ℚ)) i = c • Pi.single i 1 := by
    funext j
    rw [Matrix.smul_apply, Pi.smul_apply, Matrix.one_eq_pi_single]
  rw [e, NTV.TableAbs.psi_smul, NTV.TableAbs.psi_single] at h1
  rw [← h1, h2]
  rfl

theorem el_of_mul (A B : QMat) (rA : Rect n n A) (rB : Rect n n B)
    (Q : Matrix (Fin n) (Fin n) ℤ) (h : toM n n A = Q.map (Int.castRingHom ℚ) * toM n n B)
    (z : Fin n → ℤ) :
    el (qK f) (omegaK f A n) z = el (qK f) (omegaK f B n) (z ᵥ* Q) := by
  have := el_scaled (f := f) A B rA rB 1 Q (by rw [one_smul]; exact h) z
  rwa [map_one, one_mul] at this

theorem span_new_basis (S : Setup f o n) (o' : QMat) (ro' : Rect n n o') (P : ℕ) (hP : P ≠ 0)
    (u : IMat) (U : Matrix (Fin n) (Fin n) ℤ) (hU : IsUnit U.det)
    (hrel : toM n n o' = ((P : ℚ))⁻¹ • ((U * NTV.Hnf.toM n n u).map (Int.castRingHom ℚ) * toM n n o))
    (x : ℚ[X] ⧸ Ideal.span {NTV.Alg.modulus f}) :
    (∃ z : Fin n → ℤ, x = el (qK f) (omegaK f o' n) z) ↔
      ∃ v : Fin n → ℤ, InLattice n n u v ∧ ((P : ℕ) : ℚ[X] ⧸ Ideal.span {NTV.Alg.modulus f}) * x =
        el (qK f) (omegaK f o n) v := by
  have hPq : (P : ℚ) ≠ 0 := by exact_mod_cast hP
  have key : ∀ z : Fin n → ℤ, ((P : ℕ) : ℚ[X] ⧸ Ideal.span {NTV.Alg.modulus f}) *
      el (qK f) (omegaK f o' n) z = el (qK f) (omegaK f o n) (z ᵥ* (U * NTV.Hnf.toM n n u)) := by
    intro z
    rw [← map_natCast (qK f) P]
    exact el_scaled o' o ro' S.rect _ _ (by rw [hrel, smul_smul, mul_inv_cancel₀ hPq, one_smul]) z
  constructor
  · rintro ⟨z, rfl⟩
    exact ⟨z ᵥ* (U * NTV.Hnf.toM n n u), ⟨z ᵥ* U, by rw [Matrix.vecMul_vecMul]⟩, key z⟩
  · rintro ⟨v, ⟨c, rfl⟩, hx⟩
    refine ⟨c ᵥ* U⁻¹, ?_⟩
    apply p_cancel (qK f) P hP
    rw [hx, key, Matrix.vecMul_vecMul, ← Matrix.mul_assoc, Matrix.nonsing_inv_mul _ hU, Matrix.one_mul]

/-- **semantics of `one_step`** (Cohen, Theorem 6.1.3): for an order `o` containing 1 and a prime `p`, a
successful step certifies that `o` is closed under multiplication, and the ℤ-span of the returned basis `o'` is
exactly the multiplier ring `{x ∈ K | x·I_p ⊆ I_p}` of the `p`-radical `I_p = {x ∈ O | x^(p^k) ∈ pO}`
(`p^k ≥ n`). -/
theorem oneStep_sem (S : Setup f o n) (P : ℕ) (hP : P.Prime) (o' : QMat) (hm : Nat)
    (H : oneStep f o (P : ℤ) = .ok (o', hm)) :
    Closed f o n ∧ Setup f o' n ∧
    ∀ (hC : Ctx (qK f) (omegaK f o n) (tabT (tableOf f o n) n))
      (one : ∃ e : Fin n → ℤ, el (qK f) (omegaK f o n) e = 1),
      ∃ kk : ℕ, n ≤ P ^ kk ∧ ∀ x : ℚ[X] ⧸ Ideal.span {NTV.Alg.modulus f},
        (∃ z : Fin n → ℤ, x = el (qK f) (omegaK f o' n) z) ↔
          x ∈ multR (radQ (Olat hC one) P (P ^ kk)) := by
  have hdeg := S.degU_eq
  have hn : 0 < n := S.pos
  obtain ⟨pow, t, t2, phiw, K0, ip0, up, u, r, nb, _, hpow, htab, hphiw, hK, hip0, hfold, rup, hu, hulen, hnb,
    hnewO, _⟩ := oneStep_steps f o (P : ℤ) o' hm (by rw [hdeg]; exact hn) H
  simp only [hdeg] at hpow htab hphiw hK hip0 hfold rup hu hulen hnb
  have hP0 : P ≠ 0 := hP.ne_zero
  have hp0 : (P : ℤ) ≠ 0 := by exact_mod_cast hP0
  have hpq : ((P : ℤ) : ℚ) ≠ 0 := Int.cast_ne_zero.mpr hp0
  have hcl : Closed f o n := tables_closed S (P : ℤ) _ (mul_ne_zero hp0 hp0) t t2 htab
  obtain ⟨ct, ct2, hT, hT2⟩ := tables_mod S P t t2 htab hP0
  obtain ⟨hpn, kk, hkk⟩ := powBound_spec n (P : ℤ) n 1 pow hpow
  rw [one_mul] at hkk
  subst hkk
  have hnk : n ≤ P ^ kk := by exact_mod_cast hpn
  have rphiw : NTV.Hnf.Rect n n phiw := phiw_rect t (P : ℤ) _ n ct.cube phiw hphiw
  obtain ⟨r0, rip, hipInt⟩ := ip_lattice_int n hn (P : ℤ) phiw K0 ip0 rphiw hK hip0
  have hr0 : 0 < r0 := by
    classical
    refine pos_of_inLattice_smul_single hn hp0 ((hipInt _).mpr fun k => ?_)
    rw [Matrix.smul_vecMul]
    exact ⟨_, rfl⟩
  obtain ⟨ru, du, _⟩ := lastHnf_spec n r hn (P : ℤ) hp0 up u rup hu
  obtain ⟨rnb, hnbM⟩ := newBasisM_spec n (P : ℤ) u o nb ru S.rect hnb
  have dnb : (toM n n nb).det ≠ 0 := by
    rw [hnbM, Matrix.det_smul, Matrix.det_mul, det_map_intCast]
    exact mul_ne_zero (pow_ne_zero _ (inv_ne_zero hpq)) (mul_ne_zero (Int.cast_ne_zero.mpr du) S.det)
  obtain ⟨O, hO, rO, U, hU, hrel⟩ := fromBasis_spans nb n hn rnb dnb
  rw [hnewO] at hO
  injection hO with hO
  subst hO
  have dO : (toM n n o').det ≠ 0 := by
    rw [hrel, Matrix.det_mul, det_map_intCast]
    exact mul_ne_zero (Int.cast_ne_zero.mpr hU.ne_zero) dnb
  have hrel2 : toM n n o' =
      ((P : ℚ))⁻¹ • ((U * NTV.Hnf.toM n n u).map (Int.castRingHom ℚ) * toM n n o) := by
    rw [hrel, hnbM, Matrix.mul_smul, Matrix.map_mul, Matrix.mul_assoc, Int.cast_natCast]
  refine ⟨hcl, ⟨S.canon, S.len, S.pos, rO, dO⟩, ?_⟩
  intro hC one
  refine ⟨kk, hnk, ?_⟩
  -- `ip_lattice` returns its own row count; it is the `r0` of `ip_lattice_int` above (both are `ip.length`)
  obtain ⟨r0', rip', hipI⟩ := ip_lattice hC one hn P kk hP t ct hT phiw K0 ip0 hphiw hK hip0
  have e0 : r0' = r0 := by rw [← rip'.1, rip.1]
  subst e0
  obtain ⟨r', rup', hupU⟩ := up_lattice hC one P kk hP hn t2 ct2 hT2 _ r0' hr0 rip hipI up hfold
  obtain ⟨ru', rU', hux⟩ := u_lattice hC one P kk hP hn up u r' rup' hupU hu
  have e1 : ru' = n := by rw [← rU'.1, ru.1]
  subst e1
  intro x
  rw [span_new_basis S o' rO P hP0 u U hU hrel2 x]
  exact hux x

end NTV.Round2
