import NTV.Proofs.Lemmas.Round2RingH
import NTV.Proofs.Lemmas.Round2Start
/-! Round 2: the new order of `one_step` is a ring; the invariant `GoodOrder` of
`find_integral_basis` and its starting order. -/
open Matrix Finset Polynomial
namespace NTV.Round2
open NTV.Ord NTV.PolyG NTV.R2Abs
open NTV.TableAbs (Ctx psi)
open NTV.RowOps (toM Rect ent)

variable {f : List Int} {o : QMat} {n : Nat}

/-- the module of `o` contains 1 (in coordinates) -/
def HasOne (n : Nat) (o : QMat) : Prop :=
  ∃ c : Fin n → ℤ, (fun k => (c k : ℚ)) ᵥ* toM n n o = fun j => if j.val = 0 then 1 else 0

theorem HasOne.of_sub {o o' : QMat} (h : HasOne n o)
    (hsub : ∃ P : Matrix (Fin n) (Fin n) ℤ, toM n n o = P.map (Int.castRingHom ℚ) * toM n n o') :
    HasOne n o' := by
  obtain ⟨c, hc⟩ := h
  obtain ⟨P, hP⟩ := hsub
  refine ⟨c ᵥ* P, ?_⟩
  have := castV_vecMul c P
  unfold NTV.Ord.castV at this
  rw [this, ← hc, hP, Matrix.vecMul_vecMul]

theorem HasOne.el_one (S : Setup f o n) (h : HasOne n o) :
    ∃ e : Fin n → ℤ, el (qK f) (omegaK f o n) e = 1 := by
  obtain ⟨c, hc⟩ := h
  exact ⟨c, one_of_vec S c hc⟩

theorem closed_of_span (S : Setup f o n) (R : Subring (ℚ[X] ⧸ Ideal.span {NTV.Alg.modulus f}))
    (hR : ∀ x, (∃ z : Fin n → ℤ, x = el (qK f) (omegaK f o n) z) ↔ x ∈ R) : Closed f o n := by
  classical
  have hΩ : ∀ i, omegaK f o n i ∈ R := fun i => (hR _).mp ⟨Pi.single i 1, (el_single i).symm⟩
  exact S.closed_of_K fun i j => (hR _).mpr (R.mul_mem (hΩ i) (hΩ j))

/-- **the new order is a ring**: for an order `o` containing 1 and a prime `p`, the basis returned by a
successful `one_step` is closed under multiplication (and `o` itself is certified closed) -/
theorem oneStep_closed (S : Setup f o n) (h1 : HasOne n o) (P : ℕ) (hP : P.Prime) (o' : QMat) (hm : Nat)
    (H : oneStep f o (P : ℤ) = .ok (o', hm)) : Closed f o n ∧ Setup f o' n ∧ Closed f o' n := by
  obtain ⟨hcl, S', hsem⟩ := oneStep_sem S P hP o' hm H
  obtain ⟨_, hC⟩ := S.ctx_of_closed hcl
  have one := h1.el_one S
  obtain ⟨kk, _, hx⟩ := hsem hC one
  exact ⟨hcl, S', closed_of_span S' (multRing (Olat hC one) _ (radQ_ideal (Olat hC one) P kk hP)) hx⟩

/-- the invariant of the integral-basis routine: a non-singular stored order that contains 1 and is closed
under multiplication -/
structure GoodOrder (f : List Int) (n : Nat) (o : QMat) : Prop where
  setup : Setup f o n
  stored : fromBasis o = .ok o
  one : HasOne n o
  closed : Closed f o n

theorem oneStep_good (g : GoodOrder f n o) (P : ℕ) (hP : P.Prime) (o' : QMat) (hm : Nat)
    (H : oneStep f o (P : ℤ) = .ok (o', hm)) : GoodOrder f n o' ∧ Ext n o o' ((P : ℤ) ^ hm) := by
  have hdeg := g.setup.degU_eq
  have hp : (0 : ℤ) < (P : ℤ) := by exact_mod_cast hP.pos
  have ext := oneStep_ext f o (P : ℤ) o' hm (by rw [hdeg]; exact g.setup.pos) (by rw [hdeg]; exact g.setup.rect)
    (by rw [hdeg]; exact g.setup.det) g.stored hp H
  rw [hdeg] at ext
  obtain ⟨_, S', hcl'⟩ := oneStep_closed g.setup g.one P hP o' hm H
  exact ⟨⟨S', ext.stored, g.one.of_sub ext.sub, hcl'⟩, ext⟩

theorem start_goodOrder (f : List Int) (hf : Canon f) (S : QMat) (d : Int)
    (hS : nonMonicInitialOrder f = .ok S) (hd : discriminantOrd S f = .ok d) (hd0 : d ≠ 0) :
    GoodOrder f (degU f) S := by
  obtain ⟨hn, rS, dS, sS, c, hc⟩ := start_good f S d hS hd hd0
  have hlen : f.length = degU f + 1 := by
    cases f with
    | nil => cases hS
    | cons a l => rfl
  refine ⟨⟨hf, hlen, hn, rS, dS⟩, sS, ⟨c, hc⟩, start_closed f hf S hS dS⟩

theorem findIntegralBasis_inv (f : List Int) (O : Order) (H : findIntegralBasis f = .ok O) :
    ∃ (S : Order) (dS : ℤ), nonMonicInitialOrder f = .ok S ∧ discriminantOrd S f = .ok dS ∧ dS ≠ 0 ∧
      (NTV.Trial.factorize dS.natAbs).foldlM (fun o pe => primeLoop f (pe.1 : Int) (pe.2 + 1) o pe.2) S =
        .ok O := by
  unfold findIntegralBasis at H
  obtain ⟨S, hS, H⟩ := (bind_ok _ _ _).mp H
  obtain ⟨dS, hdS, H⟩ := (bind_ok _ _ _).mp H
  split at H
  · cases H
  · rename_i hd0
    exact ⟨S, dS, hS, hdS, hd0, H⟩

end NTV.Round2
