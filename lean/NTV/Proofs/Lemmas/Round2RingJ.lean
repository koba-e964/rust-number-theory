import NTV.Proofs.Lemmas.Round2RingI
/-! Round 2, maximality (Pohst–Zassenhaus, Cohen Theorem 6.1.3 (2)): if `one_step` does not enlarge the order
(`howmany = 0`) then the order is `p`-maximal. `p`-maximality at the level of stored bases (`PMaximal`), its
relation to the abstract notion `NTV.R2Abs.PMax`, and transfer along extensions of index prime to `p`. -/
open Matrix Finset Polynomial
namespace NTV.Round2
open NTV.Ord NTV.PolyG NTV.R2Abs
open NTV.TableAbs (Ctx psi)
open NTV.RowOps (toM Rect ent)

variable {f : List Int} {n : Nat}

theorem smul_eq_adjugate_mul (A : Matrix (Fin n) (Fin n) ℤ) {X Y : Matrix (Fin n) (Fin n) ℚ}
    (h : X = A.map (Int.castRingHom ℚ) * Y) :
    ((A.det : ℤ) : ℚ) • Y = A.adjugate.map (Int.castRingHom ℚ) * X := by
  rw [h, ← Matrix.mul_assoc, ← Matrix.map_mul, Matrix.adjugate_mul, Matrix.map_smul' _ _ _ (Int.castRingHom ℚ).map_mul,
    Matrix.map_one _ (Int.castRingHom ℚ).map_zero (Int.castRingHom ℚ).map_one, Matrix.smul_mul, Matrix.one_mul]
  rfl

theorem eq_inv_mul_of_isUnit_det (A : Matrix (Fin n) (Fin n) ℤ) (hU : IsUnit A.det)
    {X Y : Matrix (Fin n) (Fin n) ℚ} (h : X = A.map (Int.castRingHom ℚ) * Y) :
    Y = (A⁻¹).map (Int.castRingHom ℚ) * X := by
  rw [h, ← Matrix.mul_assoc, ← Matrix.map_mul, Matrix.nonsing_inv_mul _ hU,
    Matrix.map_one _ (Int.castRingHom ℚ).map_zero (Int.castRingHom ℚ).map_one, Matrix.one_mul]

/-- the matrix of the inclusion `o ⊆ o'` has the index as determinant -/
theorem Ext.det_sub {o o' : QMat} {m : ℤ} (ext : Ext n o o' m) (ro : Rect n n o)
    {Pm : Matrix (Fin n) (Fin n) ℤ} (hPm : toM n n o = Pm.map (Int.castRingHom ℚ) * toM n n o') :
    Pm.det = m := by
  have hidx := (index_ok_iff o' o n ext.rect ro ext.det m).mp ext.idx
  rw [hPm, Matrix.det_mul, det_map_intCast] at hidx
  exact_mod_cast mul_right_cancel₀ ext.det hidx

theorem Olat_le_of_mul {O S : QMat} (rO : Rect n n O) (rS : Rect n n S) (A : Matrix (Fin n) (Fin n) ℤ)
    (hA : toM n n O = A.map (Int.castRingHom ℚ) * toM n n S)
    (hCO : Ctx (qK f) (omegaK f O n) (tabT (tableOf f O n) n))
    (oneO : ∃ e : Fin n → ℤ, el (qK f) (omegaK f O n) e = 1)
    (hCS : Ctx (qK f) (omegaK f S n) (tabT (tableOf f S n) n))
    (oneS : ∃ e : Fin n → ℤ, el (qK f) (omegaK f S n) e = 1) : Olat hCO oneO ≤ Olat hCS oneS := by
  rintro _ ⟨z, rfl⟩
  exact ⟨z ᵥ* A, (el_of_mul O S rO rS A hA z).symm⟩

theorem matrix_of_le {O S : QMat} (SO : Setup f O n) (rS : Rect n n S)
    (hrow : ∀ i : Fin n, ∃ v : Fin n → ℤ, el (qK f) (omegaK f O n) v = omegaK f S n i) :
    ∃ R : Matrix (Fin n) (Fin n) ℤ, toM n n S = R.map (Int.castRingHom ℚ) * toM n n O := by
  choose R hR using hrow
  refine ⟨Matrix.of R, ?_⟩
  have hM : toM n n S = (toM n n S * (toM n n O)⁻¹) * toM n n O := by
    rw [Matrix.mul_assoc, Matrix.nonsing_inv_mul _ (isUnit_iff_ne_zero.mpr SO.det), Matrix.mul_one]
  have hΩ := omegaK_of_mul (f := f) S O rS SO.rect _ hM
  -- the rows of `S·O⁻¹` are the integer vectors `R i`, since `Σ x_k Ω_k` determines `x`
  have hrows : ∀ i, (toM n n S * (toM n n O)⁻¹) i = NTV.TableAbs.castV (R i) := by
    intro i
    apply eq_of_sub_eq_zero
    apply SO.indep
    rw [NTV.TableAbs.psi_sub, ← hΩ i, ← hR i]
    exact sub_self _
  rw [hM]
  congr 1
  ext i j
  rw [hrows i]
  rfl

/-- `p`-maximality of a stored order `O`: every order `S ⊇ O` (non-singular basis, closed under
multiplication) with `p^r·S ⊆ O` for some `r` is contained in `O` — there is no strictly larger order in which
`O` has `p`-power index -/
def PMaximal (f : List Int) (n : Nat) (O : QMat) (p : ℕ) : Prop :=
  ∀ S : QMat, Rect n n S → (toM n n S).det ≠ 0 → Closed f S n →
    (∃ A : Matrix (Fin n) (Fin n) ℤ, toM n n O = A.map (Int.castRingHom ℚ) * toM n n S) →
    (∃ (r : ℕ) (B : Matrix (Fin n) (Fin n) ℤ),
      ((p : ℚ) ^ r) • toM n n S = B.map (Int.castRingHom ℚ) * toM n n O) →
    ∃ R : Matrix (Fin n) (Fin n) ℤ, toM n n S = R.map (Int.castRingHom ℚ) * toM n n O

/-- abstract `p`-maximality of the ℤ-span of a stored basis (for every choice of the proofs) -/
def PMaxK (f : List Int) (n : Nat) (O : QMat) (p : ℕ) : Prop :=
  ∀ (hC : Ctx (qK f) (omegaK f O n) (tabT (tableOf f O n) n))
    (one : ∃ e : Fin n → ℤ, el (qK f) (omegaK f O n) e = 1), PMax (Olat hC one) p

theorem PMaxK.pmaximal {O : QMat} {p : ℕ} (g : GoodOrder f n O) (h : PMaxK f n O p) : PMaximal f n O p := by
  classical
  intro S rS dS cS ⟨A, hA⟩ ⟨r, B, hB⟩
  have SS : Setup f S n := ⟨g.setup.canon, g.setup.len, g.setup.pos, rS, dS⟩
  obtain ⟨_, hCO⟩ := g.setup.ctx_of_closed g.closed
  obtain ⟨_, hCS⟩ := SS.ctx_of_closed cS
  have oneO := g.one.el_one g.setup
  have oneS := (g.one.of_sub ⟨A, hA⟩).el_one SS
  suffices hSO : Olat hCS oneS ≤ Olat hCO oneO from
    matrix_of_le g.setup rS fun i => hSO (Omega_mem hCS oneS i)
  refine h hCO oneO _ (Olat_le_of_mul g.setup.rect rS A hA hCO oneO hCS oneS) ⟨r, ?_⟩
  rintro _ ⟨z, rfl⟩
  have := el_scaled (f := f) S O rS g.setup.rect _ B hB z
  rw [map_pow, map_natCast] at this
  exact ⟨_, this.symm⟩

theorem PMaxK.of_ext {o o' : QMat} {p : ℕ} {m : ℤ} (g : GoodOrder f n o)
    (ext : Ext n o o' m) (hcop : Nat.Coprime m.natAbs p) (h : PMaxK f n o p) : PMaxK f n o' p := by
  intro hC' one'
  obtain ⟨_, hC⟩ := g.setup.ctx_of_closed g.closed
  have one := g.one.el_one g.setup
  obtain ⟨Pm, hPm⟩ := ext.sub
  refine PMax.of_coprime (Olat hC one) (Olat hC' one') p m.natAbs (h hC one)
    (Olat_le_of_mul g.setup.rect ext.rect Pm hPm hC one hC' one') ?_ hcop
  -- `m·o' ⊆ o` by the adjugate
  rintro _ ⟨z, rfl⟩
  have := el_scaled (f := f) o' o ext.rect g.setup.rect _ Pm.adjugate (smul_eq_adjugate_mul Pm hPm) z
  rw [ext.det_sub g.setup.rect hPm, map_intCast, ← Int.natAbs_of_nonneg (le_trans zero_le_one ext.pos),
    Int.cast_natCast] at this
  exact ⟨_, this.symm⟩

/-- **Pohst–Zassenhaus**: if `one_step` returns `howmany = 0` on a good order `o` and a prime `p`, then
`o` is `p`-maximal -/
theorem oneStep_max {o : QMat} (g : GoodOrder f n o) (P : ℕ) (hP : P.Prime) (o' : QMat)
    (H : oneStep f o (P : ℤ) = .ok (o', 0)) : PMaxK f n o P := by
  intro hC one
  obtain ⟨_, ext⟩ := oneStep_good g P hP o' 0 H
  obtain ⟨_, _, hsem⟩ := oneStep_sem g.setup P hP o' 0 H
  obtain ⟨kk, hkk, hx⟩ := hsem hC one
  -- index 1: the two bases generate the same module
  obtain ⟨Pm, hPm⟩ := ext.sub
  have hU : IsUnit Pm.det := by
    rw [ext.det_sub g.setup.rect hPm, pow_zero]
    exact isUnit_one
  have hinv := eq_inv_mul_of_isUnit_det Pm hU hPm
  apply pmax_of_mult hC one P kk hP hkk
  intro x hxm
  obtain ⟨z, rfl⟩ := (hx x).mpr hxm
  exact ⟨z ᵥ* Pm⁻¹, (el_of_mul o' o ext.rect g.setup.rect _ hinv z).symm⟩

end NTV.Round2
