import NTV.Proofs.Lemmas.TableProofs2
/-! Round 2, ring theory — bridge between the list-level notion `NTV.Ord.Closed` (products of basis vectors
have integral coordinates) and the quotient ring `K = ℚ[X]/(f)`: the ℤ-span of the classes `omegaK` of the rows
is closed under multiplication. Change of basis for `omegaK`. -/
open Polynomial Matrix
namespace NTV.Ord
open NTV.RowOps (toM Rect ent)
open NTV.PolyG
open NTV.Alg (Reduced modulus cls mul_cls cls_eq_iff)
open NTV.TableAbs (psi castV Ctx)

variable {f : List Int} {basis : QMat} {n : Nat}

/-- the list of rational coordinates of an integer vector -/
def listQ (z : Fin n → ℤ) : List Rat := List.ofFn (fun k => ((z k : ℤ) : ℚ))

theorem vecQ_listQ (z : Fin n → ℤ) : vecQ (listQ z) n = castV z := by
  funext i
  simp [vecQ, listQ, castV, List.getD_eq_getElem?_getD, i.isLt]

theorem coefAt_comb (hr : Rect n n basis) (x : List Rat) (c : Nat) (hc : c < n) :
    coefAt (comb basis x) c = ∑ i ∈ Finset.range n, x.getD i 0 * ent basis i c := by
  unfold comb coefAt
  rw [getD_fromRaw, hr.1]
  simp [List.getD_eq_getElem?_getD, hc]

theorem Setup.closed_of_K (S : Setup f basis n)
    (h : ∀ i j : Fin n, ∃ z : Fin n → ℤ,
      omegaK f basis n i * omegaK f basis n j = psi (qK f) (omegaK f basis n) (castV z)) :
    Closed f basis n := by
  intro i hi j hj
  obtain ⟨z, hz⟩ := h ⟨i, hi⟩ ⟨j, hj⟩
  obtain ⟨h1, h2, h3⟩ := S.mul_omega i j hi hj
  refine ⟨prodOf f basis i j, fun k => if hk : k < n then z ⟨k, hk⟩ else 0, h1, ?_⟩
  have hrc := S.reduced_comb (listQ z)
  have heq : prodOf f basis i j = comb basis (listQ z) := by
    apply NTV.Alg.eq_of_reduced_of_cls_eq f S.canon S.two_le _ _ h2 hrc
    rw [h3, S.cls_comb, vecQ_listQ]
    exact hz
  intro c hc
  rw [heq, coefAt_comb S.rect _ c hc]
  apply Finset.sum_congr rfl
  intro k hk
  have hk' := Finset.mem_range.mp hk
  simp [listQ, List.getD_eq_getElem?_getD, hk']

theorem Setup.ctx_of_closed (S : Setup f basis n) (h : Closed f basis n) :
    IsTable f basis n (tableOf f basis n) ∧
    Ctx (qK f) (omegaK f basis n) (tabT (tableOf f basis n) n) := by
  have ha := S.closed_iff.mp h
  have ht := S.isTable_tableOf ha
  exact ⟨ht, S.ctx _ ht⟩

theorem omegaK_of_mul (A B : QMat) (hA : Rect n n A) (hB : Rect n n B)
    (P : Matrix (Fin n) (Fin n) ℚ) (hP : toM n n A = P * toM n n B) (i : Fin n) :
    omegaK f A n i = psi (qK f) (omegaK f B n) (P i) := by
  rw [psi_eq_cls]
  unfold omegaK
  congr 1
  apply toPoly_comb hB _ _ (by rw [hA.row_length i i.2])
  intro c hc
  have := congrFun (congrFun hP i) ⟨c, hc⟩
  simp only [Matrix.mul_apply] at this
  exact this

theorem psi_vecMul {K : Type*} [CommRing K] (q : ℚ →+* K) (Ω Ω' : Fin n → K)
    (P : Matrix (Fin n) (Fin n) ℚ) (h : ∀ i, Ω' i = psi q Ω (P i)) (x : Fin n → ℚ) :
    psi q Ω' x = psi q Ω (x ᵥ* P) := by
  unfold psi
  simp only [h, psi, Finset.mul_sum, Matrix.vecMul, dotProduct, map_sum, Finset.sum_mul, map_mul]
  rw [Finset.sum_comm]
  apply Finset.sum_congr rfl
  intro j _
  apply Finset.sum_congr rfl
  intro i _
  ring

end NTV.Ord
