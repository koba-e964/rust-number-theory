import NTV.Proofs.Lemmas.Round2RingJ
import NTV.Proofs.Lemmas.EcmDriverUnique
/-! Round 2, maximality through the loops of `find_integral_basis`: the loop for one prime ends either with a
`p`-maximal order or with fewer than two factors `p` left in the discriminant; later primes do not destroy
`p`-maximality (their indices are prime to `p`). Result: `find_integral_basis` returns an order that is
`p`-maximal at every prime `p` whose square divides its discriminant. -/
open Matrix Finset Polynomial
namespace NTV.Round2
open NTV.Ord NTV.PolyG NTV.R2Abs
open NTV.TableAbs (Ctx psi)
open NTV.RowOps (toM Rect ent)

variable {f : List Int} {n : Nat}

theorem GoodOrder.ext_refl {o : QMat} (g : GoodOrder f n o) : Ext n o o 1 :=
  Ext.refl n o g.setup.rect g.setup.det g.stored

/-- the loop for one prime `P` ends with a `P`-maximal order or with fewer than two factors `P` left of the `e`
it started with; the index is `P^k` -/
theorem primeLoop_max (P : ℕ) (hP : P.Prime) (fuel : Nat) (o : Order) (e : Nat) (o' : Order)
    (g : GoodOrder f n o) (H : primeLoop f (P : ℤ) fuel o e = .ok o') :
    ∃ k : ℕ, 2 * k ≤ e ∧ Ext n o o' ((P : ℤ) ^ k) ∧ GoodOrder f n o' ∧
      (PMaxK f n o' P ∨ e - 2 * k < 2) := by
  refine primeLoop_induction (Q := fun o e o' => GoodOrder f n o → ∃ k : ℕ, 2 * k ≤ e ∧
    Ext n o o' ((P : ℤ) ^ k) ∧ GoodOrder f n o' ∧ (PMaxK f n o' P ∨ e - 2 * k < 2)) ?_ ?_ ?_ fuel o e o' H g
  · exact fun o e he g =>
      ⟨0, Nat.zero_le _, pow_zero (P : ℤ) ▸ g.ext_refl, g, Or.inr (Nat.lt_of_not_le he)⟩
  · intro o e newO _ hstep g
    obtain ⟨g', ext⟩ := oneStep_good g P hP newO 0 hstep
    exact ⟨0, Nat.zero_le _, ext, g', Or.inl ((oneStep_max g P hP newO hstep).of_ext g ext (by simp))⟩
  · intro o e newO hm o' _ hstep hle _ ih g
    obtain ⟨g', ext⟩ := oneStep_good g P hP newO hm hstep
    obtain ⟨k, hk, ext2, g2, hd⟩ := ih g'
    exact ⟨hm + k, by omega, pow_add (P : ℤ) hm k ▸ Ext.trans g.setup.rect ext ext2, g2,
      hd.imp_right fun h => by omega⟩

theorem natAbs_pow_mul (p k : ℕ) (j : ℤ) : ((p : ℤ) ^ k * j).natAbs = p ^ k * j.natAbs := by
  rw [Int.natAbs_mul, Int.natAbs_pow, Int.natAbs_natCast]

/-- the fold over the prime factors. The third and fourth conjunct (the index is prime to the primes outside the
list; its `pe.1`-part and what the loop for `pe.1` achieved) are what the induction carries -/
theorem fold_max (fac : List (Nat × Nat)) (hfac : ∀ pe ∈ fac, pe.1.Prime)
    (hpw : fac.Pairwise (fun a b => a.1 ≠ b.1)) (o O : Order) (g : GoodOrder f n o)
    (H : fac.foldlM (fun o pe => primeLoop f (pe.1 : Int) (pe.2 + 1) o pe.2) o = .ok O) :
    ∃ i : ℤ, Ext n o O i ∧ GoodOrder f n O ∧
      (∀ l : ℕ, l.Prime → (∀ pe ∈ fac, pe.1 ≠ l) → Nat.Coprime i.natAbs l) ∧
      ∀ pe ∈ fac, ∃ (k : ℕ) (i' : ℤ), i = (pe.1 : ℤ) ^ k * i' ∧ Nat.Coprime i'.natAbs pe.1 ∧
        (PMaxK f n O pe.1 ∨ pe.2 - 2 * k < 2) := by
  induction fac generalizing o with
  | nil =>
    rw [List.foldlM_nil] at H
    cases H
    exact ⟨1, g.ext_refl, g, fun l _ _ => Nat.coprime_one_left l, fun _ h => (List.not_mem_nil h).elim⟩
  | cons pe rest ih =>
    rw [List.foldlM_cons] at H
    obtain ⟨o1, h1, H⟩ := (bind_ok _ _ _).mp H
    have hp := hfac pe (by simp)
    obtain ⟨k, _, ext1, g1, d1⟩ := primeLoop_max pe.1 hp _ o pe.2 o1 g h1
    obtain ⟨hhead, hpw'⟩ := List.pairwise_cons.mp hpw
    obtain ⟨j, ext2, gO, hsupp, hrest⟩ := ih (fun q hq => hfac q (by simp [hq])) hpw' o1 g1 H
    have hcopj : Nat.Coprime j.natAbs pe.1 := hsupp pe.1 hp fun pe' hpe' => (hhead pe' hpe').symm
    refine ⟨(pe.1 : ℤ) ^ k * j, Ext.trans g.setup.rect ext1 ext2, gO, ?_, ?_⟩
    · intro l hl hne
      rw [natAbs_pow_mul]
      exact Nat.Coprime.mul_left
        (Nat.Coprime.pow_left k ((Nat.coprime_primes hp hl).mpr (hne pe List.mem_cons_self)))
        (hsupp l hl fun pe' hpe' => hne pe' (List.mem_cons_of_mem _ hpe'))
    · intro pe' hpe'
      rcases List.mem_cons.mp hpe' with rfl | hmem
      · refine ⟨k, j, rfl, hcopj, ?_⟩
        rcases d1 with d1 | d1
        · exact Or.inl (d1.of_ext g1 ext2 hcopj)
        · exact Or.inr d1
      · obtain ⟨k', j', hj, hcop', hd'⟩ := hrest pe' hmem
        have hq := hfac pe' (by simp [hmem])
        have hne : pe.1 ≠ pe'.1 := hhead pe' hmem
        refine ⟨k', (pe.1 : ℤ) ^ k * j', by rw [hj]; ring, ?_, hd'⟩
        rw [natAbs_pow_mul]
        exact Nat.Coprime.mul_left (Nat.Coprime.pow_left k ((Nat.coprime_primes hp hq).mpr hne)) hcop'

theorem prime_dvd_prodOf (fac : List (Nat × Nat)) (hfac : ∀ pe ∈ fac, pe.1.Prime) (l : ℕ) (hl : l.Prime)
    (h : l ∣ NTV.Trial.prodOf fac) : ∃ pe ∈ fac, pe.1 = l := by
  by_contra hno
  have h0 := NTV.Trial.factorization_prodOf_not_key fac hfac l fun pe hpe e => hno ⟨pe, hpe, e⟩
  have := (hl.dvd_iff_one_le_factorization (NTV.Trial.prodOf_ne_zero fac hfac)).mp h
  omega

/-- **maximality of the result** (partial: at the primes whose square divides the discriminant of the result):
`find_integral_basis` returns an order that is `p`-maximal at every prime `p` with `p² ∣ disc(O)` -/
theorem findIntegralBasis_max (f : List Int) (hf : Canon f) (O : Order)
    (H : findIntegralBasis f = .ok O) (p : ℕ) (hp : p.Prime) (dO : ℤ)
    (hdO : discriminantOrd O f = .ok dO) (hdvd : (p : ℤ) ^ 2 ∣ dO) : PMaxK f (degU f) O p := by
  obtain ⟨S, dS, hS, hdS, hd0, H⟩ := findIntegralBasis_inv f O H
  have g := start_goodOrder f hf S dS hS hdS hd0
  have hfacc := NTV.Trial.factorize_correct dS.natAbs (by omega)
  have hprimes : ∀ pe ∈ NTV.Trial.factorize dS.natAbs, pe.1.Prime := fun pe hpe => (hfacc.2.1 pe hpe).1
  have hpw : (NTV.Trial.factorize dS.natAbs).Pairwise (fun a b => a.1 ≠ b.1) :=
    hfacc.2.2.imp (fun h => Nat.ne_of_lt h)
  obtain ⟨i, ext, gO, _, hall⟩ := fold_max _ hprimes hpw S O g H
  have hdisc := disc_of_ext' g.setup.rect ext f dO hdO
  rw [hdS] at hdisc
  injection hdisc with hdisc
  -- p divides dS, hence is one of the primes of the factorisation
  have hpS : p ∣ dS.natAbs := by
    have : (p : ℤ) ∣ i * i * dO := Dvd.dvd.mul_left ((dvd_pow_self (p : ℤ) two_ne_zero).trans hdvd) (i * i)
    exact Int.natCast_dvd.mp (hdisc ▸ this)
  rw [hfacc.1] at hpS
  obtain ⟨pe, hpe, rfl⟩ := prime_dvd_prodOf _ hprimes p hp hpS
  obtain ⟨k, i', hi, hcop, hd⟩ := hall pe hpe
  rcases hd with hd | hd
  · exact hd
  · exfalso
    -- p^(2k+2) divides dS, whose exponent of p is pe.2
    have h1 : (pe.1 : ℤ) ^ (2 * k + 2) ∣ dS := by
      obtain ⟨c, hc⟩ := hdvd
      rw [hdisc, hi, hc]
      exact ⟨i' * i' * c, by ring⟩
    have h2 : pe.1 ^ (2 * k + 2) ∣ dS.natAbs := by
      have := Int.natAbs_dvd_natAbs.mpr h1
      rwa [Int.natAbs_pow, Int.natAbs_natCast] at this
    rw [hfacc.1] at h2
    have h3 := (hp.pow_dvd_iff_le_factorization (NTV.Trial.prodOf_ne_zero _ hprimes)).mp h2
    rw [NTV.Trial.factorization_prodOf_key _ ⟨hfacc.2.1, hfacc.2.2⟩ pe.1 pe.2 hpe] at h3
    omega

/-- **the result of `find_integral_basis` is a ring**: a good order (non-singular, stored, containing 1, closed
under multiplication) -/
theorem findIntegralBasis_good (f : List Int) (hf : Canon f) (O : Order)
    (H : findIntegralBasis f = .ok O) : GoodOrder f (degU f) O := by
  obtain ⟨S, dS, hS, hdS, hd0, H⟩ := findIntegralBasis_inv f O H
  have hfacc := NTV.Trial.factorize_correct dS.natAbs (by omega)
  obtain ⟨_, _, gO, _⟩ := fold_max _ (fun pe hpe => (hfacc.2.1 pe hpe).1) (hfacc.2.2.imp fun h => Nat.ne_of_lt h)
    S O (start_goodOrder f hf S dS hS hdS hd0) H
  exact gO

end NTV.Round2
