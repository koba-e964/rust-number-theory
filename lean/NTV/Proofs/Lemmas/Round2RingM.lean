import NTV.Proofs.Lemmas.Round2RingL
import NTV.Proofs.Lemmas.InvDiffD
import NTV.Proofs.C05
/-! Round 2, the primes whose square does not divide the discriminant: the discriminant
`disc(f)·det²/lc^(2n−2)` of a closed lattice is an integer (the determinant of the integral trace form,
`NTV.Ord.Setup.det_traceMatrix`), hence `Order::discriminant` succeeds on it (`discriminantOrd_closed`) and an order is `p`-maximal as soon as
`p² ∤ disc`; together with Round2RingL: the result of `find_integral_basis` is `p`-maximal at every prime. -/
open Matrix Finset Polynomial
namespace NTV.Round2
open NTV.Ord NTV.PolyG NTV.R2Abs
open NTV.RowOps (toM Rect ent)

variable {f : List Int} {B : QMat} {n : Nat}

theorem _root_.NTV.Ord.Setup.coefAt_degU (S : Setup f B n) : coefAt f (degU f) = lc f := by
  have := NTV.PolyG.lc_eq_getD f S.ne_nil
  rw [S.len, Nat.add_sub_cancel] at this
  rw [S.degU_eq]
  unfold coefAt
  rw [this]

/-- **the discriminant of a closed lattice is an integer**: `disc(f)·det(B)²/lc^(2n−2) = det(trace form)` -/
theorem discValue_int (S : Setup f B n) (hcl : Closed f B n) :
    ∃ z : ℤ, discValue (toPoly f).discr f (toM n n B).det = (z : ℚ) := by
  obtain ⟨ht, _⟩ := S.ctx_of_closed hcl
  refine ⟨(NTV.InvDiff.traceMatrix (tableOf f B n) n).det, ?_⟩
  unfold discValue
  rw [S.coefAt_degU, S.degU_eq, Int.cast_pow, div_eq_iff (pow_ne_zero _ S.lc_ne_zero), S.det_traceMatrix _ ht]
  ring

theorem discValue_mul (d : ℤ) (f : List Int) (a x : ℚ) :
    discValue d f (a * x) = a ^ 2 * discValue d f x := by
  unfold discValue
  ring

/-- **an order is p-maximal as soon as p² does not divide its discriminant** -/
theorem pmaximal_of_not_sq_dvd {O : QMat} (g : GoodOrder f n O) (p : ℕ) (hp : p.Prime)
    (dO : ℤ) (hdO : discriminantOrd O f = .ok dO) (hnd : ¬ (p : ℤ) ^ 2 ∣ dO) : PMaximal f n O p := by
  intro S rS dS cS ⟨A, hA⟩ ⟨r, Bm, hB⟩
  have SS : Setup f S n := ⟨g.setup.canon, g.setup.len, g.setup.pos, rS, dS⟩
  obtain ⟨d, fl, hdisc, _, _, hval⟩ := (discriminantOrd_ok_iff O n g.setup.rect f dO).mp hdO
  have hd : d = (toPoly f).discr := by
    have := NTV.C05.discriminant_is_discr f g.setup.canon g.setup.two_le
    rw [this] at hdisc
    injection hdisc with h1
    injection h1 with h2 _
    exact h2.symm
  subst hd
  obtain ⟨zS, hzS⟩ := discValue_int SS cS
  have hdet : (toM n n O).det = ((A.det : ℤ) : ℚ) * (toM n n S).det := by
    rw [hA, Matrix.det_mul, det_map_intCast]
  have hdO' : dO = A.det ^ 2 * zS := by
    have : (dO : ℚ) = ((A.det : ℤ) : ℚ) ^ 2 * (zS : ℚ) := by
      rw [← hval, hdet, discValue_mul, hzS]
    exact_mod_cast this
  have hdetBA : Bm.det * A.det = (p : ℤ) ^ (r * n) := by
    have := congrArg Matrix.det hB
    rw [Matrix.det_smul, Fintype.card_fin, Matrix.det_mul, det_map_intCast, hdet, ← mul_assoc, ← pow_mul] at this
    exact_mod_cast (mul_right_cancel₀ dS this).symm
  have hdvd : A.det.natAbs ∣ p ^ (r * n) := by
    have := Int.natAbs_dvd_natAbs.mpr (Dvd.intro_left _ hdetBA)
    rwa [Int.natAbs_pow, Int.natAbs_natCast] at this
  obtain ⟨j, _, hj⟩ := (Nat.dvd_prime_pow hp).mp hdvd
  rcases Nat.eq_zero_or_pos j with rfl | hjpos
  · -- A is unimodular
    have hU : IsUnit A.det := Int.isUnit_iff_natAbs_eq.mpr (hj.trans (pow_zero p))
    exact ⟨A⁻¹, eq_inv_mul_of_isUnit_det A hU hA⟩
  · -- p ∣ det A, hence p² ∣ dO
    have hpA : (p : ℤ) ∣ A.det := Int.natCast_dvd.mpr (hj ▸ dvd_pow_self p hjpos.ne')
    exact absurd (hdO' ▸ Dvd.dvd.mul_right (pow_dvd_pow_of_dvd hpA 2) zS) hnd

/-- **`Order::discriminant` never panics on an order**: for a non-singular basis closed under multiplication the
value `disc(f)·det²/lc^(2n−2)` is an integer (the determinant of the trace form), so the integrality assertion
passes -/
theorem discriminantOrd_closed {B : QMat} (S : Setup f B n) (hcl : Closed f B n) :
    ∃ d : ℤ, discriminantOrd B f = .ok d := by
  obtain ⟨z, hz⟩ := discValue_int S hcl
  refine ⟨z, (discriminantOrd_ok_iff B n S.rect f z).mpr ⟨(toPoly f).discr, true,
    NTV.C05.discriminant_is_discr f S.canon S.two_le, ?_, ?_, hz⟩⟩
  · rw [S.degU_eq]
    exact Nat.pos_iff_ne_zero.mp S.pos
  · rw [S.coefAt_degU]
    exact_mod_cast pow_ne_zero _ (NTV.PolyG.lc_ne_zero f S.ne_nil S.canon)

theorem findIntegralBasis_pmaximal_all (f : List Int) (hf : Canon f) (O : Order)
    (H : findIntegralBasis f = .ok O) (p : ℕ) (hp : p.Prime) : PMaximal f (degU f) O p := by
  have g := findIntegralBasis_good f hf O H
  obtain ⟨dO, hdO⟩ := discriminantOrd_closed g.setup g.closed
  by_cases hdvd : (p : ℤ) ^ 2 ∣ dO
  · exact (findIntegralBasis_max f hf O H p hp dO hdO hdvd).pmaximal g
  · exact pmaximal_of_not_sq_dvd g p hp dO hdO hdvd

end NTV.Round2
