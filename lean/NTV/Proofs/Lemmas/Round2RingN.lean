import NTV.Proofs.Lemmas.Round2RingM
/-! Round 2: from `p`-maximality at every prime to maximality. The list-level notion `PMaximal` implies the
abstract one `PMaxK` (every subring `S ⊇ O` with `p^r S ⊆ O` is a lattice with a basis: Hermite normal form of a
finite generating set); an order that is `p`-maximal at every prime is contained in no strictly larger order. -/
open Matrix Finset Polynomial
namespace NTV.R2Abs

variable {K : Type*} [CommRing K]

theorem le_of_pmax_all (O : Subring K) (h : ∀ p : ℕ, p.Prime → PMax O p) :
    ∀ m : ℕ, 1 ≤ m → ∀ S : Subring K, O ≤ S → (∀ x ∈ S, (m : K) * x ∈ O) → S ≤ O := by
  intro m
  induction m using induction_on_primes with
  | zero => exact fun hm => absurd hm (by decide)
  | one =>
    intro _ S _ hS x hx
    have := hS x hx
    rwa [Nat.cast_one, one_mul] at this
  | prime_mul p a hp ih =>
    intro hm S hOS hS
    -- `p·(O + a·S) ⊆ O`, hence `a·S ⊆ O` by `p`-maximality
    have hS' : addSmul O S hOS a ≤ O :=
      h p hp _ (le_addSmul O S hOS a) ⟨1, mul_addSmul_mem O S hOS a (O.pow_mem (natCast_mem O p) 1) fun s hs => by
        rw [pow_one, ← mul_assoc, ← Nat.cast_mul]
        exact hS s hs⟩
    exact ih (Nat.pos_of_ne_zero fun h0 => by rw [h0, mul_zero] at hm; exact absurd hm (by decide)) S hOS
      fun x hx => hS' (smul_mem_addSmul O S hOS a hx)

end NTV.R2Abs

namespace NTV.Round2
open NTV.Ord NTV.PolyG NTV.R2Abs
open NTV.TableAbs (Ctx psi)
open NTV.RowOps (toM Rect ent)
open NTV.Hnf (InLattice)

variable {f : List Int} {n : Nat}

/-- an integer matrix as a list matrix -/
def imatOfFn {m : ℕ} (s : Fin m → Fin n → ℤ) : IMat := List.ofFn fun i => List.ofFn fun j => s i j

theorem imatOfFn_rect {m : ℕ} (s : Fin m → Fin n → ℤ) : NTV.Hnf.Rect m n (imatOfFn s) := by
  refine ⟨by simp [imatOfFn], ?_⟩
  intro r hr
  simp only [imatOfFn, List.mem_ofFn] at hr
  obtain ⟨i, rfl⟩ := hr
  simp

theorem imatOfFn_toM {m : ℕ} (s : Fin m → Fin n → ℤ) : NTV.Hnf.toM m n (imatOfFn s) = Matrix.of s := by
  ext i j
  simp [NTV.Hnf.toM, NTV.Hnf.ent, imatOfFn, List.getD_eq_getElem?_getD, i.isLt, j.isLt]

/-- the ℤ-span of finitely many vectors of `ℤⁿ` that contains `d·ℤⁿ` (`d ≠ 0`) has a square basis: the Hermite
normal form of the generators -/
theorem exists_square_basis (hn : 0 < n) {m : ℕ} (s : Fin m → Fin n → ℤ) (d : ℤ) (hd : d ≠ 0)
    (hfull : ∀ v : Fin n → ℤ, ∃ a : Fin m → ℤ, ∑ j, a j • s j = d • v) :
    ∃ H : Matrix (Fin n) (Fin n) ℤ, H.det ≠ 0 ∧
      ∀ v, (∃ a : Fin m → ℤ, ∑ j, a j • s j = v) ↔ ∃ z : Fin n → ℤ, z ᵥ* H = v := by
  classical
  have hlatX : ∀ v : Fin n → ℤ, InLattice m n (imatOfFn s) v ↔ ∃ a : Fin m → ℤ, ∑ j, a j • s j = v := by
    intro v
    unfold InLattice
    rw [imatOfFn_toM]
    exact exists_congr fun c => by rw [Matrix.vecMul_eq_sum]; rfl
  have hm : 0 < m := pos_of_inLattice_smul_single hn hd ((hlatX _).mpr (hfull _))
  have hdetF : (d • (1 : Matrix (Fin n) (Fin n) ℤ)).det ≠ 0 := by
    rw [Matrix.det_smul, Matrix.det_one, mul_one]
    exact pow_ne_zero _ hd
  obtain ⟨H, _, _, dH, hlatH⟩ := NTV.Hnf.hnfNew_full (imatOfFn s) m n (imatOfFn_rect s) hm hn _ hdetF
    (fun i => (hlatX _).mpr (hfull _))
  exact ⟨NTV.Hnf.toM n n H, dH, fun v => ((hlatH v).trans (hlatX v)).symm⟩

theorem exists_basis_of_over {K : Type*} [CommRing K] {q : ℚ →+* K} {Ω : Fin n → K}
    {T : Fin n → Fin n → Fin n → ℤ} (hn : 0 < n) (h : Ctx q Ω T) (one : ∃ e : Fin n → ℤ, el q Ω e = 1)
    (S : Subring K) (hOS : Olat h one ≤ S) (d : ℕ) (hd : d ≠ 0) (hdS : ∀ x ∈ S, (d : K) * x ∈ Olat h one) :
    ∃ H : Matrix (Fin n) (Fin n) ℤ, H.det ≠ 0 ∧
      ∀ x, x ∈ S ↔ ∃ z : Fin n → ℤ, (d : K) * x = el q Ω (z ᵥ* H) := by
  have hu := inv_mul_natCast q d hd
  -- generators of the coordinates of `d·S`
  obtain ⟨m, s, -, hs⟩ := exists_generators q Ω {x | q ((d : ℚ)⁻¹) * x ∈ S}
    (by show q ((d : ℚ)⁻¹) * 0 ∈ S; rw [mul_zero]; exact S.zero_mem)
    (fun x hx y hy => by show q ((d : ℚ)⁻¹) * (x + y) ∈ S; rw [mul_add]; exact S.add_mem hx hy)
    (fun z x hx => by
      show q ((d : ℚ)⁻¹) * ((z : K) * x) ∈ S
      rw [mul_left_comm]
      exact S.mul_mem (intCast_mem S z) hx)
  have hfull : ∀ v : Fin n → ℤ, ∃ a : Fin m → ℤ, ∑ j, a j • s j = (d : ℤ) • v := fun v => (hs _).mp (by
    show q ((d : ℚ)⁻¹) * el q Ω ((d : ℤ) • v) ∈ S
    rw [el_zsmul, Int.cast_natCast, ← mul_assoc, hu, one_mul]
    exact hOS (el_mem_Olat h one v))
  obtain ⟨H, dH, hH⟩ := exists_square_basis hn s d (Nat.cast_ne_zero.mpr hd) hfull
  refine ⟨H, dH, fun x => ⟨fun hx => ?_, ?_⟩⟩
  · obtain ⟨c, hc⟩ := hdS x hx
    obtain ⟨z, hz⟩ := (hH c).mp ((hs c).mp (by
      show q ((d : ℚ)⁻¹) * el q Ω c ∈ S
      rwa [hc, ← mul_assoc, hu, one_mul]))
    exact ⟨z, by rw [hz, hc]⟩
  · rintro ⟨z, hz⟩
    have h2 : q ((d : ℚ)⁻¹) * el q Ω (z ᵥ* H) ∈ S := (hs _).mpr ((hH _).mpr ⟨z, rfl⟩)
    rwa [← hz, ← mul_assoc, hu, one_mul] at h2

/-- **the list-level notion of p-maximality implies the abstract one**: every subring `S ⊇ O` of `K` with
`p^r·S ⊆ O` is the ℤ-span of a stored-style basis (Hermite normal form of a finite generating set) -/
theorem PMaximal.pmaxK {O : QMat} {p : ℕ} (hp : p ≠ 0) (g : GoodOrder f n O) (h : PMaximal f n O p) :
    PMaxK f n O p := by
  intro hC one S hOS ⟨r, hr⟩
  have hd : p ^ r ≠ 0 := pow_ne_zero _ hp
  have hdq : ((p ^ r : ℕ) : ℚ) ≠ 0 := Nat.cast_ne_zero.mpr hd
  obtain ⟨H, dH, hH⟩ := exists_basis_of_over g.setup.pos hC one S hOS (p ^ r) hd
    (fun x hx => by rw [Nat.cast_pow]; exact hr x hx)
  -- the basis `p^(-r)·H·O` of `S`
  have rS := qmatOfFn_rect ((((p ^ r : ℕ) : ℚ))⁻¹ • (H.map (Int.castRingHom ℚ) * toM n n O))
  have hSM : ((p ^ r : ℕ) : ℚ) • toM n n (qmatOfFn ((((p ^ r : ℕ) : ℚ))⁻¹ •
      (H.map (Int.castRingHom ℚ) * toM n n O))) = H.map (Int.castRingHom ℚ) * toM n n O := by
    rw [qmatOfFn_toM, smul_smul, mul_inv_cancel₀ hdq, one_smul]
  generalize qmatOfFn ((((p ^ r : ℕ) : ℚ))⁻¹ • (H.map (Int.castRingHom ℚ) * toM n n O)) = SM at rS hSM
  have dS : (toM n n SM).det ≠ 0 := by
    intro h0
    have := congrArg Matrix.det hSM
    rw [Matrix.det_smul, h0, mul_zero, Matrix.det_mul, det_map_intCast] at this
    exact mul_ne_zero (Int.cast_ne_zero.mpr dH) g.setup.det this.symm
  have SS : Setup f SM n := ⟨g.setup.canon, g.setup.len, g.setup.pos, rS, dS⟩
  have hspan : ∀ x, (∃ z : Fin n → ℤ, x = el (qK f) (omegaK f SM n) z) ↔ x ∈ S := by
    intro x
    have e := el_scaled (f := f) SM O rS g.setup.rect _ H hSM
    rw [map_natCast] at e
    rw [hH x]
    constructor
    · rintro ⟨z, rfl⟩
      exact ⟨z, e z⟩
    · rintro ⟨z, hz⟩
      exact ⟨z, p_cancel (qK f) (p ^ r) hd _ _ (hz.trans (e z).symm)⟩
  have hA := matrix_of_le SS g.setup.rect fun i =>
    ((hspan _).mpr (hOS (Omega_mem hC one i))).imp fun _ => Eq.symm
  obtain ⟨R, hR⟩ := h SM rS dS (closed_of_span SS S hspan) hA ⟨r, H, by rw [← Nat.cast_pow]; exact hSM⟩
  intro x hx
  obtain ⟨z, rfl⟩ := (hspan x).mpr hx
  exact ⟨z ᵥ* R, (el_of_mul SM O rS g.setup.rect R hR z).symm⟩

/-- **maximality**: an order that is `p`-maximal at every prime contains every order that contains it -/
theorem maximal_of_pmaximal_all {O : QMat} (g : GoodOrder f n O)
    (h : ∀ p : ℕ, p.Prime → PMaximal f n O p) (S : QMat) (rS : Rect n n S) (dS : (toM n n S).det ≠ 0)
    (cS : Closed f S n) (hA : ∃ A : Matrix (Fin n) (Fin n) ℤ, toM n n O = A.map (Int.castRingHom ℚ) * toM n n S) :
    ∃ R : Matrix (Fin n) (Fin n) ℤ, toM n n S = R.map (Int.castRingHom ℚ) * toM n n O := by
  classical
  obtain ⟨A, hA⟩ := hA
  have SS : Setup f S n := ⟨g.setup.canon, g.setup.len, g.setup.pos, rS, dS⟩
  obtain ⟨_, hCO⟩ := g.setup.ctx_of_closed g.closed
  obtain ⟨_, hCS⟩ := SS.ctx_of_closed cS
  have oneO := g.one.el_one g.setup
  have oneS := (g.one.of_sub ⟨A, hA⟩).el_one SS
  have hdetA : A.det ≠ 0 := by
    intro h0
    apply g.setup.det
    rw [hA, Matrix.det_mul, det_map_intCast, h0, Int.cast_zero, zero_mul]
  suffices hSO : Olat hCS oneS ≤ Olat hCO oneO from
    matrix_of_le g.setup rS fun i => hSO (Omega_mem hCS oneS i)
  refine le_of_pmax_all (Olat hCO oneO) (fun p hp => (h p hp).pmaxK hp.ne_zero g hCO oneO) A.det.natAbs
    (Nat.one_le_iff_ne_zero.mpr (Int.natAbs_ne_zero.mpr hdetA)) (Olat hCS oneS)
    (Olat_le_of_mul g.setup.rect rS A hA hCO oneO hCS oneS) ?_
  -- `|det A|·S ⊆ O` by the adjugate; `|det A| = sign(det A)·det A`
  rintro _ ⟨z, rfl⟩
  have h1 := el_scaled (f := f) S O rS g.setup.rect _ A.adjugate (smul_eq_adjugate_mul A hA) z
  rw [map_intCast] at h1
  rw [← Int.cast_natCast, ← Int.sign_mul_self_eq_natAbs, Int.cast_mul, mul_assoc, h1]
  exact (Olat hCO oneO).mul_mem (intCast_mem _ _) (el_mem_Olat hCO oneO _)

end NTV.Round2
