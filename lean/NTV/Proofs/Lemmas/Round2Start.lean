import NTV.Proofs.Lemmas.Round2RingK
import NTV.Proofs.Lemmas.Round2RingB
import NTV.Proofs.Lemmas.Round2ProofsG
/-! The starting order `Z<1, a_nθ, a_nθ²+a_{n-1}θ, …>` of `non_monic_initial_order` is a ring
(closed under multiplication). -/
open Polynomial Matrix
namespace NTV.Round2
open NTV.Ord NTV.PolyG
open NTV.RowOps (toM Rect ent)
open NTV.Alg (modulus cls cls_eq_iff)
open NTV.TableAbs (psi)

section Abstract
variable {K : Type*} [CommRing K]

theorem horner_mul_mem (M : Submodule ℤ K) (θ : K) (c : ℕ → K) (e : ℕ → ℤ) (n : ℕ) (e0 : ℤ)
    (h0 : c 0 = (e0 : K)) (hrec : ∀ i < n, c (i + 1) = θ * c i + (e i : K))
    (hn : c n = 0) (hM : ∀ i ≤ n, c i ∈ M) :
    ∀ i ≤ n, ∀ j ≤ n, c i * c j ∈ M := by
  intro i
  induction i with
  | zero =>
    intro _ j hj
    rw [h0, ← zsmul_eq_mul]
    exact M.smul_mem _ (hM j hj)
  | succ i ih =>
    intro hi j hj
    rcases Nat.eq_or_lt_of_le hj with rfl | hj'
    · rw [hn, mul_zero]; exact M.zero_mem
    · have e1 : c (i + 1) * c j = c i * c (j + 1) - (e j : K) * c i + (e i : K) * c j := by
        rw [hrec i (by omega), hrec j hj']; ring
      rw [e1]
      refine M.add_mem (M.sub_mem (ih (by omega) (j + 1) (by omega)) ?_) ?_
      · rw [← zsmul_eq_mul]; exact M.smul_mem _ (hM i (by omega))
      · rw [← zsmul_eq_mul]; exact M.smul_mem _ (hM j hj)

theorem sub_int_mul_mem (M : Submodule ℤ K) (hint : ∀ z : ℤ, (z : K) ∈ M) {x y : K} (hx : x ∈ M) (hy : y ∈ M)
    (hxy : x * y ∈ M) (a b : ℤ) : (x - (a : K)) * (y - (b : K)) ∈ M := by
  have e : (x - (a : K)) * (y - (b : K)) = x * y - a • y - b • x + ((a * b : ℤ) : K) := by
    rw [zsmul_eq_mul, zsmul_eq_mul]; push_cast; ring
  rw [e]
  exact M.add_mem (M.sub_mem (M.sub_mem hxy (M.smul_mem _ hy)) (M.smul_mem _ hx)) (hint _)

theorem span_mul_mem {n : ℕ} (Ω : Fin n → K)
    (h : ∀ i j, Ω i * Ω j ∈ Submodule.span ℤ (Set.range Ω)) (x y : K)
    (hx : x ∈ Submodule.span ℤ (Set.range Ω)) (hy : y ∈ Submodule.span ℤ (Set.range Ω)) :
    x * y ∈ Submodule.span ℤ (Set.range Ω) := by
  obtain ⟨u, rfl⟩ := (Submodule.mem_span_range_iff_exists_fun ℤ).mp hx
  obtain ⟨v, rfl⟩ := (Submodule.mem_span_range_iff_exists_fun ℤ).mp hy
  rw [Finset.sum_mul_sum]
  refine Submodule.sum_mem _ (fun k _ => Submodule.sum_mem _ (fun l _ => ?_))
  rw [smul_mul_smul_comm]
  exact Submodule.smul_mem _ _ (h k l)

theorem mem_span_iff_el {n : ℕ} (q : ℚ →+* K) (Ω : Fin n → K) (x : K) :
    x ∈ Submodule.span ℤ (Set.range Ω) ↔ ∃ z : Fin n → ℤ, NTV.R2Abs.el q Ω z = x := by
  have e : ∀ z : Fin n → ℤ, NTV.R2Abs.el q Ω z = ∑ i, z i • Ω i := fun z => by
    simp only [NTV.R2Abs.el, psi, NTV.TableAbs.castV, zsmul_eq_mul, map_intCast]
  rw [Submodule.mem_span_range_iff_exists_fun]
  simp only [e]

end Abstract

/-- `c_i = a_n X^i + a_{n-1} X^{i-1} + … + a_{n-i}` -/
noncomputable def hornerP (f : List Int) : ℕ → ℚ[X]
  | 0 => C ((coefAt f (degU f) : ℤ) : ℚ)
  | i + 1 => X * hornerP f i + C ((coefAt f (degU f - i - 1) : ℤ) : ℚ)

theorem coeff_hornerP (f : List Int) (i j : ℕ) :
    (hornerP f i).coeff j = if j ≤ i then ((coefAt f (degU f - (i - j)) : ℤ) : ℚ) else 0 := by
  induction i generalizing j with
  | zero =>
    simp only [hornerP, coeff_C]
    by_cases hj : j = 0
    · subst hj; simp
    · simp [hj]
  | succ i ih =>
    simp only [hornerP, coeff_add, coeff_C]
    cases j with
    | zero =>
      rw [mul_coeff_zero, coeff_X_zero, zero_mul, zero_add, if_pos rfl, if_pos (Nat.zero_le _), Nat.sub_zero,
        Nat.sub_sub]
    | succ j =>
      rw [coeff_X_mul, ih, if_neg (Nat.succ_ne_zero j), add_zero, Nat.add_sub_add_right]
      simp only [Nat.add_le_add_iff_right]

theorem coeff_startRow (f : List Int) (i : ℕ) (hi : i < degU f) (c : ℕ) :
    (toPoly ((startBasis f).getD i [])).coeff c =
      if c < degU f then
        (if i = 0 then (if c = 0 then 1 else 0)
         else if 1 ≤ c ∧ c ≤ i then ((coefAt f (degU f - (i - c)) : ℤ) : ℚ) else 0)
      else 0 := by
  rw [coeff_toPoly]
  by_cases hc : c < degU f
  · rw [startBasis_getD f hi hc, if_pos hc]
  · rw [if_neg hc]
    exact getD_of_length_le _ c (by rw [(startBasis_rect f).row_length i hi]; omega)

theorem toPoly_startRow_zero (f : List Int) (hn : 0 < degU f) :
    toPoly ((startBasis f).getD 0 []) = 1 := by
  ext c
  rw [coeff_startRow f 0 hn, coeff_one]
  by_cases hc : c = 0
  · subst hc; simp [hn]
  · simp [hc]

theorem toPoly_startRow_succ (f : List Int) (i : ℕ) (h0 : 0 < i) (hi : i < degU f) :
    toPoly ((startBasis f).getD i []) = hornerP f i - C ((coefAt f (degU f - i) : ℤ) : ℚ) := by
  ext c
  rw [coeff_startRow f i hi, coeff_sub, coeff_hornerP, coeff_C]
  have hi0 : i ≠ 0 := by omega
  simp only [hi0, if_false]
  by_cases hc : c = 0
  · subst hc; simp
  · by_cases hci : c ≤ i
    · have h1 : 1 ≤ c := by omega
      have h2 : c < degU f := by omega
      simp [hc, hci, h1, h2]
    · simp [hc, hci]

theorem hornerP_top (f : List Int) (hl : f.length = degU f + 1) : hornerP f (degU f) = modulus f := by
  ext c
  rw [coeff_hornerP]
  unfold modulus
  rw [coeff_toPoly]
  by_cases hc : c ≤ degU f
  · have : degU f - (degU f - c) = c := by omega
    simp [hc, this, coefAt, NTV.Alg.intsToRats, List.getD_eq_getElem?_getD]
    have hlt : c < f.length := by omega
    simp [hlt]
  · have hlt : f.length ≤ c := by omega
    simp [hc, NTV.Alg.intsToRats, List.getD_eq_getElem?_getD, hlt]

/-! ### the classes of the rows under a ring map `φ` that kills `f` (in the end: `ℚ[X] → ℚ[X]/(f)`) -/
section Classes
variable {K : Type*} [CommRing K] (φ : ℚ[X] →+* K)

theorem map_C_intCast (z : ℤ) : φ (C ((z : ℤ) : ℚ)) = (z : K) := by
  rw [show (C ((z : ℤ) : ℚ) : ℚ[X]) = ((z : ℤ) : ℚ[X]) from map_intCast C z, map_intCast]

/-- products of the generators of the start module lie in it: row 0 is `1`, row `k ≥ 1` is the Horner partial sum
`c_k` minus an integer, and `c_0 ∈ ℤ`, `c_n = f ↦ 0`, so all `c_k` lie in the module and `horner_mul_mem` applies -/
theorem start_gen_mul_mem (f : List Int) (hl : f.length = degU f + 1) (hn : 0 < degU f)
    (hφ : φ (modulus f) = 0) (i j : Fin (degU f)) :
    φ (toPoly ((startBasis f).getD i [])) * φ (toPoly ((startBasis f).getD j [])) ∈
      Submodule.span ℤ (Set.range fun k : Fin (degU f) => φ (toPoly ((startBasis f).getD k []))) := by
  set M := Submodule.span ℤ (Set.range fun k : Fin (degU f) => φ (toPoly ((startBasis f).getD k [])))
  have hgen : ∀ k : Fin (degU f), φ (toPoly ((startBasis f).getD k [])) ∈ M :=
    fun k => Submodule.subset_span ⟨k, rfl⟩
  have hone : (1 : K) ∈ M := by
    have := hgen ⟨0, hn⟩
    rwa [toPoly_startRow_zero f hn, φ.map_one] at this
  have hint : ∀ z : ℤ, (z : K) ∈ M := fun z => by
    have := M.smul_mem z hone
    rwa [zsmul_eq_mul, mul_one] at this
  have hrow : ∀ k : Fin (degU f), 0 < k.val →
      φ (toPoly ((startBasis f).getD k [])) = φ (hornerP f k) - ((coefAt f (degU f - k) : ℤ) : K) :=
    fun k hk => by rw [toPoly_startRow_succ f k hk k.2, φ.map_sub, map_C_intCast]
  have hc : ∀ k ≤ degU f, φ (hornerP f k) ∈ M := by
    intro k hk
    rcases Nat.eq_or_lt_of_le hk with rfl | hk'
    · rw [hornerP_top f hl, hφ]; exact M.zero_mem
    · rcases Nat.eq_zero_or_pos k with rfl | h0
      · rw [hornerP, map_C_intCast]; exact hint _
      · have := M.add_mem (hgen ⟨k, hk'⟩) (hint (coefAt f (degU f - k)))
        rwa [hrow ⟨k, hk'⟩ h0, sub_add_cancel] at this
  have hmul := horner_mul_mem M (φ X) (fun k => φ (hornerP f k)) (fun k => coefAt f (degU f - k - 1)) (degU f)
    (coefAt f (degU f)) (by rw [hornerP, map_C_intCast])
    (fun k _ => by rw [hornerP, φ.map_add, φ.map_mul, map_C_intCast]) (by rw [hornerP_top f hl, hφ]) hc
  rcases Nat.eq_zero_or_pos i.val with hi0 | hi0
  · rw [show i = ⟨0, hn⟩ from Fin.ext hi0, toPoly_startRow_zero f hn, φ.map_one, one_mul]; exact hgen j
  rcases Nat.eq_zero_or_pos j.val with hj0 | hj0
  · rw [show j = ⟨0, hn⟩ from Fin.ext hj0, toPoly_startRow_zero f hn, φ.map_one, mul_one]; exact hgen i
  rw [hrow i hi0, hrow j hj0]
  exact sub_int_mul_mem M hint (hc i i.2.le) (hc j j.2.le) (hmul i i.2.le j j.2.le) _ _

end Classes

/-- the rows of the stored starting order and the rows of the start basis are integer combinations of each other
(`start_spans`), so they span the same ℤ-module, which is closed under multiplication by `start_gen_mul_mem` -/
theorem start_closed (f : List Int) (hf : NTV.PolyG.Canon f) (S : QMat)
    (hS : nonMonicInitialOrder f = .ok S)
    (hdet : (toM (degU f) (degU f) S).det ≠ 0) : NTV.Ord.Closed f S (degU f) := by
  obtain ⟨hn, hl, _⟩ := nonMonicInitialOrder_inv f S hS
  obtain ⟨_, rS, hsp⟩ := start_spans f S hS
  obtain ⟨_, U, hU, hrel, hinv⟩ := hsp hdet
  have St : Setup f S (degU f) := ⟨hf, hl, hn, rS, hdet⟩
  apply St.closed_of_K
  intro i j
  have hmem : ∀ k, omegaK f S (degU f) k ∈
      Submodule.span ℤ (Set.range (omegaK f (startBasis f) (degU f))) := by
    intro k
    rw [omegaK_of_mul S (startBasis f) rS (startBasis_rect f) _ hrel k]
    exact (mem_span_iff_el _ _ _).mpr ⟨U k, rfl⟩
  have hφ : cls f (modulus f) = 0 := ((cls_eq_iff f (modulus f) 0).mpr (by rw [sub_zero])).trans (cls f).map_zero
  have hprod := span_mul_mem (omegaK f (startBasis f) (degU f)) (start_gen_mul_mem (cls f) f hl hn hφ) _ _
    (hmem i) (hmem j)
  obtain ⟨w, hw⟩ := (mem_span_iff_el (qK f) _ _).mp hprod
  refine ⟨w ᵥ* U⁻¹, ?_⟩
  rw [← hw, NTV.R2Abs.el, psi_vecMul (qK f) (omegaK f S (degU f)) (omegaK f (startBasis f) (degU f))
    ((U⁻¹).map (Int.castRingHom ℚ))
    (fun k => omegaK_of_mul (startBasis f) S (startBasis_rect f) rS _ hinv k)]
  exact congrArg _ (castV_vecMul w U⁻¹).symm

/-- non-vacuity: f = 2x³ + 3x² + x + 5, start order Z<1, 2θ, 2θ² + 3θ> (stored in normal form) -/
example : NTV.Ord.Closed [5, 1, 3, 2] [[1, 0, 0], [0, 2, 0], [0, 1, 2]] 3 := by
  have hS : nonMonicInitialOrder [5, 1, 3, 2] = .ok [[1, 0, 0], [0, 2, 0], [0, 1, 2]] := by decide +kernel
  have hc : NTV.PolyG.Canon ([5, 1, 3, 2] : List Int) := by intro _; simp
  refine start_closed [5, 1, 3, 2] hc _ hS ?_
  show (toM 3 3 ([[1, 0, 0], [0, 2, 0], [0, 1, 2]] : QMat)).det ≠ 0
  decide +kernel

example : nonMonicInitialOrder [2, 0, 0, 4] = .ok [[1, 0, 0], [0, 4, 0], [0, 0, 4]] := by decide +kernel

end NTV.Round2
