import NTV.Model.RowOps
import Mathlib.LinearAlgebra.Matrix.Determinant.Basic
import Mathlib.LinearAlgebra.Matrix.RowCol
/-! The generic row operations of `NTV.RowOps` on list matrices: entries of the result (`ent_*`), shape
(`Rect.*`), its Mathlib matrix (`toM_*`), determinant (`det_*`) and product with a fixed matrix (`mul_*`).
The file begins with the plain `List.getD` facts these rest on (`getD_set`, `getD_modify`, `getD_map*`,
`getD_mapIdx_of_lt`, `zipWith_eq_ofFn`), which the other list-matrix files use as well. -/
open Matrix
namespace NTV.RowOps
variable {R : Type}

theorem getD_modify {α : Type} (l : List α) (j : Nat) (f : α → α) (i : Nat) (d : α) :
    (l.modify j f).getD i d = if i = j ∧ j < l.length then f (l.getD j d) else l.getD i d := by
  simp only [List.getD_eq_getElem?_getD, List.getElem?_modify]
  by_cases h : j = i
  · subst h
    rcases Nat.lt_or_ge j l.length with hl | hl
    · simp only [List.getElem?_eq_getElem hl, hl, and_self, if_true]
      rfl
    · rw [List.getElem?_eq_none hl, if_neg (fun h => absurd h.2 (Nat.not_lt.mpr hl))]
      rfl
  · rw [if_neg (fun e => h e.1.symm)]
    simp only [h, if_false]
    cases l[i]? <;> rfl

theorem getD_set {α : Type} (l : List α) (i : Nat) (x : α) (j : Nat) (d : α) :
    (l.set i x).getD j d = if j = i ∧ i < l.length then x else l.getD j d := by
  simp only [List.getD_eq_getElem?_getD, List.getElem?_set]
  by_cases h : i = j
  · subst h
    by_cases hl : i < l.length
    · simp only [hl, and_self, if_true]; rfl
    · rw [if_pos rfl, if_neg hl, if_neg (fun h => hl h.2), List.getElem?_eq_none (Nat.le_of_not_gt hl)]
  · rw [if_neg h, if_neg (fun e => h e.1.symm)]

theorem getD_mapIdx_of_lt {α β : Type} (l : List α) (g : Nat → α → β) (i : Nat) (hi : i < l.length) (d : α) (d' : β) :
    (l.mapIdx g).getD i d' = g i (l.getD i d) := by
  rw [List.getD_eq_getElem?_getD, List.getD_eq_getElem?_getD, List.getElem?_mapIdx,
    List.getElem?_eq_getElem hi]
  rfl

theorem getD_map_of_lt {α β : Type} (f : α → β) (l : List α) (i : Nat) (h : i < l.length) (d : β) (d' : α) :
    (l.map f).getD i d = f (l.getD i d') := by
  rw [List.getD_eq_getElem?_getD, List.getD_eq_getElem?_getD, List.getElem?_map, List.getElem?_eq_getElem h]
  rfl

theorem zipWith_eq_ofFn {α β γ : Type} (f : α → β → γ) (l1 : List α) (l2 : List β) (n : Nat) (d1 : α) (d2 : β)
    (h1 : l1.length = n) (h2 : l2.length = n) :
    List.zipWith f l1 l2 = List.ofFn (fun i : Fin n => f (l1.getD i d1) (l2.getD i d2)) := by
  apply List.ext_getElem
  · rw [List.length_zipWith, h1, h2, Nat.min_self, List.length_ofFn]
  · intro i hi1 hi2
    rw [List.getElem_zipWith, List.getElem_ofFn, List.getElem_eq_getD d1, List.getElem_eq_getD d2]

theorem ent_getElem [Zero R] (a : List (List R)) (i j : Nat) (hi : i < a.length) (hj : j < a[i].length) :
    ent a i j = a[i][j] := by
  have h : a.getD i [] = a[i] := by
    rw [List.getD_eq_getElem?_getD, List.getElem?_eq_getElem hi, Option.getD_some]
  unfold ent
  rw [h, List.getD_eq_getElem?_getD, List.getElem?_eq_getElem hj, Option.getD_some]

/-- no bound is needed when the default is mapped along -/
theorem getD_map_default {α β : Type} (f : α → β) (l : List α) (i : Nat) (d : α) :
    (l.map f).getD i (f d) = f (l.getD i d) := by
  rw [List.getD_eq_getElem?_getD, List.getD_eq_getElem?_getD, List.getElem?_map]
  cases l[i]? with
  | none => rfl
  | some _ => rfl

theorem ent_map_map {S : Type} [Zero R] [Zero S] (f : R → S) (hf : f 0 = 0) (a : List (List R)) (i j : Nat) :
    ent (a.map (fun r => r.map f)) i j = f (ent a i j) := by
  have h1 : (a.map (fun r => r.map f)).getD i [] = (a.getD i []).map f := getD_map_default (List.map f) a i []
  have h2 := getD_map_default f (a.getD i []) j 0
  rw [hf] at h2
  unfold ent
  rw [h1, h2]

def Rect (n m : Nat) (a : List (List R)) : Prop := a.length = n ∧ ∀ r ∈ a, r.length = m

theorem Rect.row_length {n m : Nat} {a : List (List R)} (hr : Rect n m a) (i : Nat) (hi : i < n) :
    (a.getD i []).length = m := by
  have hi' : i < a.length := hr.1.symm ▸ hi
  rw [List.getD_eq_getElem?_getD, List.getElem?_eq_getElem hi']
  exact hr.2 _ (List.getElem_mem hi')

theorem Rect.set {n m : Nat} {a : List (List R)} (hr : Rect n m a) (i : Nat) (x : List R) (hx : x.length = m) :
    Rect n m (a.set i x) :=
  ⟨(List.length_set ..).trans hr.1, fun r hrm =>
    (List.mem_or_eq_of_mem_set hrm).elim (hr.2 r) (fun e => e ▸ hx)⟩

theorem Rect.modify {n m : Nat} {a : List (List R)} (hr : Rect n m a) (j : Nat) (f : List R → List R)
    (hf : ∀ r, r.length = m → (f r).length = m) : Rect n m (a.modify j f) := by
  refine ⟨(List.length_modify ..).trans hr.1, fun r hrm => ?_⟩
  obtain ⟨i, hi, rfl⟩ := List.mem_iff_getElem.mp hrm
  have hl := hr.2 _ (List.getElem_mem (by rwa [List.length_modify] at hi))
  rw [List.getElem_modify]
  split
  · exact hf _ hl
  · exact hl

theorem Rect.of_map {α : Type} {n m : Nat} {l : List α} (g : α → List R) (hl : l.length = n)
    (hg : ∀ x ∈ l, (g x).length = m) : Rect n m (l.map g) := by
  refine ⟨(List.length_map _).trans hl, fun row hrow => ?_⟩
  obtain ⟨x, hx, rfl⟩ := List.mem_map.mp hrow
  exact hg x hx

theorem Rect.map_map {S : Type} {n m : Nat} {a : List (List R)} (hr : Rect n m a) (f : R → S) :
    Rect n m (a.map fun r => r.map f) :=
  .of_map _ hr.1 fun r h => (List.length_map _).trans (hr.2 r h)

theorem Rect.mapIdx {n m : Nat} {a : List (List R)} (hr : Rect n m a) (f : Nat → List R → List R)
    (hf : ∀ i r, r.length = m → (f i r).length = m) : Rect n m (a.mapIdx f) := by
  refine ⟨(List.length_mapIdx ..).trans hr.1, fun r hrm => ?_⟩
  obtain ⟨i, hi, rfl⟩ := List.mem_mapIdx.mp hrm
  exact hf i _ (hr.2 _ (List.getElem_mem hi))

theorem ent_mapIdx [Zero R] {n m : Nat} {a : List (List R)} (hr : Rect n m a) (f : Nat → List R → List R)
    (r c : Nat) (h : r < n) : ent (a.mapIdx f) r c = (f r (a.getD r [])).getD c 0 := by
  unfold ent
  rw [getD_mapIdx_of_lt a f r (hr.1.symm ▸ h) [] []]

theorem Rect.swapRows {n m : Nat} {a : List (List R)} (hr : Rect n m a) (i j : Nat) (hi : i < n) (hj : j < n) :
    Rect n m (swapRows a i j) :=
  (hr.set i _ (hr.row_length j hj)).set j _ (hr.row_length i hi)

variable [CommRing R]

def toM (n m : Nat) (a : List (List R)) : Matrix (Fin n) (Fin m) R := fun i j => ent a i j

theorem toM_map_map {S : Type} [CommRing S] (f : R → S) (hf : f 0 = 0) (n m : Nat) (a : List (List R)) :
    toM n m (a.map fun r => r.map f) = (toM n m a).map f := by
  ext i j
  exact ent_map_map f hf a i j

theorem ent_modify (a : List (List R)) (j : Nat) (f : List R → List R) (i c : Nat) :
    ent (a.modify j f) i c = if i = j ∧ j < a.length then (f (a.getD j [])).getD c 0 else ent a i c := by
  unfold ent
  rw [getD_modify]
  split <;> rfl

theorem getD_rowSubMul (rj rk : List R) (q : R) (c : Nat) (h : rj.length = rk.length) :
    (rowSubMul rj rk q).getD c 0 = rj.getD c 0 - rk.getD c 0 * q := by
  unfold rowSubMul
  simp only [List.getD_eq_getElem?_getD, List.getElem?_zipWith]
  rcases Nat.lt_or_ge c rj.length with hc | hc
  · rw [List.getElem?_eq_getElem hc, List.getElem?_eq_getElem (h ▸ hc)]
    rfl
  · rw [List.getElem?_eq_none hc, List.getElem?_eq_none (h ▸ hc)]
    exact (sub_eq_zero.mpr (zero_mul q).symm).symm

theorem getD_zipWith_sub (row rowN : List R) (f : R) (j : Nat) (h : row.length = rowN.length) :
    (List.zipWith (fun x y => x - f * y) row rowN).getD j 0 = row.getD j 0 - f * rowN.getD j 0 := by
  simpa only [rowSubMul, mul_comm f] using getD_rowSubMul row rowN f j h

theorem ent_swapRows (a : List (List R)) (i j r c : Nat) (hi : i < a.length) (hj : j < a.length) :
    ent (swapRows a i j) r c = if r = j then ent a i c else if r = i then ent a j c else ent a r c := by
  unfold swapRows ent
  rw [getD_set, getD_set, List.length_set]
  by_cases h1 : r = j
  · rw [if_pos ⟨h1, hj⟩, if_pos h1]
  · rw [if_neg (fun e => h1 e.1), if_neg h1]
    by_cases h2 : r = i
    · rw [if_pos ⟨h2, hi⟩, if_pos h2]
    · rw [if_neg (fun e => h2 e.1), if_neg h2]

theorem Rect.subMulRow {n m : Nat} {a : List (List R)} (hr : Rect n m a) (j k : Nat) (hk : k < n) (q : R) :
    Rect n m (subMulRow a j k q) :=
  hr.modify j _ fun _ hrl => by
    rw [rowSubMul, List.length_zipWith, hrl, hr.row_length k hk, Nat.min_self]

theorem Rect.scaleRow {n m : Nat} {a : List (List R)} (hr : Rect n m a) (k : Nat) (c : R) :
    Rect n m (scaleRow a k c) :=
  hr.modify k _ fun _ hrl => (List.length_map ..).trans hrl

/-- also when `i = j` -/
theorem ent_swapRows_left (a : List (List R)) (i j c : Nat) (hi : i < a.length) (hj : j < a.length) :
    ent (swapRows a i j) i c = ent a j c := by
  rw [ent_swapRows a i j i c hi hj, if_pos rfl]
  split
  · next e => rw [e]
  · rfl

theorem ent_subMulRow {n m : Nat} {a : List (List R)} (hr : Rect n m a) (j k : Nat) (hj : j < n) (hk : k < n)
    (q : R) (r c : Nat) :
    ent (subMulRow a j k q) r c = if r = j then ent a j c - ent a k c * q else ent a r c := by
  unfold subMulRow
  rw [ent_modify]
  by_cases h : r = j
  · rw [if_pos ⟨h, hr.1.symm ▸ hj⟩, if_pos h,
      getD_rowSubMul _ _ _ _ ((hr.row_length j hj).trans (hr.row_length k hk).symm)]
    rfl
  · rw [if_neg (fun e => h e.1), if_neg h]

theorem ent_map_row (a : List (List R)) (k r c : Nat) (hk : k < a.length) (g : R → R) (hg : g 0 = 0) :
    ent (a.modify k (fun row => row.map g)) r c = if r = k then g (ent a k c) else ent a r c := by
  rw [ent_modify]
  by_cases h : r = k
  · rw [if_pos ⟨h, hk⟩, if_pos h]
    unfold ent
    rw [List.getD_eq_getElem?_getD, List.getElem?_map, List.getD_eq_getElem?_getD (a := (0 : R))]
    cases (a.getD k [])[c]?
    · exact hg.symm
    · rfl
  · rw [if_neg (fun e => h e.1), if_neg h]

theorem toM_subMulRow (n m : Nat) (a : List (List R)) (hr : Rect n m a) (j k : Fin n) (q : R) :
    toM n m (subMulRow a j k q) = updateRow (toM n m a) j (toM n m a j + (-q) • toM n m a k) := by
  ext i c
  rw [updateRow_apply]
  refine (ent_subMulRow hr j k j.2 k.2 q i c).trans ?_
  by_cases h : i = j
  · rw [if_pos (congrArg Fin.val h), if_pos h, Pi.add_apply, Pi.smul_apply, smul_eq_mul, neg_mul, ← sub_eq_add_neg,
      mul_comm]
    rfl
  · rw [if_neg (fun e => h (Fin.ext e)), if_neg h]
    rfl

theorem toM_scaleRow (n m : Nat) (a : List (List R)) (hr : Rect n m a) (k : Fin n) (c : R) :
    toM n m (scaleRow a k c) = updateRow (toM n m a) k (c • toM n m a k) := by
  ext i col
  rw [updateRow_apply]
  refine (ent_map_row a k i col (hr.1.symm ▸ k.2) (fun x => x * c) (zero_mul c)).trans ?_
  by_cases h : i = k
  · rw [if_pos (congrArg Fin.val h), if_pos h]
    exact mul_comm _ _
  · rw [if_neg (fun e => h (Fin.ext e)), if_neg h]
    rfl

theorem toM_swapRows (n m : Nat) (a : List (List R)) (hr : Rect n m a) (i j : Fin n) :
    toM n m (swapRows a i j) = (toM n m a).submatrix (Equiv.swap i j) id := by
  ext r c
  refine (ent_swapRows a i j r c (hr.1.symm ▸ i.2) (hr.1.symm ▸ j.2)).trans ?_
  show _ = ent a (Equiv.swap i j r) c
  by_cases h1 : r = j
  · rw [if_pos (congrArg Fin.val h1), h1, Equiv.swap_apply_right]
  · rw [if_neg (fun e => h1 (Fin.ext e))]
    by_cases h2 : r = i
    · rw [if_pos (congrArg Fin.val h2), h2, Equiv.swap_apply_left]
    · rw [if_neg (fun e => h2 (Fin.ext e)), Equiv.swap_apply_of_ne_of_ne h2 h1]

theorem det_subMulRow (n : Nat) (a : List (List R)) (hr : Rect n n a) (j k : Fin n) (hjk : j ≠ k) (q : R) :
    (toM n n (subMulRow a j k q)).det = (toM n n a).det := by
  rw [toM_subMulRow n n a hr, det_updateRow_add_smul_self _ hjk]

theorem det_scaleRow (n : Nat) (a : List (List R)) (hr : Rect n n a) (k : Fin n) (c : R) :
    (toM n n (scaleRow a k c)).det = c * (toM n n a).det := by
  rw [toM_scaleRow n n a hr, det_updateRow_smul, updateRow_eq_self]

theorem det_swapRows (n : Nat) (a : List (List R)) (hr : Rect n n a) (i j : Fin n) (hij : i ≠ j) :
    (toM n n (swapRows a i j)).det = - (toM n n a).det := by
  rw [toM_swapRows n n a hr, det_permute, Equiv.Perm.sign_swap hij, Units.val_neg, Units.val_one,
    Int.cast_neg, Int.cast_one, neg_one_mul]

theorem det_swapRows_or_same (n : Nat) (a : List (List R)) (hr : Rect n n a) (i j : Nat) (hi : i < n) (hj : j < n) :
    (toM n n (swapRows a i j)).det = (if i = j then 1 else -1) * (toM n n a).det := by
  by_cases h : i = j
  · subst h
    rw [if_pos rfl, one_mul, toM_swapRows n n a hr ⟨i, hi⟩ ⟨i, hi⟩, Equiv.swap_self]
    rfl
  · rw [if_neg h, det_swapRows n a hr ⟨i, hi⟩ ⟨j, hj⟩ (fun e => h (congrArg Fin.val e)), neg_one_mul]

theorem mul_subMulRow (n m : Nat) (A0 : Matrix (Fin n) (Fin m) R) (a u : List (List R)) (ha : Rect n m a) (hu : Rect n n u)
    (h : toM n n u * A0 = toM n m a) (j k : Fin n) (q : R) :
    toM n n (subMulRow u j k q) * A0 = toM n m (subMulRow a j k q) := by
  rw [toM_subMulRow n n u hu, toM_subMulRow n m a ha, updateRow_mul, ← h, add_vecMul, smul_vecMul]
  rfl

theorem mul_scaleRow (n m : Nat) (A0 : Matrix (Fin n) (Fin m) R) (a u : List (List R)) (ha : Rect n m a) (hu : Rect n n u)
    (h : toM n n u * A0 = toM n m a) (k : Fin n) (c : R) :
    toM n n (scaleRow u k c) * A0 = toM n m (scaleRow a k c) := by
  rw [toM_scaleRow n n u hu, toM_scaleRow n m a ha, updateRow_mul, ← h, smul_vecMul]
  rfl

theorem mul_swapRows (n m : Nat) (A0 : Matrix (Fin n) (Fin m) R) (a u : List (List R)) (ha : Rect n m a) (hu : Rect n n u)
    (h : toM n n u * A0 = toM n m a) (i j : Fin n) :
    toM n n (swapRows u i j) * A0 = toM n m (swapRows a i j) := by
  rw [toM_swapRows n n u hu, toM_swapRows n m a ha, ← h]
  rfl

end NTV.RowOps
