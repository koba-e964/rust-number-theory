import NTV.Model.Elementary
import Mathlib.Data.Nat.Prime.Basic
namespace NTV.Elem
open Classical

theorem getD_set_false (a : Array Bool) (i j : Nat) :
    (a.setIfInBounds i false).getD j false = if i = j then false else a.getD j false := by
  simp only [Array.getD_eq_getD_getElem?, Array.getElem?_setIfInBounds]
  split
  · split <;> simp
  · rfl

theorem crossOut_size (i cnt j : Nat) (a : Array Bool) : (crossOut i cnt j a).size = a.size := by
  induction cnt generalizing j a with
  | zero => rfl
  | succ cnt ih => simp only [crossOut]; rw [ih]; simp

theorem crossOut_getD (i cnt j : Nat) (a : Array Bool) (x : Nat) :
    (crossOut i cnt j a).getD x false =
      if ∃ j', j ≤ j' ∧ j' < j + cnt ∧ x = i * j' then false else a.getD x false := by
  induction cnt generalizing j a with
  | zero =>
    have : ¬ ∃ j', j ≤ j' ∧ j' < j + 0 ∧ x = i * j' := by rintro ⟨j', a1, a2, _⟩; omega
    simp only [crossOut, this, ↓reduceIte]
  | succ cnt ih =>
    -- the range [j, j + cnt + 1) is j together with [j + 1, j + 1 + cnt)
    rw [crossOut, ih, getD_set_false]
    by_cases h1 : ∃ j', j + 1 ≤ j' ∧ j' < j + 1 + cnt ∧ x = i * j'
    · have h2 : ∃ j', j ≤ j' ∧ j' < j + (cnt + 1) ∧ x = i * j' :=
        let ⟨j', a1, a2, a3⟩ := h1
        ⟨j', Nat.le_of_succ_le a1, by rwa [Nat.add_right_comm] at a2, a3⟩
      rw [if_pos h1, if_pos h2]
    · rw [if_neg h1]
      by_cases h2 : i * j = x
      · rw [if_pos h2, if_pos ⟨j, le_rfl, Nat.lt_add_of_pos_right (Nat.succ_pos cnt), h2.symm⟩]
      · rw [if_neg h2, if_neg]
        rintro ⟨j', a1, a2, a3⟩
        rcases Nat.eq_or_lt_of_le a1 with rfl | hlt
        · exact h2 a3.symm
        · exact h1 ⟨j', hlt, by rwa [Nat.add_right_comm], a3⟩

def Marked (I x : Nat) : Prop := ∃ d, 2 ≤ d ∧ d < I ∧ d < x ∧ d ∣ x

def SInv (bound I : Nat) (a : Array Bool) : Prop :=
  ∀ x, x ≤ bound → (a.getD x false = true ↔ (2 ≤ x ∧ ¬ Marked I x))

theorem not_marked_of_le_two {I x : Nat} (hI : I ≤ 2) : ¬ Marked I x :=
  fun ⟨_, h1, h2, _, _⟩ => absurd (h1.trans_lt h2) (not_lt.mpr hI)

theorem marked_succ {i x : Nat} (hi : 2 ≤ i) : Marked (i + 1) x ↔ Marked i x ∨ (i < x ∧ i ∣ x) := by
  constructor
  · rintro ⟨d, h1, h2, h3, h4⟩
    rcases Nat.lt_succ_iff_lt_or_eq.mp h2 with h | rfl
    · exact .inl ⟨d, h1, h, h3, h4⟩
    · exact .inr ⟨h3, h4⟩
  · rintro (⟨d, h1, h2, h3, h4⟩ | ⟨h3, h4⟩)
    · exact ⟨d, h1, h2.trans (Nat.lt_succ_self i), h3, h4⟩
    · exact ⟨i, hi, Nat.lt_succ_self i, h3, h4⟩

theorem crossed_iff (bound i x : Nat) (hi : 2 ≤ i) (hx : x ≤ bound) :
    (∃ j', 2 ≤ j' ∧ j' < 2 + (bound / i - 1) ∧ x = i * j') ↔ (i < x ∧ i ∣ x) := by
  have hi0 : 0 < i := by omega
  constructor
  · rintro ⟨j', a1, _, rfl⟩
    exact ⟨(Nat.lt_mul_iff_one_lt_right hi0).mpr a1, Dvd.intro j' rfl⟩
  · rintro ⟨hlt, q, rfl⟩
    have hq : 1 < q := (Nat.lt_mul_iff_one_lt_right hi0).mp hlt
    have : q ≤ bound / i := (Nat.le_div_iff_mul_le hi0).mpr (by rw [mul_comm]; exact hx)
    exact ⟨q, hq, by omega, rfl⟩

theorem sieve_step (bound i : Nat) (a : Array Bool) (hi : 2 ≤ i) (hib : i ≤ bound)
    (h : SInv bound i a) :
    SInv bound (i + 1) (if a.getD i false then crossOut i (bound / i - 1) 2 a else a) := by
  intro x hx
  rw [marked_succ hi]
  split
  · rw [crossOut_getD, crossed_iff bound i x hi hx]
    by_cases hc : i < x ∧ i ∣ x
    · simp [hc]
    · rw [if_neg hc, h x hx, or_iff_left hc]
  · -- i was already crossed out by a smaller d, and so were its multiples
    rename_i hkept
    have hmi : Marked i i := by
      by_contra hnm
      exact hkept ((h i hib).mpr ⟨hi, hnm⟩)
    obtain ⟨e, e1, e2, e3, e4⟩ := hmi
    rw [h x hx, or_iff_left_of_imp fun hc => ⟨e, e1, e2, e3.trans hc.1, e4.trans hc.2⟩]

theorem sieveLoop_inv (bound : Nat) : ∀ (cnt i : Nat) (a : Array Bool), 2 ≤ i → i + cnt = bound + 1 →
    SInv bound i a → SInv bound (bound + 1) (sieveLoop bound cnt i a) := by
  intro cnt
  induction cnt with
  | zero =>
    intro i a _ hic h
    obtain rfl : i = bound + 1 := hic
    exact h
  | succ cnt ih =>
    intro i a hi hic h
    rw [sieveLoop, ← apply_ite (sieveLoop bound cnt (i + 1))]
    exact ih (i + 1) _ (Nat.le_succ_of_le hi) (by rw [Nat.add_right_comm]; exact hic)
      (sieve_step bound i a hi (Nat.le.intro (Nat.succ.inj hic)) h)

theorem init_inv (bound : Nat) : SInv bound 2 (
    let a := Array.replicate (bound + 1) true
    let a := a.setIfInBounds 0 false
    if bound ≥ 1 then a.setIfInBounds 1 false else a) := by
  intro x hx
  simp only [not_marked_of_le_two (le_refl 2), not_false_eq_true, and_true]
  have base : (Array.replicate (bound + 1) true).getD x false = true := by
    have : x < bound + 1 := by omega
    simp [Array.getD_eq_getD_getElem?, this]
  split
  · rw [getD_set_false, getD_set_false, base]
    rcases x with _ | _ | x <;> simp
  · obtain rfl : x = 0 := by omega
    rw [getD_set_false]
    simp

theorem not_marked_iff_prime (bound x : Nat) (hx : x ≤ bound) :
    (2 ≤ x ∧ ¬ Marked (bound + 1) x) ↔ x.Prime := by
  rw [Nat.prime_def_lt']
  exact and_congr_right fun _ =>
    ⟨fun hnm m hm2 hmx hdvd => hnm ⟨m, hm2, Nat.lt_succ_of_le (hmx.le.trans hx), hmx, hdvd⟩,
      fun hall ⟨d, h1, _, h3, h4⟩ => hall d h1 h3 h4⟩

end NTV.Elem
