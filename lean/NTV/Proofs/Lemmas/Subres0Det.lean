import Mathlib.LinearAlgebra.Matrix.Determinant.Basic
import Mathlib.LinearAlgebra.Matrix.Block
import Mathlib.RingTheory.Polynomial.Basic
import Mathlib.Tactic
/-! # Determinant polynomials (for subresultants)

`detPolN j k P` is the determinant of the `k × k` matrix over `R[X]` whose row `i` is
`(P i, coeff (P i) (j+1), …, coeff (P i) (j+k-1))`: column 0 holds the polynomial itself, column `c ≥ 1`
its coefficient of degree `j + c` (as a constant). For rows of degree `≤ j+k-1` this is (up to the order
of the columns, i.e. up to sign) the classical "determinant polynomial" of the coefficient matrix. -/
open Polynomial
namespace NTV.Subres
variable {R : Type*} [CommRing R]

noncomputable def dpMat (j k : ℕ) (P : ℕ → R[X]) : Matrix (Fin k) (Fin k) R[X] :=
  Matrix.of fun i c => if c.val = 0 then P i.val else C ((P i.val).coeff (j + c.val))

/-- determinant polynomial of the first `k` rows of the family `P` -/
noncomputable def detPolN (j k : ℕ) (P : ℕ → R[X]) : R[X] := (dpMat j k P).det

theorem detPolN_congr (j k : ℕ) (P P' : ℕ → R[X]) (h : ∀ i, i < k → P i = P' i) :
    detPolN j k P = detPolN j k P' := by
  unfold detPolN dpMat
  congr 1
  ext i c
  simp only [Matrix.of_apply, h i.val i.isLt]

theorem detPolN_one (j : ℕ) (P : ℕ → R[X]) : detPolN j 1 P = P 0 := by
  simp [detPolN, dpMat]

/-- rows that are `R`-linear combinations (matrix `U`) of the rows `P` -/
theorem detPolN_mul (j k : ℕ) (P P' : ℕ → R[X]) (U : Matrix (Fin k) (Fin k) R)
    (h : ∀ i : Fin k, P' i.val = ∑ l : Fin k, C (U i l) * P l.val) :
    detPolN j k P' = C U.det * detPolN j k P := by
  have hm : dpMat j k P' = (C : R →+* R[X]).mapMatrix U * dpMat j k P := by
    ext i c
    simp only [dpMat, Matrix.of_apply, Matrix.mul_apply, RingHom.mapMatrix_apply, Matrix.map_apply, h i]
    by_cases hc : c.val = 0
    · simp only [hc, ↓reduceIte, finsetSum_coeff, coeff_C_mul]
    · simp only [hc, ↓reduceIte, finsetSum_coeff, coeff_C_mul, map_sum, map_mul]
  unfold detPolN
  rw [hm, Matrix.det_mul, ← RingHom.map_det]

/-- expansion along the top-degree column when only the last row reaches that degree -/
theorem detPolN_succ (j k : ℕ) (hk : 1 ≤ k) (P : ℕ → R[X])
    (h : ∀ i, i < k → (P i).coeff (j + k) = 0) :
    detPolN j (k + 1) P = C ((P k).coeff (j + k)) * detPolN j k P := by
  unfold detPolN
  rw [Matrix.det_succ_column _ (Fin.last k), Finset.sum_eq_single (Fin.last k)]
  · have hk0 : ¬ k = 0 := by omega
    have e1 : dpMat j (k + 1) P (Fin.last k) (Fin.last k) = C ((P k).coeff (j + k)) := by
      simp only [dpMat, Fin.val_eq_zero_iff, Matrix.of_apply, Fin.last_eq_zero_iff, hk0, ↓reduceIte, Fin.val_last]
    have e2 : (dpMat j (k + 1) P).submatrix (Fin.last k).succAbove (Fin.last k).succAbove = dpMat j k P := by
      ext i c
      simp only [dpMat, Matrix.submatrix_apply, Fin.succAbove_last, Matrix.of_apply, Fin.val_castSucc]
    rw [e1, e2]
    simp only [Fin.val_last, ← two_mul, even_two, Even.mul_right, Even.neg_pow, one_pow, one_mul]
  · intro i _ hi
    have hlt : i.val < k := by
      rcases Fin.eq_castSucc_or_eq_last i with ⟨i', rfl⟩ | rfl
      · simp
      · exact absurd rfl hi
    have hk0 : ¬ k = 0 := by omega
    have : dpMat j (k + 1) P i (Fin.last k) = 0 := by
      simp only [dpMat, Fin.val_eq_zero_iff, Matrix.of_apply, Fin.last_eq_zero_iff, hk0, ↓reduceIte, Fin.val_last,
        h i.val hlt, map_zero]
    rw [this, mul_zero, zero_mul]
  · intro h'; exact absurd (Finset.mem_univ _) h'

/-- permuting the rows changes the determinant polynomial by a unit (a sign) -/
theorem detPolN_perm (j k : ℕ) (P P' : ℕ → R[X]) (σ : Equiv.Perm (Fin k))
    (h : ∀ i : Fin k, P' i.val = P (σ i).val) :
    Associated (detPolN j k P') (detPolN j k P) := by
  have hm : dpMat j k P' = (dpMat j k P).submatrix σ id := by
    ext i c
    simp [dpMat, h i]
  unfold detPolN
  rw [hm, Matrix.det_permute]
  have hu : IsUnit ((Equiv.Perm.sign σ : ℤ) : R[X]) := by
    rcases Int.units_eq_one_or (Equiv.Perm.sign σ) with e | e <;> simp [e]
  exact (associated_isUnit_mul_left_iff hu).mpr (Associated.refl _)

end NTV.Subres
