import NTV.Proofs.Lemmas.Subres0Det
/-! # Subresultant polynomials with formal degrees

`sres j p q F G` is the determinant polynomial of the rows `F, XF, …, X^(p-1)F, G, XG, …, X^(q-1)G`:
the `j`-th subresultant polynomial (up to sign) of `F` of formal degree `q + j` and `G` of formal degree
`p + j`. -/
open Polynomial
namespace NTV.Subres
variable {R : Type*} [CommRing R]

noncomputable def rowsN (p : ℕ) (F G : R[X]) : ℕ → R[X] :=
  fun i => if i < p then X ^ i * F else X ^ (i - p) * G

/-- `j`-th subresultant of `F` (formal degree `q + j`) and `G` (formal degree `p + j`) -/
noncomputable def sres (j p q : ℕ) (F G : R[X]) : R[X] := detPolN j (p + q) (rowsN p F G)

theorem sres_one_zero (j : ℕ) (F G : R[X]) : sres j 1 0 F G = F := by
  simp [sres, detPolN_one, rowsN]

theorem sres_zero_one (j : ℕ) (F G : R[X]) : sres j 0 1 F G = G := by
  simp [sres, detPolN_one, rowsN]

/-- lowering the formal degree of `F` by one removes the top row of `G` -/
theorem sres_succ (j p q : ℕ) (F G : R[X]) (hF : p = 0 ∨ F.natDegree ≤ q + j) (hG : G.natDegree ≤ p + j)
    (hk : 1 ≤ p + q) : sres j p (q + 1) F G = C (G.coeff (p + j)) * sres j p q F G := by
  unfold sres
  rw [← add_assoc, detPolN_succ j (p + q) hk]
  · have h1 : ¬ (p + q < p) := Nat.not_lt.mpr (Nat.le_add_right p q)
    have h2 : p + q - p = q := Nat.add_sub_cancel_left p q
    have h3 : q ≤ j + (p + q) := (Nat.le_add_left q p).trans (Nat.le_add_left _ j)
    have h4 : j + (p + q) - q = p + j := by rw [← Nat.add_assoc, Nat.add_sub_cancel, Nat.add_comm]
    simp only [rowsN, h1, ↓reduceIte, h2, coeff_X_pow_mul', h3, h4]
  · intro i hi
    simp only [rowsN]
    split
    · rename_i hip
      rw [coeff_X_pow_mul']
      have : i ≤ j + (p + q) := (Nat.le_of_lt hi).trans (Nat.le_add_left _ j)
      rw [if_pos this]
      rcases hF with hF | hF
      · exact absurd hip (hF ▸ Nat.not_lt_zero i)
      · exact coeff_eq_zero_of_natDegree_lt (by omega)
    · rename_i hip
      rw [coeff_X_pow_mul']
      have : i - p ≤ j + (p + q) := (Nat.sub_le i p).trans ((Nat.le_of_lt hi).trans (Nat.le_add_left _ j))
      rw [if_pos this]
      exact coeff_eq_zero_of_natDegree_lt (by omega)

theorem sres_add_deg (j p q t : ℕ) (F G : R[X]) (hF : p = 0 ∨ F.natDegree ≤ q + j) (hG : G.natDegree ≤ p + j)
    (hk : 1 ≤ p + q) : sres j p (q + t) F G = C (G.coeff (p + j) ^ t) * sres j p q F G := by
  induction t with
  | zero => simp
  | succ t ih =>
    rw [← add_assoc, sres_succ j p (q + t) F G
      (hF.imp_right fun h => h.trans (Nat.add_le_add_right (Nat.le_add_right q t) j)) hG
      (hk.trans (Nat.add_le_add_left (Nat.le_add_right q t) p)), ih, pow_succ, C_mul]
    ring

theorem sres_zero_left (j q : ℕ) (F G : R[X]) (hG : G.natDegree ≤ j) :
    sres j 0 (q + 1) F G = C (G.coeff j ^ q) * G := by
  have := sres_add_deg j 0 1 q F G (Or.inl rfl) (by simpa using hG) (Nat.le_add_left 1 0)
  rw [add_comm 1 q, sres_zero_one] at this
  simpa using this

theorem prod_fin_add_ite (p q : ℕ) (s t : R) :
    (∏ i : Fin (p + q), (if i.val < p then s else t)) = s ^ p * t ^ q := by
  rw [Fin.prod_univ_add]
  simp only [Fin.val_castAdd, Fin.is_lt, ↓reduceIte, Finset.prod_const, Finset.card_univ, Fintype.card_fin,
    Fin.val_natAdd, add_lt_iff_neg_left, not_lt_zero]

/-- scaling a block of rows -/
theorem sres_scale (j p q : ℕ) (F G F' G' : R[X]) (s t : R) (hF : F' = C s * F) (hG : G' = C t * G) :
    sres j p q F' G' = C (s ^ p * t ^ q) * sres j p q F G := by
  unfold sres
  rw [detPolN_mul j (p + q) (rowsN p F G) (rowsN p F' G')
    (Matrix.diagonal fun i : Fin (p + q) => if i.val < p then s else t)]
  · rw [Matrix.det_diagonal, prod_fin_add_ite]
  · intro i
    rw [Finset.sum_eq_single i]
    · simp only [Matrix.diagonal_apply_eq, rowsN, hF, hG]
      split <;> exact mul_left_comm _ _ _
    · intro l _ hl
      rw [Matrix.diagonal_apply_ne _ hl.symm]; simp
    · intro h; exact absurd (Finset.mem_univ _) h

theorem sres_C_mul_right (j p q : ℕ) (F G : R[X]) (t : R) :
    sres j p q F (C t * G) = C (t ^ q) * sres j p q F G := by
  rw [sres_scale j p q F G F (C t * G) 1 t (by simp) rfl]; simp

theorem sres_C_mul_left (j p q : ℕ) (F G : R[X]) (s : R) :
    sres j p q (C s * F) G = C (s ^ p) * sres j p q F G := by
  rw [sres_scale j p q F G (C s * F) G s 1 rfl (by simp)]; simp

/-- swapping the two polynomials is a permutation of the rows -/
theorem sres_swap (j p q : ℕ) (F G : R[X]) : Associated (sres j q p G F) (sres j p q F G) := by
  unfold sres
  rw [Nat.add_comm q p]
  refine detPolN_perm j (p + q) (rowsN p F G) (rowsN q G F)
    ((finCongr (Nat.add_comm p q)).trans finAddFlip) fun ⟨i, hi⟩ => ?_
  simp only [Equiv.trans_apply, finCongr_apply_mk, rowsN]
  by_cases h : i < q
  · simp only [finAddFlip_apply_mk_left h, h, ↓reduceIte, Nat.not_lt.mpr (Nat.le_add_right p i),
      Nat.add_sub_cancel_left]
  · have h2 : i - q < p := by omega
    simp only [finAddFlip_apply_mk_right (not_lt.mp h), h, ↓reduceIte, h2]

/-- adding a monomial multiple of `G` to `F` is a unimodular row operation -/
theorem sres_add_monomial_mul (j p q t : ℕ) (F G : R[X]) (c : R) (ht : t + p ≤ q) :
    sres j p q (F + C c * X ^ t * G) G = sres j p q F G := by
  unfold sres
  set U : Matrix (Fin (p + q)) (Fin (p + q)) R :=
    Matrix.of fun i l => (if i = l then 1 else 0) + (if i.val < p ∧ l.val = p + t + i.val then c else 0) with hU
  have htri : U.BlockTriangular id := by
    intro i l hli
    have h1 : ¬ (i = l) := by intro e; subst e; exact lt_irrefl _ hli
    have h2 : ¬ (i.val < p ∧ l.val = p + t + i.val) := by
      intro h; have : l.val < i.val := hli; omega
    simp [hU, h1, h2]
  have hdet : U.det = 1 := by
    rw [Matrix.det_of_isUpperTriangular htri]
    apply Finset.prod_eq_one
    intro i _
    have h2 : ¬ (i.val < p ∧ i.val = p + t + i.val) := by omega
    simp only [hU, Matrix.of_apply, h2, ↓reduceIte, add_zero]
  rw [detPolN_mul j (p + q) (rowsN p F G) (rowsN p (F + C c * X ^ t * G) G) U, hdet]
  · simp
  · intro i
    simp only [hU, Matrix.of_apply, C_add, add_mul, Finset.sum_add_distrib]
    have e1 : ∑ l : Fin (p + q), C (if i = l then (1 : R) else 0) * rowsN p F G l.val = rowsN p F G i.val := by
      simp only [apply_ite C, C_1, C_0, ite_mul, one_mul, zero_mul, Finset.sum_ite_eq, Finset.mem_univ, if_true]
    rw [e1]
    by_cases hi : i.val < p
    · have hlt : p + t + i.val < p + q := by omega
      have key : ∀ l : Fin (p + q), (l.val = p + t + i.val) = (l = ⟨p + t + i.val, hlt⟩) :=
        fun l => propext ⟨fun h => Fin.ext h, fun h => h ▸ rfl⟩
      have h3 : ¬ (p + t + i.val < p) := Nat.not_lt.mpr (Nat.le_add_right_of_le (Nat.le_add_right p t))
      have h4 : p + t + i.val - p = t + i.val := by rw [Nat.add_assoc, Nat.add_sub_cancel_left]
      simp only [hi, true_and, key, apply_ite C, C_0, ite_mul, zero_mul, Finset.sum_ite_eq', Finset.mem_univ,
        ↓reduceIte, rowsN, h3, h4]
      ring
    · simp only [hi, false_and, ↓reduceIte, C_0, zero_mul, Finset.sum_const_zero, add_zero, rowsN]

/-- `S_j(F + Q G, G) = S_j(F, G)` when `deg Q ≤ (formal deg F) − (formal deg G)` -/
theorem sres_add_mul (j p q : ℕ) (F G Q : R[X]) (hQ : Q.natDegree + p ≤ q) :
    sres j p q (F + Q * G) G = sres j p q F G := by
  have key : ∀ n, n ≤ Q.natDegree + 1 → ∀ F : R[X],
      sres j p q (F + (∑ i ∈ Finset.range n, C (Q.coeff i) * X ^ i) * G) G = sres j p q F G := by
    intro n
    induction n with
    | zero => intro _ F; simp
    | succ n ih =>
      intro hn F
      rw [Finset.sum_range_succ, add_mul, ← add_assoc, sres_add_monomial_mul j p q n _ G _ (by omega),
        ih (by omega)]
  have := key (Q.natDegree + 1) le_rfl F
  rwa [← Q.as_sum_range_C_mul_X_pow] at this

end NTV.Subres
