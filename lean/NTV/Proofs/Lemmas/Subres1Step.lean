import NTV.Proofs.Lemmas.Subres0Sres
/-! # One pseudo-division step on subresultants (the structure theorem, in the form needed for the
subresultant PRS): `prem(F,G)` *is* a subresultant, and the subresultants of `(G, prem(F,G)/w)` are
explicit constant multiples of those of `(F, G)`. -/
open Polynomial
namespace NTV.Subres
variable {R : Type*} [CommRing R] [IsDomain R]

/-- the pseudo-remainder is the subresultant `S_(m-1)(F, G)` (formal degrees `m + δ`, `m`) -/
theorem prem_eq_sres (m1 δ : ℕ) (F G Q P : R[X]) (hG : G.natDegree ≤ m1 + 1) (hc : G.coeff (m1 + 1) ≠ 0)
    (hprem : C (G.coeff (m1 + 1) ^ (δ + 1)) * F = Q * G + P) (hQ : Q.natDegree ≤ δ) (hP : P.natDegree ≤ m1) :
    sres m1 1 (δ + 1) F G = P := by
  have h1 : C (G.coeff (m1 + 1) ^ (δ + 1)) * sres m1 1 (δ + 1) F G = sres m1 1 (δ + 1) (P + Q * G) G := by
    have := sres_C_mul_left m1 1 (δ + 1) F G (G.coeff (m1 + 1) ^ (δ + 1))
    rw [pow_one] at this
    rw [← this, hprem, add_comm P]
  rw [sres_add_mul m1 1 (δ + 1) P G Q (Nat.succ_le_succ hQ)] at h1
  have h2 := sres_add_deg m1 1 0 (δ + 1) P G (Or.inr (hP.trans_eq (Nat.zero_add m1).symm))
    (hG.trans_eq (Nat.add_comm m1 1)) le_rfl
  rw [zero_add, sres_one_zero, add_comm 1 m1] at h2
  rw [h2] at h1
  exact mul_left_cancel₀ (C_ne_zero.mpr (pow_ne_zero _ hc)) h1

omit [IsDomain R] in
/-- transfer of the `j`-th subresultant through a pseudo-division step: here `m = j + k + 1`,
`n = m + δ`, `r = j + e` and `t = n − r` -/
theorem sres_transfer (j k δ e t : ℕ) (F G Q P G' : R[X]) (w : R) (ht : t + e = k + 1 + δ)
    (hG : G.natDegree ≤ j + k + 1)
    (hprem : C (G.coeff (j + k + 1) ^ (δ + 1)) * F = Q * G + P) (hQ : Q.natDegree ≤ δ)
    (hP : P.natDegree ≤ j + e) (hG' : C w * G' = P) :
    Associated (C (G.coeff (j + k + 1) ^ t * w ^ (k + 1)) * sres j e (k + 1) G G')
      (C ((G.coeff (j + k + 1) ^ (δ + 1)) ^ (k + 1)) * sres j (k + 1) (k + 1 + δ) F G) := by
  set c := G.coeff (j + k + 1) with hcdef
  have e1 : C (w ^ (k + 1)) * sres j e (k + 1) G G' = sres j e (k + 1) G P := by
    rw [← sres_C_mul_right, hG']
  have e2 : Associated (sres j e (k + 1) G P) (sres j (k + 1) e P G) := sres_swap j (k + 1) e P G
  have e3 : sres j (k + 1) (e + t) P G = C (c ^ t) * sres j (k + 1) e P G := by
    have h' : k + 1 + j = j + k + 1 := Nat.add_comm (k + 1) j
    have := sres_add_deg j (k + 1) e t P G (Or.inr (hP.trans_eq (Nat.add_comm j e))) (hG.trans_eq h'.symm)
      (Nat.le_add_right_of_le (Nat.le_add_left 1 k))
    rw [this, hcdef, h']
  have e4 : sres j (k + 1) (k + 1 + δ) P G = C ((c ^ (δ + 1)) ^ (k + 1)) * sres j (k + 1) (k + 1 + δ) F G := by
    rw [← sres_C_mul_left, hprem]
    have hP' : P = (Q * G + P) + (-Q) * G := by rw [neg_mul, add_neg_cancel_comm]
    conv_lhs => rw [hP']
    exact sres_add_mul j (k + 1) (k + 1 + δ) (Q * G + P) G (-Q) (by rw [natDegree_neg, Nat.add_comm]; exact Nat.add_le_add_left hQ _)
  have e5 : e + t = k + 1 + δ := (Nat.add_comm e t).trans ht
  rw [← e4, ← e5, e3, C_mul, mul_assoc, e1]
  exact Associated.mul_left _ e2

/-- The invariant of the subresultant PRS at a state `(F, G, a, b)` with formal degrees `n`, `m`:
every subresultant `S_j(F, G)` (`j ≤ m`, `j < n`) is divisible by `a^(m-j) b^(n-j-1)`. (The quotient is,
up to sign, the subresultant `S_j` of the initial pair.) -/
def AInv (F G : R[X]) (n m : ℕ) (a b : R) : Prop :=
  ∀ j, j ≤ m → j < n → C (a ^ (m - j) * b ^ (n - j - 1)) ∣ sres j (m - j) (n - j) F G

omit [IsDomain R] in
theorem AInv_one (F G : R[X]) (n m : ℕ) : AInv F G n m 1 1 := by
  intro j _ _; simp

/-- the division of the pseudo-remainder by `a b^δ` is exact -/
theorem AInv_prem_dvd (m1 δ : ℕ) (F G Q P : R[X]) (a b : R) (hG : G.natDegree ≤ m1 + 1)
    (hc : G.coeff (m1 + 1) ≠ 0)
    (hprem : C (G.coeff (m1 + 1) ^ (δ + 1)) * F = Q * G + P) (hQ : Q.natDegree ≤ δ) (hP : P.natDegree ≤ m1)
    (hI : AInv F G (m1 + 1 + δ) (m1 + 1) a b) : C (a * b ^ δ) ∣ P := by
  have h := hI m1 (Nat.le_succ _) (Nat.lt_add_right _ (Nat.lt_succ_self _))
  rwa [Nat.add_sub_cancel_left, Nat.add_assoc, Nat.add_sub_cancel_left, Nat.add_comm 1 δ, Nat.add_sub_cancel,
    pow_one, prem_eq_sres m1 δ F G Q P hG hc hprem hQ hP] at h

omit [IsDomain R] in
/-- the update `b ← c^δ b / b^δ` is exact (`δ = d + 1 ≥ 1`) -/
theorem AInv_b_dvd (m d : ℕ) (F G : R[X]) (a b : R) (hG : G.natDegree ≤ m)
    (hI : AInv F G (m + d + 1) m a b) : b ^ d ∣ G.coeff m ^ (d + 1) := by
  have h := hI m le_rfl (Nat.lt_succ_of_le (Nat.le_add_right _ _))
  rw [Nat.sub_self, Nat.add_assoc, Nat.add_sub_cancel_left, Nat.add_sub_cancel, pow_zero, one_mul,
    sres_zero_left m d F G hG] at h
  have := (C_dvd_iff_dvd_coeff _ _).mp h m
  rw [coeff_C_mul] at this
  rwa [pow_succ]

omit [IsDomain R] in
theorem pow_identity (a b b' c : R) (k δ e t : ℕ) (ht : t + e = k + 1 + δ) (hb' : b' * b ^ δ = c ^ δ * b) :
    (c ^ (δ + 1)) ^ (k + 1) * (a ^ (k + 1) * b ^ (δ + k)) = (c ^ t * (a * b ^ δ) ^ (k + 1)) * (c ^ e * b' ^ k) := by
  have h1 : c ^ t * c ^ e = c ^ (k + 1 + δ) := by rw [← pow_add, ht]
  have h2 : (b' * b ^ δ) ^ k = (c ^ δ * b) ^ k := by rw [hb']
  calc (c ^ (δ + 1)) ^ (k + 1) * (a ^ (k + 1) * b ^ (δ + k))
      = c ^ (k + 1 + δ) * a ^ (k + 1) * b ^ δ * (c ^ δ * b) ^ k := by ring
    _ = (c ^ t * c ^ e) * a ^ (k + 1) * b ^ δ * (b' * b ^ δ) ^ k := by rw [h1, h2]
    _ = _ := by ring

/-- preservation of the invariant by one round of the subresultant PRS -/
theorem AInv_step (m δ r : ℕ) (F G Q P G' : R[X]) (a b b' : R) (hr : r < m) (hG : G.natDegree ≤ m)
    (hc : G.coeff m ≠ 0) (ha : a ≠ 0) (hb : b ≠ 0)
    (hprem : C (G.coeff m ^ (δ + 1)) * F = Q * G + P) (hQ : Q.natDegree ≤ δ) (hP : P.natDegree ≤ r)
    (hG' : C (a * b ^ δ) * G' = P) (hb' : b' * b ^ δ = G.coeff m ^ δ * b)
    (hI : AInv F G (m + δ) m a b) : AInv G G' m r (G.coeff m) b' := by
  intro j hj _
  obtain ⟨k, rfl⟩ := Nat.exists_eq_add_of_lt (lt_of_le_of_lt hj hr)
  obtain ⟨e, rfl⟩ := Nat.exists_eq_add_of_le hj
  have hr' : j + e < j + (k + 1) := hr
  have he : e ≤ k + 1 + δ := Nat.le_add_right_of_le (Nat.le_of_lt (Nat.lt_of_add_lt_add_left hr'))
  obtain ⟨T, hT⟩ := hI j (Nat.le_add_right j (k + 1)) (Nat.lt_add_right δ (Nat.lt_succ_of_le (Nat.le_add_right j k)))
  have e1 : j + k + 1 - j = k + 1 := Nat.add_sub_cancel_left (n := j) (m := k + 1)
  have e2 : j + k + 1 + δ - j = k + 1 + δ := by
    rw [show j + k + 1 + δ = j + (k + 1 + δ) from Nat.add_assoc j (k + 1) δ, Nat.add_sub_cancel_left]
  have e3 : k + 1 + δ - 1 = δ + k := by rw [Nat.add_right_comm, Nat.add_sub_cancel, Nat.add_comm]
  rw [e1, e2, e3] at hT
  rw [Nat.add_sub_cancel_left, e1, Nat.add_sub_cancel]
  set c := G.coeff (j + k + 1) with hcdef
  have htr := sres_transfer j k δ e (k + 1 + δ - e) F G Q P G' (a * b ^ δ) (Nat.sub_add_cancel he) hG hprem hQ hP hG'
  rw [← hcdef] at htr
  have hid : C ((c ^ (δ + 1)) ^ (k + 1)) * (C (a ^ (k + 1) * b ^ (δ + k)) * T)
      = C (c ^ (k + 1 + δ - e) * (a * b ^ δ) ^ (k + 1)) * (C (c ^ e * b' ^ k) * T) := by
    rw [← mul_assoc, ← C_mul, pow_identity a b b' c k δ e (k + 1 + δ - e) (Nat.sub_add_cancel he) hb', C_mul, mul_assoc]
  rw [hT, hid] at htr
  have hne : C (c ^ (k + 1 + δ - e) * (a * b ^ δ) ^ (k + 1)) ≠ 0 :=
    C_ne_zero.mpr (mul_ne_zero (pow_ne_zero _ hc) (pow_ne_zero _ (mul_ne_zero ha (pow_ne_zero _ hb))))
  -- both sides of `htr` carry the non-zero factor `C (c^t (a b^δ)^(k+1))`: cancel it
  have has := Associated.of_mul_left htr (Associated.refl _) hne
  exact (Dvd.intro _ rfl).trans has.symm.dvd

end NTV.Subres
