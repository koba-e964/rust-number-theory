import NTV.Proofs.Lemmas.Subres2Loop
import NTV.Proofs.Lemmas.GcdShape
/-! # Exactness and totality of `resultant_smart_gcd` on non-zero canonical inputs. -/
open Polynomial
namespace NTV.Res
open NTV.PolyG NTV.Subres

/-- `resultant_smart_gcd` never panics, never runs out of fuel and performs only exact divisions on
non-zero canonical input -/
theorem resultantSmartGcd_total (f g : List Int) (hf : f ≠ []) (hg : g ≠ []) (hcf : Canon f) (hcg : Canon g) :
    ∃ r, resultantSmartGcdE f g = some (.ok (r, true)) := by
  rw [resultantSmartGcdE_eq f g hf hg hcf hcg]
  have hsp1 := contPP_spec f hf hcf
  have hsp2 := contPP_spec g hg hcg
  obtain ⟨f2, hl⟩ := gcdLoop_total ((contPP f).2.length + (contPP g).2.length + 3) (contPP f).2 (contPP g).2 1 1 true
    (MInv_init _ _ hsp1.2.2.2 hsp2.2.2.2) (need_le _ _)
  rw [hl]
  obtain ⟨hc2, hne2⟩ := gcdLoop_canon _ _ _ _ _ _ f2 hsp1.2.2.2 hsp2.2.2.2 (pp_ne_nil f hf hcf) hl
  simp only [bind, Except.bind, content_ok f2 hne2 hc2, polyDiv_content f2 hne2 hc2, pure, Except.pure]
  exact ⟨_, rfl⟩

/-- the exactness flag of `resultant_smart_gcd` is always set -/
theorem resultantSmartGcd_flag (f g : List Int) (hf : f ≠ []) (hg : g ≠ []) (hcf : Canon f) (hcg : Canon g)
    (r : List Int) (ok : Bool) (h : resultantSmartGcdE f g = some (.ok (r, ok))) : ok = true := by
  obtain ⟨r', hr⟩ := resultantSmartGcd_total f g hf hg hcf hcg
  rw [hr] at h
  simp only [Option.some.injEq, Except.ok.injEq, Prod.mk.injEq] at h
  exact h.2.symm

end NTV.Res
