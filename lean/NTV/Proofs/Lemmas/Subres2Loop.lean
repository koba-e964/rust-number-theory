import NTV.Proofs.Lemmas.SubresLoop
import NTV.Proofs.Lemmas.Subres1Step
/-! # The fundamental theorem of subresultant PRS for the model: every truncated division performed by
`step` (hence by `resultant_smart` / `resultant_smart_gcd`) is exact, for all canonical inputs. -/
open Polynomial
namespace NTV.Res
open NTV.PolyG NTV.Subres

theorem tdivX_of_dvd (x d : Int) (hd : d ≠ 0) (h : d ∣ x) :
    tdivX x d = .ok (Int.tdiv x d, true) ∧ Int.tdiv x d * d = x := by
  refine ⟨?_, Int.tdiv_mul_cancel h⟩
  unfold tdivX
  simp [hd, Int.tmod_eq_zero_of_dvd h]

theorem dvd_of_C_dvd_toPoly (l : List Int) (d : Int) (h : C d ∣ toPoly l) : ∀ c ∈ l, d ∣ c := by
  intro c hc
  obtain ⟨i, hi, rfl⟩ := List.getElem_of_mem hc
  have := (C_dvd_iff_dvd_coeff _ _).mp h i
  rw [coeff_toPoly, List.getD_eq_getElem?_getD, List.getElem?_eq_getElem hi] at this
  simpa using this

theorem divCoeffs_of_dvd (h : List Int) (factor : Int) (hne : h ≠ []) (hf : factor ≠ 0)
    (hd : C factor ∣ toPoly h) :
    divCoeffs h factor = .ok (h.map (fun c => Int.tdiv c factor), true) := by
  have he : h.isEmpty = false := List.isEmpty_eq_false_iff.mpr hne
  have hall : h.all (fun c => Int.tmod c factor == 0) = true := by
    rw [List.all_eq_true]
    intro c hc
    simpa using Int.tmod_eq_zero_of_dvd (dvd_of_C_dvd_toPoly h factor hd c hc)
  simp [divCoeffs, he, hf, hall]

theorem step_eq (f g : List Int) (a b : Int) (g' : List Int) (b' : Int) (hlc : lc g ≠ 0) (hg : 0 < g.length)
    (h1 : divCoeffs (pseudoDivRem f g).2 (a * b ^ (f.length - g.length)) = .ok (g', true))
    (h2 : tdivX (lc g ^ (f.length - g.length) * b) (b ^ (f.length - g.length)) = .ok (b', true)) :
    step f g a b = .ok ((g, g', lc g, b'), true) := by
  unfold step
  simp only [pseudoRem, hlc, ↓reduceIte, bind, Except.bind, Nat.sub_sub_sub_cancel_right hg, h1, h2, pure,
    Except.pure, Bool.and_self]

structure MInv (f g : List Int) (a b : Int) : Prop where
  cf : Canon f
  cg : Canon g
  a0 : a ≠ 0
  b0 : b ≠ 0
  ainv : g ≠ [] → AInv (toPoly f) (toPoly g) (f.length - 1) (g.length - 1) a b
  sw : f.length < g.length → a = 1 ∧ b = 1

theorem MInv_init (f g : List Int) (hcf : Canon f) (hcg : Canon g) : MInv f g 1 1 :=
  ⟨hcf, hcg, one_ne_zero, one_ne_zero, fun _ => AInv_one _ _ _ _, fun _ => ⟨rfl, rfl⟩⟩

theorem MInv_swap (f g : List Int) (a b : Int) (I : MInv f g a b) (h : f.length < g.length) : MInv g f a b := by
  obtain ⟨ha, hb⟩ := I.sw h
  subst ha; subst hb
  exact ⟨I.cg, I.cf, one_ne_zero, one_ne_zero, fun _ => AInv_one _ _ _ _, fun _ => ⟨rfl, rfl⟩⟩

theorem coeff_toPoly_top (g : List Int) (hg : g ≠ []) : (toPoly g).coeff (g.length - 1) = lc g := by
  rw [coeff_toPoly, lc_eq_getD g hg]

theorem b_update_dvd (f g : List Int) (a b : Int) (I : MInv f g a b) (hg : g ≠ [])
    (hfg : g.length ≤ f.length) :
    b ^ (f.length - g.length) ∣ lc g ^ (f.length - g.length) * b := by
  have hgl : 0 < g.length := List.length_pos_of_ne_nil hg
  cases hδ : f.length - g.length with
  | zero => simp
  | succ d =>
    have e2 : f.length - 1 = g.length - 1 + d + 1 := by omega
    have hA := I.ainv hg
    rw [e2] at hA
    have := AInv_b_dvd (g.length - 1) d (toPoly f) (toPoly g) a b (natDegree_toPoly_le g) hA
    rw [coeff_toPoly_top g hg] at this
    rw [pow_succ b d]
    exact mul_dvd_mul this (dvd_refl b)

/-- `AInv_prem_dvd`, `AInv_b_dvd`, `AInv_step` at the formal degrees `m1 + 1 = |g| − 1`, `m1 + 1 + δ = |f| − 1` -/
theorem step_exact (f g : List Int) (a b : Int) (I : MInv f g a b) (hg2 : 2 ≤ g.length)
    (hfg : g.length ≤ f.length) :
    ∃ g' b', step f g a b = .ok ((g, g', lc g, b'), true) ∧ MInv g g' (lc g) b' ∧ g'.length < g.length := by
  obtain ⟨-, em, en⟩ := degree_arith hg2 hfg
  have hg0 : 0 < g.length := Nat.zero_lt_of_lt hg2
  have hgne : g ≠ [] := List.ne_nil_of_length_pos hg0
  have hfne : f ≠ [] := List.ne_nil_of_length_pos (hg0.trans_le hfg)
  have hlc : lc g ≠ 0 := lc_ne_zero g hgne I.cg
  obtain ⟨p1, p2, -, p4⟩ := pseudoDivRem_spec f g hfne hgne I.cg hfg
  have hPlen : (pseudoDivRem f g).2.length - 1 ≤ g.length - 2 := by omega
  have pq := pseudoDivRem_q_degree f g hfne hgne hfg
  have hPdeg : (toPoly (pseudoDivRem f g).2).natDegree ≤ g.length - 2 :=
    (natDegree_toPoly_le _).trans hPlen
  have hGdeg : (toPoly g).natDegree ≤ g.length - 2 + 1 := (natDegree_toPoly_le g).trans em.le
  have hGc : (toPoly g).coeff (g.length - 2 + 1) = lc g := by rw [← em]; exact coeff_toPoly_top g hgne
  have hA := I.ainv hgne
  rw [en, em] at hA
  rw [← hGc] at p1
  have hbδ : b ^ (f.length - g.length) ≠ 0 := pow_ne_zero _ I.b0
  obtain ⟨t1, t2⟩ := tdivX_of_dvd _ _ hbδ (b_update_dvd f g a b I hgne hfg)
  have hb'0 : Int.tdiv (lc g ^ (f.length - g.length) * b) (b ^ (f.length - g.length)) ≠ 0 := by
    intro e; rw [e, zero_mul] at t2
    exact (mul_ne_zero (pow_ne_zero _ hlc) I.b0) t2.symm
  by_cases hPe : (pseudoDivRem f g).2 = []
  · -- zero remainder
    refine ⟨[], _, step_eq f g a b [] _ hlc hg0 ?_ t1,
      ⟨I.cg, canon_nil, hlc, hb'0, fun h => absurd rfl h, fun h => by simp at h⟩, Nat.lt_of_lt_of_le Nat.zero_lt_two hg2⟩
    rw [hPe]; rfl
  · have hdc := divCoeffs_of_dvd _ _ hPe (mul_ne_zero I.a0 hbδ)
      (AInv_prem_dvd _ _ (toPoly f) (toPoly g) _ _ a b hGdeg (hGc ▸ hlc) p1 pq hPdeg hA)
    obtain ⟨-, d2, d3, d4⟩ := divCoeffs_exact _ _ _ hdc
    have hlen := d3.trans_lt p2
    refine ⟨_, _, step_eq f g a b _ _ hlc hg0 hdc t1,
      ⟨I.cg, d4 p4, hlc, hb'0, fun _ => ?_, fun h => absurd h (Nat.lt_asymm hlen)⟩, hlen⟩
    have := AInv_step (g.length - 2 + 1) _ ((pseudoDivRem f g).2.length - 1) (toPoly f) (toPoly g) _ _ _ a b _
      (Nat.lt_succ_of_le hPlen) hGdeg (hGc ▸ hlc) I.a0 I.b0 p1 pq (natDegree_toPoly_le _) d2 (hGc ▸ t2) hA
    rwa [hGc, ← em, ← d3] at this

/-- fuel needed from a state: one round for a possible swap, then one per length of `g` -/
def need (f g : List Int) : Nat := if f.length < g.length then f.length + 2 else g.length + 1

theorem need_pos (f g : List Int) : 0 < need f g := by
  unfold need; split <;> omega

theorem need_swap {f g : List Int} (h : f.length < g.length) : need g f < need f g := by
  unfold need; rw [if_pos h, if_neg (Nat.lt_asymm h)]; omega

theorem need_step {f g g' : List Int} (hfg : g.length ≤ f.length) (h : g'.length < g.length) :
    need g g' < need f g := by
  unfold need; rw [if_neg (Nat.not_lt.mpr hfg), if_neg (Nat.lt_asymm h)]; omega

theorem need_le (f g : List Int) : need f g ≤ f.length + g.length + 3 := by
  unfold need; split <;> omega

theorem final_dvd (f g : List Int) (a b : Int) (I : MInv f g a b) (hg : g.length = 1) (hf : 2 ≤ f.length) :
    b ^ (f.length - 1 - 1) ∣ (g.getD 0 0) ^ (f.length - 1) := by
  have e1 : g.length - 1 = 0 := by rw [hg]
  have e2 : f.length - 1 = 0 + (f.length - 1 - 1) + 1 := by omega
  have hA := I.ainv (List.ne_nil_of_length_pos (hg ▸ Nat.zero_lt_one))
  rw [e1, e2] at hA
  have := AInv_b_dvd 0 _ (toPoly f) (toPoly g) a b ((natDegree_toPoly_le g).trans e1.le) hA
  rw [coeff_toPoly] at this
  rwa [e2, Nat.zero_add]

theorem resLoop_total (fuel : Nat) : ∀ (f g : List Int) (a b s : Int) (ok : Bool),
    MInv f g a b → need f g ≤ fuel → ∃ v, resLoop fuel f g a b s ok = some (.ok (v, ok)) := by
  induction fuel with
  | zero => intro f g a b s ok _ h; exact absurd h (Nat.not_le.mpr (need_pos f g))
  | succ fuel ih =>
    intro f g a b s ok I hfuel
    rcases loop_cases f g with rfl | hg | ⟨hg, hfg⟩ | ⟨hg, hfg⟩
    · exact ⟨0, rfl⟩
    · rcases Nat.lt_or_ge f.length 2 with hf | hf
      · exact ⟨1, resLoop_const hf hg⟩
      · obtain ⟨t1, -⟩ := tdivX_of_dvd _ _ (pow_ne_zero _ I.b0) (final_dvd f g a b I hg hf)
        rw [resLoop_last hf hg, t1]
        simp only [Bool.and_true]
        exact ⟨_, rfl⟩
    · rw [resLoop_swap hg hfg]
      exact ih _ _ _ _ _ _ (MInv_swap f g a b I hfg) (Nat.le_of_lt_succ ((need_swap hfg).trans_le hfuel))
    · obtain ⟨g', b', hs, I', hlen⟩ := step_exact f g a b I hg hfg
      rw [resLoop_step hg hfg, hs]
      simp only [Bool.and_true]
      exact ih _ _ _ _ _ _ I' (Nat.le_of_lt_succ ((need_step hfg hlen).trans_le hfuel))

theorem gcdLoop_total (fuel : Nat) : ∀ (f g : List Int) (a b : Int) (ok : Bool),
    MInv f g a b → need f g ≤ fuel → ∃ r, gcdLoop fuel f g a b ok = some (.ok (r, ok)) := by
  induction fuel with
  | zero => intro f g a b ok _ h; exact absurd h (Nat.not_le.mpr (need_pos f g))
  | succ fuel ih =>
    intro f g a b ok I hfuel
    rcases loop_cases f g with rfl | hg | ⟨hg, hfg⟩ | ⟨hg, hfg⟩
    · exact ⟨f, rfl⟩
    · exact ⟨[1], gcdLoop_const hg⟩
    · rw [gcdLoop_swap hg hfg]
      exact ih _ _ _ _ _ (MInv_swap f g a b I hfg) (Nat.le_of_lt_succ ((need_swap hfg).trans_le hfuel))
    · obtain ⟨g', b', hs, I', hlen⟩ := step_exact f g a b I hg hfg
      rw [gcdLoop_step hg hfg, hs]
      simp only [Bool.and_true]
      exact ih _ _ _ _ _ I' (Nat.le_of_lt_succ ((need_step hfg hlen).trans_le hfuel))

/-- `resultant_smart` never panics, never runs out of fuel and performs only exact divisions on
canonical input -/
theorem resultantSmart_total (f g : List Int) (hcf : Canon f) (hcg : Canon g) :
    ∃ v, resultantSmartE f g = some (.ok (v, true)) := by
  unfold resultantSmartE
  split
  · exact ⟨0, rfl⟩
  · exact resLoop_total _ f g 1 1 1 true (MInv_init f g hcf hcg) (need_le f g)

end NTV.Res
