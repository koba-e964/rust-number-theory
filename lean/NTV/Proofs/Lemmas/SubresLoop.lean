import NTV.Model.Resultant
import NTV.Proofs.Lemmas.PolyDivExact
import NTV.Proofs.Lemmas.SubresStep
/-! The loops of `resultant_smart` and `resultant_smart_gcd`: what one round (`step`) yields when its
divisions are exact (`step_spec`), the one-round equations of `resLoop` and `gcdLoop`, and, for a run whose
flag is set, the invariant `Inv` showing that `resLoop` returns the resultant (`resLoop_correct`). -/
open Polynomial
namespace NTV.Res
open NTV.PolyG

theorem tdivX_exact (x d q : Int) (h : tdivX x d = .ok (q, true)) : d ≠ 0 ∧ q * d = x := by
  unfold tdivX at h
  split at h
  · simp at h
  · rename_i hd
    simp only [Except.ok.injEq, Prod.mk.injEq, beq_iff_eq] at h
    obtain ⟨rfl, hm⟩ := h
    exact ⟨hd, Int.tdiv_mul_cancel (Int.dvd_of_tmod_eq_zero hm)⟩

theorem divCoeffs_exact (h g' : List Int) (factor : Int) (hd : divCoeffs h factor = .ok (g', true)) :
    (h ≠ [] → factor ≠ 0) ∧ C factor * toPoly g' = toPoly h ∧ g'.length = h.length ∧ (Canon h → Canon g') := by
  rcases eq_or_ne h [] with rfl | hne
  · cases hd
    exact ⟨fun h => absurd rfl h, mul_zero _, rfl, id⟩
  unfold divCoeffs at hd
  simp only [List.isEmpty_eq_false_iff.mpr hne, Bool.false_eq_true, ↓reduceIte] at hd
  split at hd
  · simp at hd
  · rename_i hf
    simp only [Except.ok.injEq, Prod.mk.injEq] at hd
    obtain ⟨rfl, hall⟩ := hd
    have hdv : ∀ c ∈ h, factor ∣ c := by
      intro c hc
      have := List.all_eq_true.mp hall c hc
      exact Int.dvd_of_tmod_eq_zero (by simpa using this)
    refine ⟨fun _ => hf, toPoly_map_of_div factor _ h fun c hc => Int.mul_tdiv_cancel' (hdv c hc), by simp, ?_⟩
    intro hc hne'
    have hlast : (h.map (fun c => Int.tdiv c factor)).getLast hne' = Int.tdiv (h.getLast hne) factor := by
      rw [List.getLast_map]
    rw [hlast]
    intro e
    have := Int.mul_tdiv_cancel' (hdv _ (List.getLast_mem hne))
    rw [e, mul_zero] at this
    exact hc hne this.symm

theorem divLoop_fst_length (b : List Int) (coefOf : Int → Int) (bdeg : Nat) :
    ∀ (i : Nat) (tmp acc : List Int), (divLoop b coefOf bdeg i tmp acc).1.length = i + acc.length := by
  intro i
  induction i with
  | zero => intro tmp acc; simp [divLoop]
  | succ i ih => intro tmp acc; simp only [divLoop]; rw [ih]; simp; omega

theorem pseudoDivRem_q_degree (f g : List Int) (hf : f ≠ []) (hg : g ≠ []) (hfg : g.length ≤ f.length) :
    (toPoly (pseudoDivRem f g).1).natDegree ≤ f.length - g.length := by
  unfold pseudoDivRem
  have h1 : f.isEmpty = false := List.isEmpty_eq_false_iff.mpr hf
  have h2 : g.isEmpty = false := List.isEmpty_eq_false_iff.mpr hg
  have h3 : ¬ f.length < g.length := Nat.not_lt.mpr hfg
  simp only [h1, h2, Bool.or_self, h3, decide_false, Bool.false_eq_true, ↓reduceIte, toPoly_fromRaw]
  refine le_trans (natDegree_toPoly_le _) ?_
  rw [divLoop_fst_length]; simp

theorem step_spec (f g : List Int) (a b : Int) (f' g' : List Int) (a' b' : Int)
    (hf : f ≠ []) (hg : g ≠ []) (hcg : Canon g) (hfg : g.length ≤ f.length)
    (h : step f g a b = .ok ((f', g', a', b'), true)) :
    f' = g ∧ a' = lc g ∧ g'.length < g.length ∧ Canon g' ∧
    ∃ Q P : ℤ[X], C (lc g ^ (f.length - g.length + 1)) * toPoly f = Q * toPoly g + P ∧
      Q.natDegree ≤ f.length - g.length ∧
      C (a * b ^ (f.length - g.length)) * toPoly g' = P ∧
      b' * b ^ (f.length - g.length) = lc g ^ (f.length - g.length) * b ∧
      (g' ≠ [] → a * b ^ (f.length - g.length) ≠ 0) := by
  have hlc : lc g ≠ 0 := lc_ne_zero g hg hcg
  have hgl : 0 < g.length := List.length_pos_of_ne_nil hg
  unfold step at h
  simp only [pseudoRem, hlc, ↓reduceIte, bind, Except.bind, Nat.sub_sub_sub_cancel_right hgl] at h
  obtain ⟨p1, p2, p3, p4⟩ := pseudoDivRem_spec f g hf hg hcg hfg
  split at h
  · simp at h
  · rename_i v hdc
    obtain ⟨g1, ok1⟩ := v
    simp only at h
    split at h
    · simp at h
    · rename_i w htd
      obtain ⟨b1, ok2⟩ := w
      simp only [pure, Except.pure, Except.ok.injEq, Prod.mk.injEq, Bool.and_eq_true] at h
      obtain ⟨⟨rfl, rfl, rfl, rfl⟩, rfl, rfl⟩ := h
      obtain ⟨-, hbq⟩ := tdivX_exact _ _ _ htd
      obtain ⟨d1, d2, d3, d4⟩ := divCoeffs_exact _ _ _ hdc
      exact ⟨rfl, rfl, d3 ▸ p2, d4 p4, _, _, p1, pseudoDivRem_q_degree f g hf hg hfg, d2, hbq,
        fun hne => d1 fun e => hne (List.length_eq_zero_iff.mp (by rw [d3, e]; rfl))⟩

theorem loop_cases (f g : List Int) :
    g = [] ∨ g.length = 1 ∨ (2 ≤ g.length ∧ f.length < g.length) ∨ (2 ≤ g.length ∧ g.length ≤ f.length) := by
  rcases g with _ | ⟨x, _ | ⟨y, t⟩⟩
  · exact .inl rfl
  · exact .inr (.inl rfl)
  · simp only [List.length_cons]; omega

section
variable {fuel : Nat} {f g : List Int} {a b s : Int} {ok : Bool}

theorem isEmpty_of_length {g : List Int} {n : Nat} (h : n < g.length) : g.isEmpty = false :=
  List.isEmpty_eq_false_iff.mpr (List.ne_nil_of_length_pos (Nat.zero_lt_of_lt h))

theorem resLoop_nil : resLoop (fuel + 1) f [] a b s ok = some (.ok (0, ok)) := rfl

theorem resLoop_const (hf : f.length < 2) (hg : g.length = 1) :
    resLoop (fuel + 1) f g a b s ok = some (.ok (1, ok)) := by
  have h1 : f.length - 1 = 0 := Nat.sub_eq_zero_of_le (Nat.le_of_lt_succ hf)
  simp only [resLoop, isEmpty_of_length (hg ▸ Nat.zero_lt_one), hg, h1, Nat.sub_self, Bool.false_eq_true, ↓reduceIte]

theorem resLoop_last (hf : 2 ≤ f.length) (hg : g.length = 1) :
    resLoop (fuel + 1) f g a b s ok =
      match tdivX (g.getD 0 0 ^ (f.length - 1)) (b ^ (f.length - 1 - 1)) with
      | .error e => some (.error e)
      | .ok (r, ok') => some (.ok (if s = -1 then -r else r, ok && ok')) := by
  have h1 : ¬ f.length - 1 = 0 := Nat.sub_ne_zero_of_lt hf
  simp only [resLoop, isEmpty_of_length (hg ▸ Nat.zero_lt_one), hg, h1, Nat.sub_self, Bool.false_eq_true, ↓reduceIte,
    Nat.zero_mod, Nat.zero_ne_one, and_false]
  cases tdivX (g.getD 0 0 ^ (f.length - 1)) (b ^ (f.length - 1 - 1)) <;> rfl

theorem resLoop_swap (hg : 2 ≤ g.length) (hfg : f.length < g.length) :
    resLoop (fuel + 1) f g a b s ok =
      resLoop fuel g f a b (s * (-1) ^ ((f.length - 1) * (g.length - 1))) ok := by
  have h1 : ¬ g.length - 1 = 0 := Nat.sub_ne_zero_of_lt hg
  have h2 : f.length - 1 < g.length - 1 := pred_lt_pred hg hfg
  simp only [resLoop, isEmpty_of_length hg, h1, h2, toggle_eq, Bool.false_eq_true, ↓reduceIte]

theorem resLoop_step (hg : 2 ≤ g.length) (hfg : g.length ≤ f.length) :
    resLoop (fuel + 1) f g a b s ok =
      match step f g a b with
      | .error e => some (.error e)
      | .ok ((f', g', a', b'), ok') =>
        resLoop fuel f' g' a' b' (s * (-1) ^ ((f.length - 1) * (g.length - 1))) (ok && ok') := by
  have h1 : ¬ g.length - 1 = 0 := Nat.sub_ne_zero_of_lt hg
  have h2 : ¬ f.length - 1 < g.length - 1 := Nat.not_lt.mpr (Nat.sub_le_sub_right hfg 1)
  simp only [resLoop, isEmpty_of_length hg, h1, h2, toggle_eq, Bool.false_eq_true, ↓reduceIte]
  rfl

theorem gcdLoop_nil : gcdLoop (fuel + 1) f [] a b ok = some (.ok (f, ok)) := rfl

theorem gcdLoop_const (hg : g.length = 1) : gcdLoop (fuel + 1) f g a b ok = some (.ok ([1], ok)) := by
  simp only [gcdLoop, isEmpty_of_length (hg ▸ Nat.zero_lt_one), hg, Nat.sub_self, Bool.false_eq_true, ↓reduceIte]

theorem gcdLoop_swap (hg : 2 ≤ g.length) (hfg : f.length < g.length) :
    gcdLoop (fuel + 1) f g a b ok = gcdLoop fuel g f a b ok := by
  have h1 : ¬ g.length - 1 = 0 := Nat.sub_ne_zero_of_lt hg
  have h2 : f.length - 1 < g.length - 1 := pred_lt_pred hg hfg
  simp only [gcdLoop, isEmpty_of_length hg, h1, h2, Bool.false_eq_true, ↓reduceIte]

theorem gcdLoop_step (hg : 2 ≤ g.length) (hfg : g.length ≤ f.length) :
    gcdLoop (fuel + 1) f g a b ok =
      match step f g a b with
      | .error e => some (.error e)
      | .ok ((f', g', a', b'), ok') => gcdLoop fuel f' g' a' b' (ok && ok') := by
  have h1 : ¬ g.length - 1 = 0 := Nat.sub_ne_zero_of_lt hg
  have h2 : ¬ f.length - 1 < g.length - 1 := Nat.not_lt.mpr (Nat.sub_le_sub_right hfg 1)
  simp only [gcdLoop, isEmpty_of_length hg, h1, h2, Bool.false_eq_true, ↓reduceIte]
  rfl

end

theorem resLoop_flag (fuel : Nat) : ∀ (f g : List Int) (a b s : Int) (ok : Bool) (v : Int),
    resLoop fuel f g a b s ok = some (.ok (v, true)) → ok = true := by
  induction fuel with
  | zero => intro f g a b s ok v h; cases h
  | succ fuel ih =>
    intro f g a b s ok v h
    rcases loop_cases f g with rfl | hg | ⟨hg, hfg⟩ | ⟨hg, hfg⟩
    · cases h; rfl
    · rcases Nat.lt_or_ge f.length 2 with hf | hf
      · rw [resLoop_const hf hg] at h; cases h; rfl
      · rw [resLoop_last hf hg] at h
        split at h
        · cases h
        · simp only [Option.some.injEq, Except.ok.injEq, Prod.mk.injEq, Bool.and_eq_true] at h
          exact h.2.1
    · rw [resLoop_swap hg hfg] at h
      exact ih _ _ _ _ _ _ _ h
    · rw [resLoop_step hg hfg] at h
      split at h
      · cases h
      · exact (Bool.and_eq_true_iff.mp (ih _ _ _ _ _ _ _ h)).1

/-- the formal degrees `m − 1 ≥ n − 1 ≥ 1` written as `n1 + 1 + δ`, `n1 + 1` with n1 = n − 2, δ = m − n -/
theorem degree_arith {m n : Nat} (hn : 2 ≤ n) (hmn : n ≤ m) :
    m - 2 = n - 2 + (m - n) ∧ n - 1 = n - 2 + 1 ∧ m - 1 = n - 2 + 1 + (m - n) := by
  omega

theorem toPoly_const (c : Int) : toPoly [c] = C c := by simp [toPoly]

theorem resultant_toPoly (f g : List Int) (hf : f ≠ []) (hg : g ≠ []) (hcf : Canon f) (hcg : Canon g) :
    resultant (toPoly f) (toPoly g) = resultant (toPoly f) (toPoly g) (f.length - 1) (g.length - 1) := by
  rw [(natDegree_toPoly f hf hcf).1, (natDegree_toPoly g hg hcg).1]

/-- loop invariant of `resultant_smart` relative to the resultant R0 of the original inputs -/
structure Inv (R0 : ℤ) (f g : List Int) (a b s : Int) : Prop where
  cf : Canon f
  cg : Canon g
  fne : f ≠ []
  a0 : a ≠ 0
  b0 : b ≠ 0
  s1 : IsUnit s
  gz : g = [] → R0 = 0
  main : g ≠ [] → R0 * b ^ (f.length - 2) * a ^ (g.length - 1) = s * resultant (toPoly f) (toPoly g)
  sw : f.length < g.length → a = 1 ∧ b = 1
  c1 : f.length = 1 → s = 1

namespace Inv
variable {R0 : ℤ} {f g : List Int} {a b s : Int} (I : Inv R0 f g a b s)
include I

theorem const (hf : f.length < 2) (hg : g.length = 1) : R0 = 1 := by
  have hf1 : f.length = 1 := by have := List.length_pos_of_ne_nil I.fne; omega
  obtain ⟨f0, rfl⟩ := List.length_eq_one_iff.mp hf1
  obtain ⟨g0, rfl⟩ := List.length_eq_one_iff.mp hg
  simpa [toPoly_const, I.c1 rfl] using I.main (List.cons_ne_nil _ _)

/-- the code after the loop: `g = [g0]`, `Res(f, g0) = g0 ^ deg f` -/
theorem last {r : Int} (hg : g.length = 1)
    (h : tdivX (g.getD 0 0 ^ (f.length - 1)) (b ^ (f.length - 1 - 1)) = .ok (r, true)) :
    (if s = -1 then -r else r) = R0 := by
  obtain ⟨g0, rfl⟩ := List.length_eq_one_iff.mp hg
  obtain ⟨hb, hr⟩ := tdivX_exact _ _ _ h
  have hm := I.main (List.cons_ne_nil _ _)
  rw [toPoly_const, natDegree_C, resultant_C_zero_right, (natDegree_toPoly f I.fne I.cf).1] at hm
  simp only [List.length_singleton, Nat.sub_self, pow_zero, mul_one] at hm
  have : R0 = s * r := mul_right_cancel₀ hb (by rw [mul_assoc, hr]; exact hm)
  rcases Int.isUnit_iff.mp I.s1 with rfl | rfl <;> simp [this]

theorem swap (hfg : f.length < g.length) : Inv R0 g f a b (s * (-1) ^ ((f.length - 1) * (g.length - 1))) := by
  obtain ⟨rfl, rfl⟩ := I.sw hfg
  have hfl := List.length_pos_of_ne_nil I.fne
  have hg : g ≠ [] := List.ne_nil_of_length_pos (Nat.zero_lt_of_lt hfg)
  refine ⟨I.cg, I.cf, hg, I.a0, I.b0, I.s1.mul (isUnit_one.neg.pow _), fun e => absurd e I.fne, fun _ => ?_,
    fun _ => ⟨rfl, rfl⟩, fun _ => by omega⟩
  have hm := I.main hg
  simp only [one_pow, mul_one] at hm ⊢
  rw [hm, resultant_toPoly f g I.fne hg I.cf I.cg, resultant_toPoly g f hg I.fne I.cg I.cf,
    resultant_comm (toPoly f), mul_assoc]

/-- `subres_step` with n1 = |g| − 2, δ = |f| − |g| -/
theorem step {f' g' : List Int} {a' b' : Int} (hg : 2 ≤ g.length) (hfg : g.length ≤ f.length)
    (h : step f g a b = .ok ((f', g', a', b'), true)) :
    Inv R0 f' g' a' b' (s * (-1) ^ ((f.length - 1) * (g.length - 1))) := by
  obtain ⟨e1, e2, e3⟩ := degree_arith hg hfg
  have hgne : g ≠ [] := List.ne_nil_of_length_pos (Nat.zero_lt_of_lt hg)
  obtain ⟨hf', ha', hlen, hcg', Q, P, hprem, hQ, hG', hb', -⟩ :=
    step_spec f g a b f' g' a' b' I.fne hgne I.cg hfg h
  subst f' a'
  obtain ⟨hF, -, -⟩ := natDegree_toPoly f I.fne I.cf
  obtain ⟨hG, hL, -⟩ := natDegree_toPoly g hgne I.cg
  have hL0 : lc g ≠ 0 := lc_ne_zero g hgne I.cg
  have hb'0 : b' ≠ 0 := by
    rintro rfl
    rw [zero_mul] at hb'
    exact mul_ne_zero (pow_ne_zero _ hL0) I.b0 hb'.symm
  have hk := natDegree_toPoly_canon g' hcg'
  have hm := I.main hgne
  rw [e1, e2] at hm
  have key := NTV.Subres.subres_step (toPoly f) (toPoly g) Q P (toPoly g') a b (lc g) b' R0 s
    (g.length - 2) (f.length - g.length) (g'.length - 1) (f.length - 1 - (g'.length - 1))
    (hF.trans e3) (hG.trans e2) hL hQ hprem hG' hk
    ((Nat.add_sub_cancel' (Nat.sub_le_sub_right (hlen.le.trans hfg) 1)).trans e3) hb' I.a0 I.b0 hL0 hm
  rw [← e3, ← e2] at key
  refine ⟨I.cg, hcg', hgne, hL0, hb'0, I.s1.mul (isUnit_one.neg.pow _), ?_, fun _ => key,
    fun h => (Nat.lt_asymm hlen h).elim, fun h => absurd (h ▸ hg) (by decide)⟩
  rintro rfl
  have hz : resultant (toPoly g) (toPoly ([] : List Int)) = 0 :=
    resultant_zero_right_of_natDegree_ne_zero _ (hG ▸ Nat.sub_ne_zero_of_lt hg)
  rw [hz, mul_zero] at key
  exact (mul_eq_zero.mp ((mul_eq_zero.mp key).resolve_right (by simp))).resolve_right (pow_ne_zero _ hb'0)

end Inv

theorem resLoop_correct (R0 : ℤ) (fuel : Nat) : ∀ (f g : List Int) (a b s : Int) (ok : Bool) (v : Int),
    Inv R0 f g a b s → resLoop fuel f g a b s ok = some (.ok (v, true)) → v = R0 := by
  induction fuel with
  | zero => intro f g a b s ok v _ h; cases h
  | succ fuel ih =>
    intro f g a b s ok v I h
    rcases loop_cases f g with rfl | hg | ⟨hg, hfg⟩ | ⟨hg, hfg⟩
    · cases h; exact (I.gz rfl).symm
    · rcases Nat.lt_or_ge f.length 2 with hf | hf
      · rw [resLoop_const hf hg] at h; cases h; exact (I.const hf hg).symm
      · rw [resLoop_last hf hg] at h
        split at h
        · cases h
        · rename_i r ok' htd
          simp only [Option.some.injEq, Except.ok.injEq, Prod.mk.injEq, Bool.and_eq_true] at h
          obtain ⟨rfl, -, rfl⟩ := h
          exact I.last hg htd
    · rw [resLoop_swap hg hfg] at h
      exact ih _ _ _ _ _ _ _ (I.swap hfg) h
    · rw [resLoop_step hg hfg] at h
      split at h
      · cases h
      · rename_i f' g' a' b' ok' hs
        obtain rfl : ok' = true := (Bool.and_eq_true_iff.mp (resLoop_flag _ _ _ _ _ _ _ _ h)).2
        exact ih _ _ _ _ _ _ _ (I.step hg hfg hs) h

end NTV.Res
