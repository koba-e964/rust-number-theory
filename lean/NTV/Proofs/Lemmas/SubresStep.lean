import Mathlib.RingTheory.Polynomial.Resultant.Basic
import Mathlib.Tactic
open Polynomial
namespace NTV.Subres

/-- One step of the subresultant recurrence of `resultant_smart`, assuming the two divisions it
performs are exact (`hG'`, `hb'`). Invariant: `R0 * b^(m-1) * a^n = s * Res(F, G)`. -/
theorem subres_step (F G Q P G' : ℤ[X]) (a b L b' R0 s : ℤ) (n1 δ k e : ℕ)
    -- degrees: deg G = n = n1+1, deg F = m = n + δ, deg G' = deg P = k, m = k + e
    (hF : F.natDegree = n1 + 1 + δ) (hG : G.natDegree = n1 + 1) (hL : G.leadingCoeff = L)
    (hQ : Q.natDegree ≤ δ)
    (hprem : C (L ^ (δ + 1)) * F = Q * G + P)
    (hG' : C (a * b ^ δ) * G' = P) (hk : G'.natDegree = k) (hke : k + e = n1 + 1 + δ)
    (hb' : b' * b ^ δ = L ^ δ * b) (ha : a ≠ 0) (hb : b ≠ 0) (hL0 : L ≠ 0)
    (hinv : R0 * b ^ (n1 + δ) * a ^ (n1 + 1) = s * resultant F G) :
    R0 * b' ^ n1 * L ^ k = (s * (-1) ^ ((n1 + 1 + δ) * (n1 + 1))) * resultant G G' := by
  have hab : a * b ^ δ ≠ 0 := mul_ne_zero ha (pow_ne_zero _ hb)
  have hPdeg : P.natDegree = k := by
    rw [← hG', natDegree_C_mul hab, hk]
  -- E1: scaling the second argument
  have E1 : resultant G P (n1 + 1) k = (a * b ^ δ) ^ (n1 + 1) * resultant G G' := by
    rw [← hG']
    have := resultant_C_mul_right G G' (n1 + 1) k (a * b ^ δ)
    rw [this, hG, hk]
  -- E2: raising the formal degree of the second argument from k to m
  have E2 : resultant G P (n1 + 1) (k + e) = L ^ e * resultant G P (n1 + 1) k := by
    have := resultant_add_right_deg G P (n1 + 1) k e (by rw [hPdeg])
    rw [this]
    congr 2
    rw [← hG, ← hL]; rfl
  -- E3: P = L^(δ+1) F + G * (-Q)
  have hP : P = C (L ^ (δ + 1)) * F + G * (-Q) := by linear_combination -hprem
  have E3 : resultant G P (n1 + 1) (n1 + 1 + δ) = resultant G (C (L ^ (δ + 1)) * F) (n1 + 1) (n1 + 1 + δ) := by
    rw [hP]
    apply resultant_add_mul_right
    · rw [natDegree_neg]; omega
    · rw [hG]
  -- E4, E5
  have E4 : resultant G (C (L ^ (δ + 1)) * F) (n1 + 1) (n1 + 1 + δ)
      = (L ^ (δ + 1)) ^ (n1 + 1) * resultant G F (n1 + 1) (n1 + 1 + δ) :=
    resultant_C_mul_right G F (n1 + 1) (n1 + 1 + δ) _
  have E5 : resultant G F (n1 + 1) (n1 + 1 + δ) = (-1) ^ ((n1 + 1) * (n1 + 1 + δ)) * resultant F G := by
    have := resultant_comm G F (n1 + 1) (n1 + 1 + δ)
    rw [this, hF, hG]
  -- combine
  have key : (a * b ^ δ) ^ (n1 + 1) * L ^ e * resultant G G'
      = (L ^ (δ + 1)) ^ (n1 + 1) * ((-1) ^ ((n1 + 1) * (n1 + 1 + δ)) * resultant F G) := by
    rw [← E5, ← E4, ← E3, ← hke, E2, E1]; ring
  -- cancel the non-zero factor of `hX`
  have hX : (a * b ^ δ) ^ (n1 + 1) * L ^ e * b ^ (δ * n1) ≠ 0 :=
    mul_ne_zero (mul_ne_zero (pow_ne_zero _ hab) (pow_ne_zero _ hL0)) (pow_ne_zero _ hb)
  apply mul_left_cancel₀ hX
  have hsq : ((-1 : ℤ) ^ ((n1 + 1 + δ) * (n1 + 1))) * ((-1) ^ ((n1 + 1) * (n1 + 1 + δ))) = 1 := by
    rw [mul_comm (n1 + 1 + δ), ← mul_pow, neg_mul_neg, one_mul, one_pow]
  have hbp : b' ^ n1 * b ^ (δ * n1) = (L ^ δ * b) ^ n1 := by
    rw [← hb', mul_pow, ← pow_mul]
  have hL : L ^ e * L ^ k = L ^ (n1 + 1 + δ) := by rw [← pow_add, add_comm, hke]
  -- replace b'^n1 (hbp), L^e L^k (hL), the invariant (hinv), Res(G, G') (key), and square the sign (hsq)
  linear_combination (a * b ^ δ) ^ (n1 + 1) * L ^ e * R0 * L ^ k * hbp
    + (a * b ^ δ) ^ (n1 + 1) * R0 * (L ^ δ * b) ^ n1 * hL
    + b ^ (δ * n1) * (L ^ (δ + 1)) ^ (n1 + 1) * hinv
    - b ^ (δ * n1) * s * (-1) ^ ((n1 + 1 + δ) * (n1 + 1)) * key
    - (L ^ (δ + 1)) ^ (n1 + 1) * b ^ (δ * n1) * s * resultant F G * hsq

end NTV.Subres
