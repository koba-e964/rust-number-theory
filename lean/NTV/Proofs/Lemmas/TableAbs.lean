import Mathlib.LinearAlgebra.Matrix.NonsingularInverse
import Mathlib.LinearAlgebra.Matrix.Trace
import Mathlib.LinearAlgebra.Matrix.ToLinearEquiv
import Mathlib.LinearAlgebra.Matrix.Nondegenerate
/-! Abstract algebra behind the multiplication table of an order (C14, second sentence).

`K` is a commutative ring receiving the rationals through `q`, `Ω : Fin n → K` a family that is
independent over ℚ, and `T` an integral table with `Ω i * Ω j = Σ_k T i j k · Ω k`. Everything that the
routines of `mult_table.rs` compute is expressed through `psi x = Σ_i x_i · Ω_i`. No list-level model is
involved here. -/
open Matrix
namespace NTV.TableAbs

variable {K : Type*} [CommRing K] {n : ℕ}

def psi (q : ℚ →+* K) (Ω : Fin n → K) (x : Fin n → ℚ) : K := ∑ i, q (x i) * Ω i

structure Ctx (q : ℚ →+* K) (Ω : Fin n → K) (T : Fin n → Fin n → Fin n → ℤ) : Prop where
  indep : ∀ x : Fin n → ℚ, psi q Ω x = 0 → x = 0
  table : ∀ i j, Ω i * Ω j = ∑ k, q ((T i j k : ℤ) : ℚ) * Ω k

/-- the integral matrix of the multiplication by `Σ a_i Ω_i`: `R[j][k] = Σ_i a_i · T i j k` -/
def reg (T : Fin n → Fin n → Fin n → ℤ) (a : Fin n → ℤ) : Matrix (Fin n) (Fin n) ℤ :=
  fun j k => ∑ i, a i * T i j k

/-- the coordinates of the product: `c_k = Σ_i Σ_j a_i b_j T i j k` -/
def mulVec (T : Fin n → Fin n → Fin n → ℤ) (a b : Fin n → ℤ) : Fin n → ℤ :=
  fun k => ∑ i, ∑ j, a i * b j * T i j k

def castV (a : Fin n → ℤ) : Fin n → ℚ := fun i => (a i : ℚ)

def castM (A : Matrix (Fin n) (Fin n) ℤ) : Matrix (Fin n) (Fin n) ℚ := A.map (fun z => (z : ℚ))

variable {q : ℚ →+* K} {Ω : Fin n → K} {T : Fin n → Fin n → Fin n → ℤ}

theorem psi_add (x y : Fin n → ℚ) : psi q Ω (x + y) = psi q Ω x + psi q Ω y := by
  simp only [psi, Pi.add_apply, RingHom.map_add, add_mul, Finset.sum_add_distrib]

theorem psi_sub (x y : Fin n → ℚ) : psi q Ω (x - y) = psi q Ω x - psi q Ω y := by
  simp only [psi, Pi.sub_apply, RingHom.map_sub, sub_mul, Finset.sum_sub_distrib]

theorem psi_zero : psi q Ω (0 : Fin n → ℚ) = 0 := by
  simp only [psi, Pi.zero_apply, RingHom.map_zero, zero_mul, Finset.sum_const_zero]

theorem psi_smul (c : ℚ) (x : Fin n → ℚ) : psi q Ω (c • x) = q c * psi q Ω x := by
  simp only [psi, Pi.smul_apply, smul_eq_mul, RingHom.map_mul, mul_assoc, Finset.mul_sum]

theorem psi_single [DecidableEq (Fin n)] (i : Fin n) : psi q Ω (Pi.single i 1) = Ω i := by
  simp only [psi, Pi.single_apply, apply_ite q, RingHom.map_one, RingHom.map_zero, ite_mul, one_mul,
    zero_mul, Finset.sum_ite_eq', Finset.mem_univ, if_true]

theorem Ctx.inj (h : Ctx q Ω T) (x y : Fin n → ℚ) (e : psi q Ω x = psi q Ω y) : x = y := by
  have := h.indep (x - y) (by rw [psi_sub, e, sub_self])
  exact sub_eq_zero.mp this

theorem Ctx.psi_mul_psi (h : Ctx q Ω T) (x y : Fin n → ℚ) :
    psi q Ω x * psi q Ω y = psi q Ω (fun k => ∑ i, ∑ j, x i * y j * (T i j k : ℚ)) := by
  unfold psi
  rw [Finset.sum_mul_sum]
  have hq : ∀ g : Fin n → ℚ, q (∑ i, g i) = ∑ i, q (g i) := fun g => map_sum q.toAddMonoidHom g _
  simp only [hq, Finset.sum_mul]
  refine Eq.trans ?_ Finset.sum_comm
  refine Finset.sum_congr rfl fun i _ => ?_
  refine Eq.trans ?_ Finset.sum_comm
  refine Finset.sum_congr rfl fun j _ => ?_
  rw [mul_mul_mul_comm, h.table i j, Finset.mul_sum]
  refine Finset.sum_congr rfl fun k _ => ?_
  rw [RingHom.map_mul, RingHom.map_mul]
  ring

theorem Ctx.symm (h : Ctx q Ω T) (i j k : Fin n) : T i j k = T j i k := by
  have e : psi q Ω (fun k => ((T i j k : ℤ) : ℚ)) = psi q Ω (fun k => ((T j i k : ℤ) : ℚ)) := by
    unfold psi
    rw [← h.table i j, ← h.table j i, mul_comm]
  have := congrFun (h.inj _ _ e) k
  exact_mod_cast this

theorem castV_mulVec (a b : Fin n → ℤ) :
    castV (mulVec T a b) = fun k => ∑ i, ∑ j, castV a i * castV b j * (T i j k : ℚ) := by
  funext k
  simp only [castV, mulVec, Int.cast_sum, Int.cast_mul]

theorem Ctx.mul_agrees (h : Ctx q Ω T) (a b : Fin n → ℤ) :
    psi q Ω (castV a) * psi q Ω (castV b) = psi q Ω (castV (mulVec T a b)) := by
  rw [h.psi_mul_psi, castV_mulVec]

theorem vecMul_reg (a : Fin n → ℤ) (x : Fin n → ℚ) :
    x ᵥ* castM (reg T a) = fun k => ∑ i, ∑ j, castV a i * x j * (T i j k : ℚ) := by
  funext k
  simp only [Matrix.vecMul, dotProduct, castM, reg, Matrix.map_apply, Int.cast_sum, Int.cast_mul,
    Finset.mul_sum, castV]
  rw [Finset.sum_comm]
  apply Finset.sum_congr rfl
  intro i _
  apply Finset.sum_congr rfl
  intro j _
  ring

theorem Ctx.reg_is_mult (h : Ctx q Ω T) (a : Fin n → ℤ) (x : Fin n → ℚ) :
    psi q Ω (castV a) * psi q Ω x = psi q Ω (x ᵥ* castM (reg T a)) := by
  rw [h.psi_mul_psi, vecMul_reg]

theorem mulVec_eq_vecMul (a b : Fin n → ℤ) : mulVec T a b = b ᵥ* reg T a := by
  funext k
  simp only [mulVec, Matrix.vecMul, dotProduct, reg, Finset.mul_sum]
  rw [Finset.sum_comm]
  apply Finset.sum_congr rfl
  intro i _
  apply Finset.sum_congr rfl
  intro j _
  ring

theorem castM_mul (A B : Matrix (Fin n) (Fin n) ℤ) : castM (A * B) = castM A * castM B := by
  unfold castM
  exact Matrix.map_mul (f := Int.castRingHom ℚ)

theorem castM_inj (A B : Matrix (Fin n) (Fin n) ℤ) (h : castM A = castM B) : A = B := by
  ext i j
  have := congrFun (congrFun h i) j
  simp only [castM, Matrix.map_apply] at this
  exact_mod_cast this

theorem Ctx.reg_mul (h : Ctx q Ω T) (a b : Fin n → ℤ) :
    reg T (mulVec T a b) = reg T b * reg T a := by
  classical
  apply castM_inj
  rw [castM_mul]
  ext i k
  have key : ∀ x : Fin n → ℚ, x ᵥ* castM (reg T (mulVec T a b)) = x ᵥ* (castM (reg T b) * castM (reg T a)) := by
    intro x
    apply h.inj
    rw [← h.reg_is_mult, ← h.mul_agrees, ← Matrix.vecMul_vecMul, ← h.reg_is_mult, ← h.reg_is_mult]
    ring
  have := congrFun (key (Pi.single i 1)) k
  simpa [Matrix.single_one_vecMul] using this

theorem det_castM (A : Matrix (Fin n) (Fin n) ℤ) : (castM A).det = ((A.det : ℤ) : ℚ) := by
  unfold castM
  exact ((Int.castRingHom ℚ).map_det A).symm

theorem Ctx.det_mul (h : Ctx q Ω T) (a b : Fin n → ℤ) :
    (reg T (mulVec T a b)).det = (reg T a).det * (reg T b).det := by
  rw [h.reg_mul, Matrix.det_mul, mul_comm]

/-- the trace as computed by `MultTable::trace` (`Σ_i Σ_j a_i · T j i j`) is the trace of `reg a` -/
theorem Ctx.trace_eq (h : Ctx q Ω T) (a : Fin n → ℤ) :
    ∑ i, ∑ j, a i * T j i j = (reg T a).trace := by
  simp only [Matrix.trace, Matrix.diag, reg]
  rw [Finset.sum_comm]
  apply Finset.sum_congr rfl
  intro j _
  apply Finset.sum_congr rfl
  intro i _
  rw [h.symm j i j]

/-- a left inverse of an integer matrix times the absolute value of the determinant is integral: it is
the adjugate up to sign -/
theorem left_inv_mul_natAbs_det (A : Matrix (Fin n) (Fin n) ℤ) (M : Matrix (Fin n) (Fin n) ℚ)
    (hM : M * castM A = 1) (i k : Fin n) :
    M i k * ((A.det.natAbs : ℤ) : ℚ) = ((A.det.sign * A.adjugate i k : ℤ) : ℚ) := by
  have h1 : (castM A).adjugate = (castM A).det • M := by
    calc (castM A).adjugate = (M * castM A) * (castM A).adjugate := by rw [hM, one_mul]
      _ = M * (castM A * (castM A).adjugate) := by rw [Matrix.mul_assoc]
      _ = (castM A).det • M := by rw [Matrix.mul_adjugate, Matrix.mul_smul, Matrix.mul_one]
  have h2 : (castM A).adjugate = castM A.adjugate := by
    unfold castM
    exact ((Int.castRingHom ℚ).map_adjugate A).symm
  have := congrFun (congrFun h1 i) k
  rw [h2, det_castM] at this
  simp only [castM, Matrix.map_apply, Matrix.smul_apply, smul_eq_mul] at this
  rw [← Int.sign_mul_self_eq_natAbs, Int.cast_mul, Int.cast_mul, this]
  ring

theorem Ctx.inv_row (h : Ctx q Ω T) (a : Fin n → ℤ) (M : Matrix (Fin n) (Fin n) ℚ)
    (hM : M * castM (reg T a) = 1) (i0 : Fin n) (h1 : Ω i0 = 1) :
    psi q Ω (castV a) * psi q Ω (M i0) = 1 := by
  classical
  rw [h.reg_is_mult]
  have : M i0 ᵥ* castM (reg T a) = Pi.single i0 1 := by
    funext k
    have := congrFun (congrFun hM i0) k
    rw [Matrix.mul_apply] at this
    simp only [Matrix.vecMul, dotProduct]
    rw [this, Matrix.one_apply, Pi.single_apply]
    simp [eq_comm]
  rw [this, psi_single, h1]

theorem Ctx.det_ne_zero [NoZeroDivisors K] (h : Ctx q Ω T) (a : Fin n → ℤ) (ha : a ≠ 0) :
    (reg T a).det ≠ 0 := by
  classical
  intro hdet
  have hq : (castM (reg T a)).det = 0 := by rw [det_castM, hdet]; simp
  obtain ⟨x, hx0, hx⟩ := Matrix.exists_vecMul_eq_zero_iff.mpr hq
  have hm := h.reg_is_mult a x
  rw [hx, psi_zero] at hm
  rcases mul_eq_zero.mp hm with e | e
  · apply ha
    have := h.indep _ e
    funext i
    have := congrFun this i
    simp only [castV, Pi.zero_apply] at this ⊢
    exact_mod_cast this
  · exact hx0 (h.indep _ e)

end NTV.TableAbs
