import NTV.Model.Order
import NTV.Proofs.Lemmas.AlgLaws
import NTV.Proofs.Lemmas.OrdCanon
import NTV.Proofs.Lemmas.TableAbs
/-! Helper lemmas for C14 (second sentence): `Order::get_mult_table` of the model `NTV.Ord`.
The table entries are the coordinates of the products of the basis vectors; the routine succeeds
exactly when they are integers. The bridge to the abstract setting `NTV.TableAbs`. -/
open Polynomial Matrix

namespace NTV.Ord
open NTV.RowOps (toM Rect ent)
open NTV.PolyG
open NTV.Alg (Reduced modulus cls mul_cls cls_eq_iff)

/-- a loop whose body either returns or raises one fixed error returns iff every round does -/
theorem mapM_ite {α β : Type} (l : List α) (f : α → M β) (g : α → β) (P : α → Prop) [DecidablePred P]
    (e : String) (h : ∀ x ∈ l, f x = if P x then .ok (g x) else .error e) :
    l.mapM f = if ∀ x ∈ l, P x then .ok (l.map g) else .error e := by
  induction l with
  | nil => rw [if_pos (fun _ hx => absurd hx List.not_mem_nil)]; rfl
  | cons x xs ih =>
    rw [List.mapM_cons, h x List.mem_cons_self, ih fun y hy => h y (List.mem_cons_of_mem _ hy)]
    by_cases hx : P x
    · by_cases hxs : ∀ y ∈ xs, P y
      · rw [if_pos hx, if_pos hxs, if_pos (List.forall_mem_cons.mpr ⟨hx, hxs⟩)]; rfl
      · rw [if_pos hx, if_neg hxs, if_neg fun hall => hxs (List.forall_mem_cons.mp hall).2]; rfl
    · rw [if_neg hx, if_neg fun hall => hx (List.forall_mem_cons.mp hall).1]; rfl

theorem tabulate_ite {α : Type} (n : Nat) (f : Nat → M α) (g : Nat → α) (P : Nat → Prop) [DecidablePred P]
    (e : String) (h : ∀ i < n, f i = if P i then .ok (g i) else .error e) :
    tabulate n f = if ∀ i < n, P i then .ok ((List.range n).map g) else .error e := by
  rw [tabulate, mapM_ite _ f g P e fun i hi => h i (List.mem_range.mp hi)]
  exact if_congr (forall_congr' fun i => by rw [List.mem_range]) rfl rfl

theorem idx_getD {α : Type} (v : List (List α)) (i : Nat) (h : i < v.length) :
    idx v i = .ok (v.getD i []) := by
  simp [idx, List.getElem?_eq_getElem h, List.getD_eq_getElem?_getD]

theorem idx_getD0 (v : List Rat) (i : Nat) (h : i < v.length) : idx v i = .ok (v.getD i 0) := by
  simp [idx, List.getElem?_eq_getElem h, List.getD_eq_getElem?_getD]

/-- the integrality check of a coordinate row -/
def cellSpec (x : List Rat) (n : Nat) : M (List Int) :=
  if ∀ k < n, isInteger (x.getD k 0) = true then .ok ((List.range n).map fun k => toInteger (x.getD k 0))
  else .error "panic assert"

theorem tabulate_int (x : List Rat) (n : Nat) (hx : x.length = n) :
    tabulate n (fun k => do
      let e ← idx x k
      if isInteger e then pure (toInteger e) else .error "panic assert") = cellSpec x n :=
  tabulate_ite n _ _ (fun k => isInteger (x.getD k 0) = true) _ fun k hk => by
    rw [idx_getD0 x k (by omega)]
    rfl

/-- row `i` of the basis as an element of ℚ[x]/(f) (`create_num`) -/
def omega (basis : QMat) (i : Nat) : List Rat := fromRaw (basis.getD i [])

structure Setup (f : List Int) (basis : QMat) (n : Nat) : Prop where
  canon : Canon f
  len : f.length = n + 1
  pos : 1 ≤ n
  rect : Rect n n basis
  det : (toM n n basis).det ≠ 0

variable {f : List Int} {basis : QMat} {n : Nat}

theorem Setup.two_le (S : Setup f basis n) : 2 ≤ f.length := by have := S.len; have := S.pos; omega

theorem Setup.reduced_of_length {l : List Rat} (S : Setup f basis n) (hl : l.length ≤ n) :
    Reduced f (fromRaw l) := by
  refine ⟨canon_fromRaw l, ?_⟩
  rw [S.len]
  simp only [Nat.add_sub_cancel]
  exact length_fromRaw_le l n (fun j hj => getD_of_length_le l j (by omega))

theorem Setup.reduced_omega (S : Setup f basis n) (i : Nat) (hi : i < n) : Reduced f (omega basis i) :=
  S.reduced_of_length (by rw [S.rect.row_length i hi])

theorem Setup.reduced_length (S : Setup f basis n) {l : List Rat} (h : Reduced f l) : l.length ≤ n := by
  have := h.2
  rwa [S.len, Nat.add_sub_cancel] at this

/-- the product ω_i ⋆ ω_j (total) -/
def prodOf (f : List Int) (basis : QMat) (i j : Nat) : List Rat :=
  match NTV.Alg.mul f (omega basis i) (omega basis j) with
  | .ok r => r
  | .error _ => []

/-- the coordinates of ω_i ⋆ ω_j in the basis (total) -/
def coordsOf (f : List Int) (basis : QMat) (i j : Nat) : List Rat :=
  match NTV.LinAlg.solve basis ((List.range basis.length).map (fun k => coefAt (prodOf f basis i j) k)) with
  | .ok x => x
  | .error _ => []

theorem Setup.mul_omega (S : Setup f basis n) (i j : Nat) (hi : i < n) (hj : j < n) :
    NTV.Alg.mul f (omega basis i) (omega basis j) = .ok (prodOf f basis i j) ∧
    Reduced f (prodOf f basis i j) ∧
    cls f (toPoly (prodOf f basis i j)) =
      cls f (toPoly (basis.getD i [])) * cls f (toPoly (basis.getD j [])) := by
  obtain ⟨r, h1, h2, h3⟩ := mul_cls f S.canon S.two_le _ _ (S.reduced_omega i hi) (S.reduced_omega j hj)
  have : prodOf f basis i j = r := by unfold prodOf; rw [h1]
  rw [this]
  refine ⟨h1, h2, ?_⟩
  rw [h3]; unfold omega; rw [toPoly_fromRaw, toPoly_fromRaw]

theorem Setup.solve_coords (S : Setup f basis n) (i j : Nat) :
    NTV.LinAlg.solve basis ((List.range basis.length).map (fun k => coefAt (prodOf f basis i j) k))
      = .ok (coordsOf f basis i j) ∧ (coordsOf f basis i j).length = n ∧
    ∀ c < n, ∑ k ∈ Finset.range n, (coordsOf f basis i j).getD k 0 * ent basis k c
      = coefAt (prodOf f basis i j) c := by
  have hb : ((List.range basis.length).map (fun k => coefAt (prodOf f basis i j) k)).length = n := by
    rw [List.length_map, List.length_range, S.rect.1]
  cases h : NTV.LinAlg.solve basis ((List.range basis.length).map (fun k => coefAt (prodOf f basis i j) k)) with
  | error e => exact absurd (NTV.LinAlg.solve_err basis _ n S.rect hb e h).2 S.det
  | ok x =>
    have : coordsOf f basis i j = x := by unfold coordsOf; rw [h]
    rw [this]
    refine ⟨rfl, NTV.LinAlg.solve_length basis _ x n S.rect hb h, ?_⟩
    intro c hc
    have := congrFun (NTV.LinAlg.solve_ok basis _ x n S.rect hb h) ⟨c, hc⟩
    simp only [Matrix.vecMul, dotProduct] at this
    rw [← Fin.sum_univ_eq_sum_range (fun k => x.getD k 0 * ent basis k c) n]
    rw [show (∑ k : Fin n, x.getD k 0 * ent basis k c) = ∑ k : Fin n, x.getD k 0 * toM n n basis k ⟨c, hc⟩ from rfl,
      this]
    rw [S.rect.1, getD_map_range n _ _ c hc]

def AllInt (f : List Int) (basis : QMat) (n : Nat) : Prop :=
  ∀ i < n, ∀ j < n, ∀ k < n, isInteger ((coordsOf f basis i j).getD k 0) = true

/-- the table that `get_mult_table` returns -/
def tableOf (f : List Int) (basis : QMat) (n : Nat) : Table :=
  (List.range n).map (fun i => (List.range n).map (fun j => (List.range n).map (fun k =>
    toInteger ((coordsOf f basis i j).getD k 0))))

/-- `get_mult_table` after the evaluation of the products and of the linear systems: only the integrality
assertion on the coordinates remains -/
theorem Setup.getMultTable_eq (S : Setup f basis n) :
    getMultTable basis f =
      if ∀ i < n, ∀ j < n, ∀ k < n, isInteger ((coordsOf f basis i j).getD k 0) = true
      then .ok (tableOf f basis n) else .error "panic assert" := by
  unfold getMultTable
  rw [S.rect.1]
  refine tabulate_ite n _ _ _ _ fun i hi => tabulate_ite n _ _ _ _ fun j hj => ?_
  rw [idx_getD basis i (by rw [S.rect.1]; exact hi), idx_getD basis j (by rw [S.rect.1]; exact hj)]
  have h1 := (S.mul_omega i j hi hj).1
  have h2 := (S.solve_coords i j)
  unfold omega at h1
  simp only [bind, Except.bind, pure, Except.pure] at *
  rw [h1]
  simp only [Except.mapError]
  unfold solveExpect
  rw [S.rect.1] at h2
  rw [h2.1]
  exact tabulate_int _ n h2.2.1

theorem Setup.getMultTable_ok (S : Setup f basis n) (h : AllInt f basis n) :
    getMultTable basis f = .ok (tableOf f basis n) := by
  rw [S.getMultTable_eq]
  exact if_pos h

theorem Setup.getMultTable_err (S : Setup f basis n) (h : ¬ AllInt f basis n) :
    getMultTable basis f = .error "panic assert" := by
  rw [S.getMultTable_eq]
  exact if_neg h

theorem tent_tableOf (i j k : Nat) (hi : i < n) (hj : j < n) (hk : k < n) :
    tent (tableOf f basis n) i j k = toInteger ((coordsOf f basis i j).getD k 0) := by
  unfold tent tableOf
  rw [getD_map_range n _ _ i hi, getD_map_range n _ _ j hj, getD_map_range n _ _ k hk]

/-- `t` is the multiplication table of `basis`: it is `n × n × n` and
`ω_i ⋆ ω_j = Σ_k t[i][j][k] · ω_k` (coefficientwise in the power basis) -/
def IsTable (f : List Int) (basis : QMat) (n : Nat) (t : Table) : Prop :=
  t.length = n ∧ (∀ i < n, (t.getD i []).length = n ∧ ∀ j < n, ((t.getD i []).getD j []).length = n) ∧
  ∀ i < n, ∀ j < n, ∃ prod, NTV.Alg.mul f (omega basis i) (omega basis j) = .ok prod ∧
    ∀ c < n, coefAt prod c = ∑ k ∈ Finset.range n, ((tent t i j k : Int) : Rat) * ent basis k c

theorem Setup.isTable_tableOf (S : Setup f basis n) (h : AllInt f basis n) :
    IsTable f basis n (tableOf f basis n) := by
  refine ⟨by rw [tableOf, List.length_map, List.length_range], ?_, ?_⟩
  · intro i hi
    rw [tableOf, getD_map_range n _ _ i hi, List.length_map, List.length_range]
    refine ⟨rfl, ?_⟩
    intro j hj
    rw [getD_map_range n _ _ j hj, List.length_map, List.length_range]
  · intro i hi j hj
    refine ⟨prodOf f basis i j, (S.mul_omega i j hi hj).1, ?_⟩
    intro c hc
    rw [← (S.solve_coords i j).2.2 c hc]
    apply Finset.sum_congr rfl
    intro k hk
    have hk' := Finset.mem_range.mp hk
    rw [tent_tableOf i j k hi hj hk']
    obtain ⟨z, hz⟩ := (isInteger_iff _).mp (h i hi j hj k hk')
    rw [hz, toInteger_intCast]

noncomputable def qK (f : List Int) : ℚ →+* (ℚ[X] ⧸ Ideal.span {modulus f}) := (cls f).comp C

noncomputable def omegaK (f : List Int) (basis : QMat) (n : Nat) (i : Fin n) :
    ℚ[X] ⧸ Ideal.span {modulus f} := cls f (toPoly (basis.getD i []))

def tabT (t : Table) (n : Nat) (i j k : Fin n) : ℤ := tent t i j k

theorem coeff_comb (x : Fin n → ℚ) (c : Nat) :
    (∑ k : Fin n, C (x k) * toPoly (basis.getD k [])).coeff c = ∑ k : Fin n, x k * ent basis k c := by
  rw [Polynomial.finsetSum_coeff]
  simp only [coeff_C_mul, coeff_toPoly]
  rfl

theorem coeff_comb_oob (hr : Rect n n basis) (x : Fin n → ℚ) (c : Nat) (hc : n ≤ c) :
    (∑ k : Fin n, C (x k) * toPoly (basis.getD k [])).coeff c = 0 := by
  rw [coeff_comb]
  refine Finset.sum_eq_zero fun k _ => ?_
  rw [show ent basis k c = 0 from getD_of_length_le _ c (by rw [hr.row_length k k.2]; exact hc), mul_zero]

theorem toPoly_comb (hr : Rect n n basis) (x : Fin n → ℚ) (l : List Rat) (hl : l.length ≤ n)
    (h : ∀ c < n, l.getD c 0 = ∑ k : Fin n, x k * ent basis k c) :
    toPoly l = ∑ k : Fin n, C (x k) * toPoly (basis.getD k []) := by
  ext c
  rw [coeff_toPoly]
  by_cases hc : c < n
  · rw [h c hc, coeff_comb]
  · rw [getD_of_length_le l c (by omega), coeff_comb_oob hr x c (by omega)]

theorem psi_eq_cls (x : Fin n → ℚ) :
    NTV.TableAbs.psi (qK f) (omegaK f basis n) x = cls f (∑ k : Fin n, C (x k) * toPoly (basis.getD k [])) := by
  -- through the additive hom, for which `map_sum` needs no search for the class
  refine Eq.trans ?_ (map_sum (cls f).toAddMonoidHom _ _).symm
  exact Finset.sum_congr rfl fun k _ => (RingHom.map_mul (cls f) _ _).symm

/-- a combination of the rows that vanishes modulo `f` has degree `< n`, so it is zero, and the rows are
independent -/
theorem Setup.indep (S : Setup f basis n) (x : Fin n → ℚ)
    (h : NTV.TableAbs.psi (qK f) (omegaK f basis n) x = 0) : x = 0 := by
  rw [psi_eq_cls] at h
  have hdvd := (cls_eq_iff f _ 0).mp (by rw [h, RingHom.map_zero])
  rw [sub_zero] at hdvd
  obtain ⟨hdeg, hne⟩ := NTV.Alg.modulus_facts f S.canon S.two_le
  have hP0 := Polynomial.eq_zero_of_dvd_of_degree_lt hdvd (by
    rw [Polynomial.degree_eq_natDegree hne, hdeg, S.len, Nat.add_sub_cancel,
      Polynomial.degree_lt_iff_coeff_zero]
    exact fun m hm => coeff_comb_oob S.rect x m hm)
  apply Matrix.eq_zero_of_vecMul_eq_zero S.det
  funext c
  have := coeff_comb (basis := basis) x c
  rw [hP0, coeff_zero] at this
  exact this.symm

theorem Setup.ctx (S : Setup f basis n) (t : Table) (ht : IsTable f basis n t) :
    NTV.TableAbs.Ctx (qK f) (omegaK f basis n) (tabT t n) := by
  refine ⟨S.indep, ?_⟩
  intro i j
  obtain ⟨prod, hp, hc⟩ := ht.2.2 i i.2 j j.2
  obtain ⟨h1, h2, h3⟩ := S.mul_omega i j i.2 j.2
  have : prod = prodOf f basis i j := by rw [h1] at hp; injection hp with hp; exact hp.symm
  subst this
  refine (h3.symm.trans (congrArg (cls f) (toPoly_comb S.rect _ _ (S.reduced_length h2) fun c hcn => ?_))).trans
    (psi_eq_cls fun k : Fin n => ((tabT t n i j k : ℤ) : ℚ)).symm
  have := hc c hcn
  unfold coefAt at this
  rw [this, ← Fin.sum_univ_eq_sum_range (fun k => ((tent t i j k : Int) : Rat) * ent basis k c) n]
  rfl

end NTV.Ord
