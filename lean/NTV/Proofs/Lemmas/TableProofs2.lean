import NTV.Proofs.Lemmas.TableProofs
/-! Helper lemmas for C14 (second sentence): `mult_table.rs` (`mul`, `trace`, `norm`, `inv`) of the model
`NTV.Ord` expressed through the abstract setting `NTV.TableAbs`. -/
open Polynomial Matrix

namespace NTV.Ord
open NTV.RowOps (toM Rect ent)
open NTV.PolyG
open NTV.Alg (Reduced modulus cls mul_cls cls_eq_iff)
open NTV.TableAbs (psi castV castM reg Ctx)

theorem foldl_add_range {A : Type} [AddCommMonoid A] (g : Nat → A) (n : Nat) (init : A) :
    (List.range n).foldl (fun s k => s + g k) init = init + ∑ k ∈ Finset.range n, g k := by
  induction n with
  | zero => simp
  | succ m ih => rw [List.range_succ, List.foldl_append, ih, Finset.sum_range_succ]; simp [add_assoc]

theorem foldl_add_range2 {A : Type} [AddCommMonoid A] (g : Nat → Nat → A) (n m : Nat) (init : A) :
    (List.range n).foldl (fun acc i => (List.range m).foldl (fun acc j => acc + g i j) acc) init
      = init + ∑ i ∈ Finset.range n, ∑ j ∈ Finset.range m, g i j := by
  induction n with
  | zero => simp
  | succ k ih =>
    rw [List.range_succ, List.foldl_append, ih, Finset.sum_range_succ]
    simp [foldl_add_range, add_assoc]

theorem sum_range_fin {A : Type} [AddCommMonoid A] (n : Nat) (g : Nat → A) :
    ∑ i ∈ Finset.range n, g i = ∑ i : Fin n, g i := (Fin.sum_univ_eq_sum_range g n).symm

def vecZ (a : List Int) (n : Nat) : Fin n → ℤ := fun i => a.getD i 0

def vecQ (x : List Rat) (n : Nat) : Fin n → ℚ := fun i => x.getD i 0

/-- the element `Σ_i x_i · ω_i` of ℚ[x]/(f), as a canonical expression -/
def comb (basis : QMat) (x : List Rat) : List Rat :=
  fromRaw ((List.range basis.length).map fun c =>
    ∑ i ∈ Finset.range basis.length, x.getD i 0 * ent basis i c)

/-- the element `Σ_i a_i · ω_i` for an integer coordinate vector -/
def elt (basis : QMat) (a : List Int) : List Rat := comb basis (a.map fun z => ((z : Int) : Rat))

variable {f : List Int} {basis : QMat} {n : Nat}

theorem getD_map_intCast (a : List Int) (i : Nat) :
    (a.map fun z => ((z : Int) : Rat)).getD i 0 = ((a.getD i 0 : Int) : Rat) := by
  simp only [List.getD_eq_getElem?_getD, List.getElem?_map]
  cases a[i]? <;> simp

theorem vecQ_map_cast (a : List Int) : vecQ (a.map fun z => ((z : Int) : Rat)) n = castV (vecZ a n) :=
  funext fun i => getD_map_intCast a i

theorem Setup.reduced_comb (S : Setup f basis n) (x : List Rat) : Reduced f (comb basis x) :=
  S.reduced_of_length (by rw [List.length_map, List.length_range, S.rect.1])

theorem Setup.cls_comb (S : Setup f basis n) (x : List Rat) :
    cls f (toPoly (comb basis x)) = psi (qK f) (omegaK f basis n) (vecQ x n) := by
  rw [psi_eq_cls, comb, toPoly_fromRaw, S.rect.1]
  refine congrArg (cls f) (toPoly_comb S.rect _ _ (by rw [List.length_map, List.length_range]) fun c hc => ?_)
  rw [getD_map_range n _ _ c hc, sum_range_fin]
  rfl

/-- products of combinations are decided in the quotient ring: the product is the reduced representative
of the product of the classes -/
theorem Setup.mul_comb_of_cls (S : Setup f basis n) (x y r : List Rat) (hr : Reduced f r)
    (h : psi (qK f) (omegaK f basis n) (vecQ x n) * psi (qK f) (omegaK f basis n) (vecQ y n)
      = cls f (toPoly r)) :
    NTV.Alg.mul f (comb basis x) (comb basis y) = .ok r :=
  NTV.Alg.mul_eq_of_cls f S.canon S.two_le _ _ r (S.reduced_comb x) (S.reduced_comb y) hr
    (by rw [S.cls_comb, S.cls_comb, h])

theorem Setup.mul_comb (S : Setup f basis n) (x y z : List Rat)
    (h : psi (qK f) (omegaK f basis n) (vecQ x n) * psi (qK f) (omegaK f basis n) (vecQ y n)
      = psi (qK f) (omegaK f basis n) (vecQ z n)) :
    NTV.Alg.mul f (comb basis x) (comb basis y) = .ok (comb basis z) :=
  S.mul_comb_of_cls x y _ (S.reduced_comb z) (by rw [h, S.cls_comb])

/-- the coordinates computed by `MultTable::mul` -/
def tmulList (t : Table) (n : Nat) (a b : List Int) : List Int :=
  (List.range n).map fun k => ∑ i ∈ Finset.range n, ∑ j ∈ Finset.range n, a.getD i 0 * b.getD j 0 * tent t i j k

theorem length_tmulList (t : Table) (a b : List Int) : (tmulList t n a b).length = n := by
  rw [tmulList, List.length_map, List.length_range]

theorem tmul_eq (t : Table) (a b : List Int) (ht : t.length = n) (ha : a.length = n) (hb : b.length = n) :
    tmul t a b = .ok (tmulList t n a b) := by
  unfold tmul
  rw [if_neg (by rw [ha, hb]; simp), if_neg (by rw [ha, ht]; simp)]
  simp only [ha, tmulList, foldl_add_range2, zero_add]

theorem vecZ_tmulList (t : Table) (a b : List Int) :
    vecZ (tmulList t n a b) n = NTV.TableAbs.mulVec (tabT t n) (vecZ a n) (vecZ b n) := by
  funext k
  simp only [vecZ, tmulList, NTV.TableAbs.mulVec, tabT, List.getD_eq_getElem?_getD, List.getElem?_map,
    List.getElem?_range k.2, Option.map_some, Option.getD_some]
  rw [sum_range_fin]
  apply Finset.sum_congr rfl
  intro i _
  rw [sum_range_fin]

theorem regular_rect (t : Table) (a : List Int) (ht : t.length = n) : Rect n n (regular t a) :=
  ht ▸ rect_tabulated t.length t.length _

theorem toM_regular (t : Table) (a : List Int) (ht : t.length = n) :
    toM n n (regular t a) = castM (reg (tabT t n) (vecZ a n)) := by
  ext j k
  show ent (regular t a) j k = _
  simp only [ent, regular, ht, foldl_add_range, zero_add, castM, reg, Matrix.map_apply, tabT, vecZ,
    List.getD_eq_getElem?_getD, List.getElem?_map, List.getElem?_range j.2, List.getElem?_range k.2,
    Option.map_some, Option.getD_some]
  rw [sum_range_fin]

theorem ttrace_eq (t : Table) (a : List Int) (ht : t.length = n) (ha : n ≤ a.length) :
    ttrace t a = .ok (∑ i : Fin n, ∑ j : Fin n, vecZ a n i * tabT t n j i j) := by
  unfold ttrace
  simp only [ht]
  rw [if_neg (by omega)]
  simp only [foldl_add_range2, zero_add]
  congr 1
  rw [sum_range_fin]
  apply Finset.sum_congr rfl
  intro i _
  rw [sum_range_fin]
  rfl

theorem tnorm_eq (t : Table) (a : List Int) (ht : t.length = n) (ha : n ≤ a.length) :
    tnorm t a = .ok (reg (tabT t n) (vecZ a n)).det := by
  unfold tnorm
  rw [if_neg (by omega), NTV.LinAlg.determinant_eq _ n (regular_rect t a ht), toM_regular t a ht,
    NTV.TableAbs.det_castM]
  simp only [bind, Except.bind, pure, Except.pure, toInteger_intCast]

/-- `tinv` after the evaluation of the norm and of the inverse matrix -/
theorem tinv_eq (t : Table) (a : List Int) (ht : t.length = n) (ha : n ≤ a.length) (hn : 1 ≤ n)
    (hdet : (reg (tabT t n) (vecZ a n)).det ≠ 0) :
    ∃ Minv : QMat, toM n n Minv * castM (reg (tabT t n) (vecZ a n)) = 1 ∧
      tinv t a = .ok ((List.range n).map (fun i =>
        toInteger (ent Minv 0 i * ((((reg (tabT t n) (vecZ a n)).det.natAbs : Int) : Rat)))),
        ((reg (tabT t n) (vecZ a n)).det.natAbs : Int)) := by
  have hrect := regular_rect t a ht
  cases hinv : NTV.LinAlg.inv (regular t a) with
  | error e =>
    exfalso
    have := (NTV.LinAlg.inv_err _ n hrect e hinv).2
    rw [toM_regular t a ht, NTV.TableAbs.det_castM] at this
    exact hdet (Int.cast_eq_zero.mp this)
  | ok Minv =>
    have h1 := NTV.LinAlg.inv_ok _ Minv n hrect hinv
    have hr2 := NTV.LinAlg.inv_rect _ Minv n hrect hinv
    rw [toM_regular t a ht] at h1
    refine ⟨Minv, h1, ?_⟩
    unfold tinv
    rw [tnorm_eq t a ht ha, hinv]
    simp only [bind, Except.bind, pure, Except.pure, ht, idx_getD Minv 0 (by rw [hr2.1]; omega)]
    rw [tabulate_ok n _ (fun i => toInteger (ent Minv 0 i * ((((reg (tabT t n) (vecZ a n)).det.natAbs : Int) : Rat))))
      fun i hi => by rw [idx_getD0 _ i (by rw [hr2.row_length 0 (by omega)]; exact hi)]; rfl]

/-- the ℤ-span of the basis is closed under multiplication: every product ω_i ⋆ ω_j is an integral
combination of the basis vectors -/
def Closed (f : List Int) (basis : QMat) (n : Nat) : Prop :=
  ∀ i < n, ∀ j < n, ∃ (prod : List Rat) (z : Nat → Int),
    NTV.Alg.mul f (omega basis i) (omega basis j) = .ok prod ∧
    ∀ c < n, coefAt prod c = ∑ k ∈ Finset.range n, ((z k : Int) : Rat) * ent basis k c

theorem Setup.closed_iff (S : Setup f basis n) : Closed f basis n ↔ AllInt f basis n := by
  constructor
  · intro h i hi j hj k hk
    obtain ⟨prod, z, hp, hz⟩ := h i hi j hj
    have h1 := (S.mul_omega i j hi hj).1
    have : prod = prodOf f basis i j := by rw [h1] at hp; injection hp with hp; exact hp.symm
    subst this
    have h2 := (S.solve_coords i j).2.2
    -- both vectors solve the same non-singular system
    have hv : ((fun k : Fin n => (coordsOf f basis i j).getD k 0) - fun k : Fin n => ((z k : Int) : Rat))
        ᵥ* toM n n basis = 0 := by
      rw [Matrix.sub_vecMul, sub_eq_zero]
      funext c
      have e1 := h2 c c.2
      have e2 := hz c c.2
      rw [sum_range_fin] at e1 e2
      exact e1.trans e2
    have := congrFun (Matrix.eq_zero_of_vecMul_eq_zero S.det hv) ⟨k, hk⟩
    exact (isInteger_iff _).mpr ⟨z k, sub_eq_zero.mp this⟩
  · intro h i hi j hj
    obtain ⟨prod, hp, hc⟩ := (S.isTable_tableOf h).2.2 i hi j hj
    exact ⟨prod, fun k => tent (tableOf f basis n) i j k, hp, hc⟩

theorem list_eq_of_vecZ (l l' : List Int) (h1 : l.length = n) (h2 : l'.length = n)
    (h : vecZ l n = vecZ l' n) : l = l' := by
  apply List.ext_getElem (by rw [h1, h2])
  intro k hk hk'
  have := congrFun h ⟨k, by omega⟩
  simpa [vecZ, List.getD_eq_getElem?_getD, List.getElem?_eq_getElem hk, List.getElem?_eq_getElem hk'] using this

theorem castV_inj (u v : Fin n → ℤ) (h : castV u = castV v) : u = v := by
  funext i
  have := congrFun h i
  simp only [castV] at this
  exact_mod_cast this

theorem toPoly_unit_row (d : Rat) (m : Nat) : toPoly (d :: List.replicate m 0) = C d := by
  have := toPoly_replicate_append (R := Rat) m []
  simp only [List.append_nil] at this
  simp only [toPoly, this, mul_zero, add_zero]

theorem castV_unit (hn : 1 ≤ n) (d : Int) :
    castV (vecZ (d :: List.replicate (n - 1) 0) n) = (d : ℚ) • (Pi.single (⟨0, by omega⟩ : Fin n) 1) := by
  funext ⟨i, hi⟩
  simp only [castV, vecZ, Pi.smul_apply, smul_eq_mul, Pi.single_apply, Fin.mk.injEq]
  cases i with
  | zero => rw [List.getD_cons_zero, if_pos rfl, mul_one]
  | succ m =>
    rw [List.getD_cons_succ, if_neg (Nat.succ_ne_zero m), mul_zero, List.getD_eq_getElem?_getD,
      List.getElem?_replicate]
    split <;> rfl

theorem noZeroDivisors_of_irreducible (hirr : Irreducible (modulus f)) :
    NoZeroDivisors (ℚ[X] ⧸ Ideal.span {modulus f}) := by
  have : (Ideal.span {modulus f}).IsPrime := (Ideal.span_singleton_prime hirr.ne_zero).mpr hirr.prime
  infer_instance

end NTV.Ord
