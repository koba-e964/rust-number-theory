import NTV.Model.Trial
import Mathlib.Data.Nat.Prime.Basic
import Mathlib.Algebra.BigOperators.Group.List.Basic
import Mathlib.Tactic.Ring
/-! Trial division (`NTV.Trial`, factorize.rs): `strip` divides out one prime exactly, and the outer loop keeps
`LInv` (product, no prime factor below `p`, entries prime and increasing); `factorize_correct` follows. -/
namespace NTV.Trial

def prodOf (l : List (Nat × Nat)) : Nat := (l.map (fun qe => qe.1 ^ qe.2)).prod

theorem prodOf_append (l1 l2) : prodOf (l1 ++ l2) = prodOf l1 * prodOf l2 := by
  simp [prodOf]

theorem strip_spec (p n e : Nat) (hp : 2 ≤ p) (hn : 0 < n) :
    let r := strip p n e
    0 < r.1 ∧ e ≤ r.2 ∧ n = r.1 * p ^ (r.2 - e) ∧ ¬ p ∣ r.1 ∧ (e < r.2 ↔ p ∣ n) := by
  fun_induction strip p n e with
  | case1 n e h ih =>
    have hdvd : p ∣ n := Nat.dvd_of_mod_eq_zero h.2.2
    have hpos : 0 < n / p := Nat.div_pos (Nat.le_of_dvd hn hdvd) (Nat.lt_of_lt_of_le Nat.zero_lt_two hp)
    obtain ⟨h1, h2, h3, h4, _⟩ := ih hpos
    refine ⟨h1, Nat.le_of_succ_le h2, ?_, h4, ⟨fun _ => hdvd, fun _ => h2⟩⟩
    rw [(Nat.add_sub_add_right _ 1 e).symm.trans (Nat.sub_add_comm h2), pow_succ, ← mul_assoc, ← h3]
    exact (Nat.div_mul_cancel hdvd).symm
  | case2 n e h =>
    have hnd : ¬ p ∣ n := fun hd => h ⟨hp, hn, Nat.mod_eq_zero_of_dvd hd⟩
    exact ⟨hn, le_refl e, by rw [Nat.sub_self, pow_zero, mul_one], hnd,
      fun h => absurd h (lt_irrefl e), fun h => absurd h hnd⟩

structure LInv (n0 p n : Nat) (acc : List (Nat × Nat)) : Prop where
  npos : 0 < n
  p2 : 2 ≤ p
  prod : n0 = n * prodOf acc
  rough : ∀ q, q.Prime → q < p → ¬ q ∣ n
  primes : ∀ qe ∈ acc, qe.1.Prime ∧ 0 < qe.2 ∧ qe.1 < p
  sorted : acc.Pairwise (fun a b => a.1 < b.1)

theorem prodOf_snoc (l : List (Nat × Nat)) (q e : Nat) : prodOf (l ++ [(q, e)]) = prodOf l * q ^ e := by
  rw [prodOf_append, prodOf, prodOf, List.map_singleton, List.prod_singleton]

theorem prime_of_rough {p n : Nat} (hp : 2 ≤ p) (hpd : p ∣ n) (rough : ∀ q, q.Prime → q < p → ¬ q ∣ n) :
    p.Prime := by
  have hmf := Nat.minFac_prime (n := p) (by omega)
  by_contra hnp
  have hlt : p.minFac < p := lt_of_le_of_ne (Nat.minFac_le (by omega)) (fun e => hnp (e ▸ hmf))
  exact rough _ hmf hlt ((Nat.minFac_dvd p).trans hpd)

theorem LInv.snoc {n0 p n : Nat} {acc : List (Nat × Nat)} (h : LInv n0 p n acc) {q e : Nat}
    (hq : q.Prime) (he : 0 < e) (hpq : p ≤ q) :
    (∀ qe ∈ acc ++ [(q, e)], qe.1.Prime ∧ 0 < qe.2 ∧ qe.1 < q + 1) ∧
      (acc ++ [(q, e)]).Pairwise (fun a b => a.1 < b.1) := by
  refine ⟨List.forall_mem_append.mpr ⟨fun qe hqe => ?_, List.forall_mem_singleton.mpr ⟨hq, he, Nat.lt_succ_self q⟩⟩,
    List.pairwise_append.mpr ⟨h.sorted, List.pairwise_singleton _ _, fun a ha b hb => ?_⟩⟩
  · obtain ⟨a, b, c⟩ := h.primes qe hqe
    exact ⟨a, b, by omega⟩
  · rw [List.mem_singleton.mp hb]
    exact lt_of_lt_of_le (h.primes a ha).2.2 hpq

theorem LInv.step {n0 p n : Nat} {acc : List (Nat × Nat)} (h : LInv n0 p n acc) :
    LInv n0 (p + 1) (strip p n 0).1 (if (strip p n 0).2 > 0 then acc ++ [(p, (strip p n 0).2)] else acc) := by
  have hp := h.p2
  obtain ⟨r1, -, r3, r4, r5⟩ := strip_spec p n 0 hp h.npos
  rw [Nat.sub_zero] at r3
  have rough : ∀ q, q.Prime → q < p + 1 → ¬ q ∣ (strip p n 0).1 := by
    intro q hq hlt hd
    rcases Nat.lt_succ_iff_lt_or_eq.mp hlt with h1 | h1
    · exact h.rough q hq h1 (hd.trans (Dvd.intro _ r3.symm))
    · exact r4 (h1 ▸ hd)
  by_cases hpos : (strip p n 0).2 > 0
  · rw [if_pos hpos]
    obtain ⟨hpr, hso⟩ := h.snoc (prime_of_rough hp (r5.mp hpos) h.rough) hpos (le_refl p)
    exact ⟨r1, Nat.le_succ_of_le hp, by rw [prodOf_snoc, h.prod]; exact (congrArg (· * prodOf acc) r3).trans (by ring),
      rough, hpr, hso⟩
  · rw [if_neg hpos]
    rw [Nat.eq_zero_of_not_pos hpos, pow_zero, mul_one] at r3
    exact ⟨r1, Nat.le_succ_of_le hp, by rw [← r3]; exact h.prod, rough,
      fun qe hqe => (h.primes qe hqe).imp_right (.imp_right Nat.lt_succ_of_lt), h.sorted⟩

theorem loop_spec (n0 p n : Nat) (acc : List (Nat × Nat)) (h : LInv n0 p n acc) :
    let res := loop p n acc
    n0 = prodOf res ∧ (∀ qe ∈ res, qe.1.Prime ∧ 0 < qe.2) ∧ res.Pairwise (fun a b => a.1 < b.1) := by
  fun_induction loop p n acc with
  | case1 p n acc hc r ih => exact ih h.step
  | case2 p n acc hc hn =>
    -- n > 1 is prime: no prime factor below p and p*p > n
    have hnprime : n.Prime := by
      by_contra hnp
      have hmf := Nat.minFac_prime (n := n) (by omega)
      have hge : p ≤ n.minFac := by
        by_contra hlt; exact h.rough _ hmf (by omega) (Nat.minFac_dvd n)
      refine hc ⟨h.p2, ?_⟩
      calc p * p ≤ n.minFac * n.minFac := Nat.mul_le_mul hge hge
        _ = n.minFac ^ 2 := (sq _).symm
        _ ≤ n := Nat.minFac_sq_le_self (by omega) hnp
    have hge : p ≤ n := by
      by_contra hlt; exact h.rough n hnprime (by omega) (dvd_refl n)
    obtain ⟨hpr, hso⟩ := h.snoc hnprime Nat.one_pos hge
    exact ⟨by rw [prodOf_snoc, h.prod, pow_one, mul_comm], fun qe hqe => ⟨(hpr qe hqe).1, (hpr qe hqe).2.1⟩, hso⟩
  | case3 p n acc hc hn =>
    obtain rfl : n = 1 := by have := h.npos; omega
    exact ⟨by rw [h.prod, one_mul], fun qe hqe => ⟨(h.primes qe hqe).1, (h.primes qe hqe).2.1⟩, h.sorted⟩

/-- C01 (trial division): for every n ≥ 1 the model of `factorize::factorize` terminates and
returns a list of (prime, positive exponent), strictly increasing in the prime, with product n. -/
theorem factorize_correct (n : Nat) (hn : 1 ≤ n) :
    n = prodOf (factorize n) ∧ (∀ qe ∈ factorize n, qe.1.Prime ∧ 0 < qe.2) ∧
      (factorize n).Pairwise (fun a b => a.1 < b.1) := by
  unfold factorize
  apply loop_spec n 2 n []
  exact ⟨by omega, le_refl 2, by simp [prodOf], fun q hq hlt => by have := hq.two_le; omega,
    by simp, List.Pairwise.nil⟩

end NTV.Trial
