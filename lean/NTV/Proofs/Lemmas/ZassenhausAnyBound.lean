import NTV.Proofs.Lemmas.ZassenhausMignotte
import NTV.Spec.PolyZBound
/-! The Landau–Mignotte step of the Berlekamp–Zassenhaus correctness proof for ANY bound accepted by the
executable predicate `NTV.Spec.PolyZ.boundOk` (the check evaluates it on the bound the implementation chose),
and the fact that the model's own `coeffBound` is accepted. -/
open Polynomial
namespace NTV.PolyZ
open NTV.PolyG NTV.Spec.PolyZ

theorem boundOk_iff (a : List Int) (B : ℤ) :
    boundOk a B = true ↔ 2 ^ (a.length - 1) * ∑ i ∈ Finset.range (a.length - 1 + 1), |coefAt a i| < B := by
  unfold boundOk
  simp only [Int.natCast_natAbs, decide_eq_true_eq]
  rw [foldl_add_range (fun i => |coefAt a i|)]
  simp

theorem mignotte_for_boundOk (a : List Int) (ha : a ≠ []) (hca : Canon a) (hn : 2 ≤ a.length)
    (g h h' : ℤ[X]) (hfac : toPoly a = g * h * h') (j : ℕ) (B : ℤ) (hB : boundOk a B = true) :
    2 * |(C h'.leadingCoeff * h).coeff j| < B :=
  (mignotte_list a ha hca hn g h h' hfac j).trans_lt ((boundOk_iff a B).1 hB)

theorem mignotte_symmetric_range_boundOk (a : List Int) (ha : a ≠ []) (hca : Canon a) (hn : 2 ≤ a.length)
    (g h h' : ℤ[X]) (hfac : toPoly a = g * h * h') (j : ℕ) (B pe : ℤ) (hB : boundOk a B = true) (hpe : B < pe) :
    -(Int.tdiv pe 2) ≤ (C h'.leadingCoeff * h).coeff j ∧ (C h'.leadingCoeff * h).coeff j < pe - Int.tdiv pe 2 :=
  symmetric_range_of_lt _ B pe (mignotte_for_boundOk a ha hca hn g h h' hfac j B hB) hpe

example : boundOk [-1, 0, 1] 12 = true := by decide
example : boundOk [-1, 0, 1] 8 = false := by decide
example : 2 * |(C (X + 1 : ℤ[X]).leadingCoeff * (X - 1)).coeff 0| < 9 :=
  mignotte_for_boundOk [-1, 0, 1] (by simp) (by intro _; simp) (by simp) 1 (X - 1) (X + 1)
    toPoly_X_sq_sub_one 0 9 (by decide)

end NTV.PolyZ
