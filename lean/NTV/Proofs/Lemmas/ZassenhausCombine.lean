import NTV.Proofs.Lemmas.ZassenhausModel
/-! # Berlekamp–Zassenhaus, part 4: the recombination loop `combine` keeps the invariant
and every polynomial it outputs is irreducible in ℤ[X]. -/
open Polynomial
namespace NTV.PolyZ
open NTV.PolyG NTV.PolyMod NTV.Hensel NTV.Zas

/-- the numeric set-up of the recombination: `pe = P^e`, `pe2 = ⌊pe/2⌋`, and the Mignotte window: for every
factorisation `A = g·h·h'` the coefficients of `lc(h')·h` lie in `[-pe2, pe - pe2)` -/
structure Setup (P e : ℕ) (pe pe2 : Int) (A : ℤ[X]) : Prop where
  hpe : pe = (P : ℤ) ^ e
  hpe2 : pe2 = Int.tdiv pe 2
  bound : ∀ g h h' : ℤ[X], A = g * h * h' → ∀ j,
    -pe2 ≤ (C h'.leadingCoeff * h).coeff j ∧ (C h'.leadingCoeff * h).coeff j < pe - pe2

theorem coefAt_degU (a : List Int) (ha : a ≠ []) (hca : Canon a) : coefAt a (degU a) = (toPoly a).leadingCoeff := by
  rw [leadingCoeff, (natDegree_toPoly a ha hca).1, coeff_toPoly, degU, if_neg (by rwa [List.isEmpty_iff])]
  rfl

theorem toPoly_fromRaw_single (c : Int) : toPoly (fromRaw [c]) = C c := by
  rw [toPoly_fromRaw]; simp [toPoly]

theorem cand_cong (pe pe2 lca : Int) (L : List Poly) (bits : Nat) :
    PCong pe (toPoly (cand pe pe2 lca L bits)) (C lca * ((selBits L bits).map toPoly).prod) := by
  unfold cand
  refine (symres_cong pe pe2 _).trans ?_
  have := subsetProd_cong pe L bits (fromRaw [lca])
  rwa [toPoly_fromRaw_single] at this

theorem Setup.pe_pos {P e : ℕ} {pe pe2 : Int} {A : ℤ[X]} (S : Setup P e pe pe2 A) (hP : P.Prime) :
    0 < pe ∧ 0 ≤ pe2 ∧ pe2 < pe := by
  have h1 : 0 < pe := by rw [S.hpe]; exact pow_pos (by exact_mod_cast hP.pos) _
  rw [S.hpe2, Int.tdiv_eq_ediv_of_nonneg h1.le]
  omega

section
variable {P e : ℕ} {pe pe2 : Int} {A : ℤ[X]}

theorem step_some (S : Setup P e pe pe2 A) {a : List Int} {L : List Poly} {d : Nat} (ha : a ≠ []) (hca : Canon a)
    (I : Inv P e A (toPoly a) (L.map toPoly) d) (hlen : 2 * d ≤ L.length) (h25 : L.length ≤ 64)
    {pp a' : List Int} {l' : List Poly}
    (h : subsetLoop pe pe2 a (coefAt a (degU a)) L d (2 ^ L.length) 0 = .ok (some (pp, a', l'))) :
    Irreducible (toPoly pp) ∧ a' ≠ [] ∧ Canon a' ∧ Inv P e A (toPoly a') (l'.map toPoly) d ∧
      l'.length + d = L.length := by
  obtain ⟨bits, q, _, hb, hcnt, hq, hpp, hq1, hl'⟩ := subsetLoop_some pe pe2 a _ L d _ _ _ _ _ h
  rw [Nat.zero_add] at hb
  set lca := coefAt a (degU a) with hlca
  obtain ⟨hcne, _, _⟩ := divExact_sound _ _ q hq
  obtain ⟨c1, _, _, _⟩ := contPP_spec _ hcne (canon_symres _ _ _)
  obtain ⟨_, hfac, hca'⟩ := divExact_sound _ _ a' hq1
  have hne' := quot_ne_nil ha hca hfac
  have hcong : PCong ((P : ℤ) ^ e) (toPoly (cand pe pe2 lca L bits))
      (C (toPoly a).leadingCoeff * ((selBits L bits).map toPoly).prod) := by
    have e1 : C lca * ((selBits L bits).map toPoly).prod
        = C (toPoly a).leadingCoeff * ((selBits L bits).map toPoly).prod := by
      rw [hlca, coefAt_degU a ha hca]
    rw [← S.hpe, ← e1]
    exact cand_cong pe pe2 lca L bits
  have hperm : (L.map toPoly).Perm ((selBits L bits).map toPoly ++ (removeBits L bits).map toPoly) := by
    rw [← List.map_append]; exact (selBits_perm L bits).map _
  have hT : ((selBits L bits).map toPoly).length = d := by
    rw [List.length_map, ← countOnes_eq L 64 bits hb h25, hcnt]
  have hst := I.step hperm hT (by rw [List.length_map]; exact hlen) hcong
    (c := (contPP (cand pe pe2 lca L bits)).1) (pp := toPoly pp) (by rw [hpp, c1]) hfac
  have hlen' := (selBits_perm L bits).length_eq
  rw [List.length_append, ← List.length_map (f := toPoly) (as := selBits L bits), hT] at hlen'
  rw [hl']
  exact ⟨hst.1, hne', hca', hst.2, by omega⟩

theorem step_none (S : Setup P e pe pe2 A) {a : List Int} {L : List Poly} {d : Nat} (ha : a ≠ []) (hca : Canon a)
    (I : Inv P e A (toPoly a) (L.map toPoly) d) (h25 : L.length ≤ 64)
    (h : subsetLoop pe pe2 a (coefAt a (degU a)) L d (2 ^ L.length) 0 = .ok none) :
    Inv P e A (toPoly a) (L.map toPoly) (d + 1) := by
  classical
  apply I.next
  intro h₁ hd hnu hc
  obtain ⟨h', hfac⟩ := hd
  set lca := coefAt a (degU a) with hlca
  have hlca' : lca = (toPoly a).leadingCoeff := coefAt_degU a ha hca
  let p : Poly → Bool := fun G => decide (rd P (toPoly G) ∣ rd P h₁)
  have hfilter : (L.map toPoly).filter (fun G => decide (rd P G ∣ rd P h₁)) = (L.filter p).map toPoly := by
    rw [List.filter_map]; rfl
  have hsel := selBits_maskOf p L
  have hcnt : countOnes 64 (maskOf p L) = d := by
    rw [countOnes_eq L 64 _ (maskOf_lt p L) h25, hsel, ← hc, ← cnt_filter, hfilter, List.length_map]
  obtain ⟨hne, hnone⟩ := subsetLoop_none pe pe2 a lca L d _ _ h (maskOf p L) (Nat.zero_le _)
    (by rw [Nat.zero_add]; exact maskOf_lt p L) hcnt
  obtain ⟨k1, k2⟩ := I.lifted.candidate hfac
  rw [hfilter, ← S.hpe] at k1
  have hcong : PCong pe (toPoly (cand pe pe2 lca L (maskOf p L)))
      (C (toPoly a).leadingCoeff * ((L.filter p).map toPoly).prod) := by
    have e1 : C lca * ((selBits L (maskOf p L)).map toPoly).prod
        = C (toPoly a).leadingCoeff * ((L.filter p).map toPoly).prod := by
      rw [hlca', hsel]
    rw [← e1]
    exact cand_cong pe pe2 lca L (maskOf p L)
  obtain ⟨p1, p2, p3⟩ := S.pe_pos I.lifted.prime
  have hr1 := symres_range pe pe2 p1 p2 p3 _ hne
  obtain ⟨g, hg⟩ := I.dvd
  have hr2 := S.bound g h₁ h' (by rw [hg, hfac]; ring)
  have heq : toPoly (cand pe pe2 lca L (maskOf p L)) = C h'.leadingCoeff * h₁ :=
    eq_of_cong_of_range pe (-pe2) (pe - pe2) _ _ (hcong.trans k1.symm) (by omega) hr1 hr2
  -- it divides lc(a)·a, so the trial division cannot fail
  obtain ⟨d1, d2, d3⟩ := natDegree_toPoly a ha hca
  have hlc0 : (toPoly a).leadingCoeff ≠ 0 := leadingCoeff_ne_zero.mpr d3
  have halca : toPoly (polyMul a lca) = C (toPoly a).leadingCoeff * toPoly a := by rw [toPoly_polyMul, hlca']
  have halca0 : toPoly (polyMul a lca) ≠ 0 := by
    rw [halca]; exact mul_ne_zero (by rw [Ne, C_eq_zero]; exact hlc0) d3
  have halne : polyMul a lca ≠ [] := by
    intro h0; rw [h0] at halca0; exact halca0 rfl
  have hcne : cand pe pe2 lca L (maskOf p L) ≠ [] := by
    intro h0
    rw [h0] at heq
    obtain ⟨k, hk⟩ := k2
    rw [← heq, ← halca] at hk
    simp only [toPoly, zero_mul] at hk
    exact halca0 hk
  obtain ⟨k, hk⟩ := k2
  obtain ⟨q', hq'⟩ := exists_list k
  obtain ⟨q, hq⟩ := divExact_complete (polyMul a lca) (cand pe pe2 lca L (maskOf p L)) q' halne hcne
    (by unfold polyMul; exact canon_fromRaw _) (canon_symres _ _ _) (by rw [halca, hk, heq, hq']; ring)
  rw [hnone] at hq
  cases hq

/-- one round of `combine` under the invariant: the loop ends (then what is left is irreducible), the length
assertion fires, the enumeration fails, an irreducible factor is split off and the invariant kept, or `d` grows -/
theorem combine_succ (S : Setup P e pe pe2 A) {a : List Int} {L : List Poly} {d : Nat} (ha : a ≠ []) (hca : Canon a)
    (I : Inv P e A (toPoly a) (L.map toPoly) d) (fuel : Nat) (result : List Poly) :
    (Irreducible (toPoly a) ∧ combine pe pe2 (fuel + 1) a L d result = pure (result ++ [a])) ∨
    (2 * d ≤ L.length ∧
      ((25 < L.length ∧ combine pe pe2 (fuel + 1) a L d result = .error "panic assert") ∨
      (∃ err, subsetLoop pe pe2 a (coefAt a (degU a)) L d (2 ^ L.length) 0 = .error err ∧
        combine pe pe2 (fuel + 1) a L d result = .error err) ∨
      (∃ pp a1 l1, Irreducible (toPoly pp) ∧ a1 ≠ [] ∧ Canon a1 ∧ Inv P e A (toPoly a1) (l1.map toPoly) d ∧
        l1.length + d = L.length ∧
        combine pe pe2 (fuel + 1) a L d result = combine pe pe2 fuel a1 l1 d (result ++ [pp])) ∨
      (Inv P e A (toPoly a) (L.map toPoly) (d + 1) ∧
        combine pe pe2 (fuel + 1) a L d result = combine pe pe2 fuel a L (d + 1) result))) := by
  generalize hr : combine pe pe2 (fuel + 1) a L d result = r
  simp only [combine] at hr
  split at hr
  · rename_i hlen
    refine Or.inr ⟨hlen, ?_⟩
    split at hr
    · rename_i h25
      exact Or.inl ⟨h25, hr.symm⟩
    · rename_i h25
      have h64 : L.length ≤ 64 := by omega
      cases hv : subsetLoop pe pe2 a (coefAt a (degU a)) L d (2 ^ L.length) 0 with
      | error err => exact Or.inr (Or.inl ⟨err, rfl, by rw [← hr, hv]; rfl⟩)
      | ok v =>
        rw [hv] at hr
        refine Or.inr (Or.inr ?_)
        match v, hv with
        | some (pp, a1, l1), hv =>
          obtain ⟨s1, s2, s3, s4, s5⟩ := step_some S ha hca I hlen h64 hv
          exact Or.inl ⟨pp, a1, l1, s1, s2, s3, s4, s5, hr.symm⟩
        | none, hv => exact Or.inr ⟨step_none S ha hca I h64 hv, hr.symm⟩
  · rename_i hlen
    exact Or.inl ⟨I.exit (by rw [List.length_map]; omega), hr.symm⟩

/-- **Z3 for the model**: under the invariant, every polynomial that `combine` appends is irreducible -/
theorem combine_irreducible (S : Setup P e pe pe2 A) : ∀ (fuel : Nat) (a : List Int) (L : List Poly) (d : Nat)
    (result out : List Poly), a ≠ [] → Canon a → Inv P e A (toPoly a) (L.map toPoly) d →
    combine pe pe2 fuel a L d result = .ok out →
    ∃ new : List Poly, out = result ++ new ∧ ∀ f ∈ new, Irreducible (toPoly f) := by
  intro fuel
  induction fuel with
  | zero => intro a L d result out _ _ _ h; cases h
  | succ fuel ih =>
    intro a L d result out ha hca I h
    rcases combine_succ S ha hca I fuel result with
      ⟨hirr, he⟩ | ⟨-, ⟨-, he⟩ | ⟨err, -, he⟩ | ⟨pp, a1, l1, s1, s2, s3, s4, -, he⟩ | ⟨I', he⟩⟩ <;> rw [he] at h
    · cases h
      exact ⟨[a], rfl, List.forall_mem_singleton.mpr hirr⟩
    · cases h
    · cases h
    · obtain ⟨new, hout, hall⟩ := ih a1 l1 d _ out s2 s3 s4 h
      exact ⟨pp :: new, by rw [hout, List.append_assoc]; rfl, List.forall_mem_cons.mpr ⟨s1, hall⟩⟩
    · exact ih a L (d + 1) result out ha hca I' h

end
end NTV.PolyZ
