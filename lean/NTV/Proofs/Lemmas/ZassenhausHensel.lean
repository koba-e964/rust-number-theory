import NTV.Proofs.Lemmas.HenselBridge
import NTV.Proofs.Lemmas.HenselModel
import Mathlib.RingTheory.Nilpotent.Basic
import Mathlib.RingTheory.PrincipalIdealDomain
import Mathlib.Data.ZMod.Units
import Mathlib.Algebra.Polynomial.Monic
import Mathlib.Algebra.Squarefree.Basic
/-! Berlekamp–Zassenhaus, part 1: uniqueness of Hensel lifts (statements about ℤ[X] only). Coprime modulo `P` gives comaximal
modulo `P^e` (`isCoprime_lift`), and a factorisation `c·M·M' = h·h'` with monic, suitably comaximal `M, M'`
determines `h, h'` up to their leading coefficients (`monic_split_unique`); together: `hensel_subset`. -/
open Polynomial
namespace NTV.Zas
open NTV.Hensel NTV.PolyMod

/-- reduction of an integer polynomial modulo `m` -/
noncomputable abbrev rd (m : ℕ) (F : ℤ[X]) : (ZMod m)[X] := F.map (Int.castRingHom (ZMod m))

theorem pcong_pow_iff (P e : ℕ) (F G : ℤ[X]) : PCong ((P : ℤ) ^ e) F G ↔ rd (P ^ e) F = rd (P ^ e) G := by
  have := pcong_iff_map (P ^ e) F G
  rw [Nat.cast_pow] at this
  exact this

theorem isCoprime_of_nilpotent {S : Type*} [CommRing S] {x y u v n : S} (h : x * u + y * v = 1 + n)
    (hn : IsNilpotent n) : IsCoprime x y := by
  obtain ⟨s, hs⟩ := hn.isUnit_one_add
  refine ⟨u * ↑s⁻¹, v * ↑s⁻¹, ?_⟩
  calc u * ↑s⁻¹ * x + v * ↑s⁻¹ * y = (x * u + y * v) * ↑s⁻¹ := by ring
    _ = 1 := by rw [h, ← hs, Units.mul_inv]

theorem isCoprime_lift (P e : ℕ) (F G : ℤ[X]) (h : IsCoprime (rd P F) (rd P G)) :
    IsCoprime (rd (P ^ e) F) (rd (P ^ e) G) := by
  obtain ⟨U, V, W, hW⟩ := (coprime_iff_map P F G).mpr h
  -- F U + G V = 1 + P W, and P is nilpotent modulo P^e
  have h' := congrArg (Polynomial.map (Int.castRingHom (ZMod (P ^ e)))) hW
  rw [Polynomial.map_sub, Polynomial.map_add, Polynomial.map_mul, Polynomial.map_mul, Polynomial.map_mul,
    Polynomial.map_one, sub_eq_iff_eq_add'] at h'
  refine isCoprime_of_nilpotent h' ((Commute.all _ _).isNilpotent_mul_right ⟨e, ?_⟩)
  rw [← Polynomial.map_pow, ← C_pow, map_C, eq_intCast, ← Nat.cast_pow, Int.cast_natCast, ZMod.natCast_self, C_0]

theorem monic_split_unique {R : Type*} [CommRing R] [Nontrivial R] {M M' h h' : R[X]} {c : R}
    (hM : M.Monic) (hM' : M'.Monic) (hprod : C c * (M * M') = h * h')
    (hlc : IsUnit h.leadingCoeff) (hlc' : IsUnit h'.leadingCoeff)
    (hcop : IsCoprime M h') (hcop' : IsCoprime M' h) :
    h = C h.leadingCoeff * M ∧ h' = C h'.leadingCoeff * M' := by
  have hd : M ∣ h := hcop.dvd_of_dvd_mul_right ⟨C c * M', by rw [← hprod, mul_left_comm]⟩
  have hd' : M' ∣ h' :=
    hcop'.dvd_of_dvd_mul_right ⟨C c * M, by rw [mul_comm h' h, ← hprod, mul_comm M M', mul_left_comm]⟩
  obtain ⟨k, hk⟩ := hd
  obtain ⟨k', hk'⟩ := hd'
  have hk0 : k ≠ 0 := by
    rintro rfl; rw [mul_zero] at hk; rw [hk, leadingCoeff_zero] at hlc; exact not_isUnit_zero hlc
  have hk0' : k' ≠ 0 := by
    rintro rfl; rw [mul_zero] at hk'; rw [hk', leadingCoeff_zero] at hlc'; exact not_isUnit_zero hlc'
  have d1 : h.natDegree = M.natDegree + k.natDegree := by rw [hk]; exact hM.natDegree_mul' hk0
  have d2 : h'.natDegree = M'.natDegree + k'.natDegree := by rw [hk']; exact hM'.natDegree_mul' hk0'
  have d3 : (h * h').natDegree = h.natDegree + h'.natDegree :=
    natDegree_mul' (hlc.mul hlc').ne_zero
  have d4 : (C c * (M * M')).natDegree ≤ M.natDegree + M'.natDegree := by
    refine (natDegree_C_mul_le _ _).trans ?_
    rw [hM.natDegree_mul hM']
  rw [hprod, d3] at d4
  obtain ⟨κ, rfl⟩ : ∃ κ, k = C κ := ⟨_, eq_C_of_natDegree_eq_zero (by omega)⟩
  obtain ⟨κ', rfl⟩ : ∃ κ', k' = C κ' := ⟨_, eq_C_of_natDegree_eq_zero (by omega)⟩
  rw [hk, hk', leadingCoeff_monic_mul hM, leadingCoeff_monic_mul hM', leadingCoeff_C, leadingCoeff_C]
  exact ⟨mul_comm _ _, mul_comm _ _⟩

theorem one_lt_pow' {P e : ℕ} (hP : P.Prime) (he : 1 ≤ e) : 1 < P ^ e :=
  Nat.one_lt_pow (by omega) hP.one_lt

theorem isUnit_cast {P : ℕ} (hP : P.Prime) (e : ℕ) {c : ℤ} (hc : ¬ (P : ℤ) ∣ c) :
    IsUnit (Int.castRingHom (ZMod (P ^ e)) c) := by
  rw [eq_intCast, ZMod.coe_int_isUnit_iff_isCoprime]
  push_cast
  apply IsCoprime.pow_left
  exact (Nat.prime_iff_prime_int.mp hP).irreducible.coprime_iff_not_dvd.mpr hc

theorem rd_lc {P : ℕ} (hP : P.Prime) {e : ℕ} (he : 1 ≤ e) {F : ℤ[X]} (hF : ¬ (P : ℤ) ∣ F.leadingCoeff) :
    (rd (P ^ e) F).leadingCoeff = Int.castRingHom (ZMod (P ^ e)) F.leadingCoeff ∧
    (rd (P ^ e) F).natDegree = F.natDegree ∧ IsUnit (rd (P ^ e) F).leadingCoeff := by
  have _ : Fact (1 < P ^ e) := ⟨one_lt_pow' hP he⟩
  have hu := isUnit_cast hP e hF
  have h1 := leadingCoeff_map_of_leadingCoeff_ne_zero (Int.castRingHom (ZMod (P ^ e))) hu.ne_zero
  exact ⟨h1, natDegree_map_of_leadingCoeff_ne_zero _ hu.ne_zero, by rw [rd, h1]; exact hu⟩

theorem rd_lc_one {P : ℕ} (hP : P.Prime) {F : ℤ[X]} (hF : ¬ (P : ℤ) ∣ F.leadingCoeff) :
    (rd P F).natDegree = F.natDegree ∧ rd P F ≠ 0 := by
  have := rd_lc hP (le_refl 1) hF
  rw [pow_one] at this
  refine ⟨this.2.1, ?_⟩
  intro h0
  have hf : Fact (1 < P) := ⟨hP.one_lt⟩
  rw [h0, leadingCoeff_zero] at this
  exact not_isUnit_zero this.2.2

theorem monic_list_prod' {R : Type*} [CommRing R] : ∀ (L : List R[X]), (∀ G ∈ L, G.Monic) → L.prod.Monic
  | [], _ => by simp
  | G :: L, h => by
    rw [List.prod_cons]
    exact (h G (by simp)).mul (monic_list_prod' L fun x hx => h x (by simp [hx]))

theorem prod_filter_mul {R : Type*} [CommMonoid R] (p : R → Bool) : ∀ (L : List R),
    (L.filter p).prod * (L.filter (fun x => !p x)).prod = L.prod
  | [] => by simp
  | x :: L => by
    by_cases hx : p x
    · simp only [List.filter_cons, hx, ↓reduceIte, List.prod_cons, Bool.not_true, Bool.false_eq_true]
      rw [mul_assoc, prod_filter_mul p L]
    · simp only [List.filter_cons, hx, ↓reduceIte, List.prod_cons, Bool.not_false, Bool.false_eq_true]
      rw [mul_left_comm, prod_filter_mul p L]

section subset
variable {P : ℕ} {e : ℕ}

/-- the hypotheses on the lifted list relative to `a`: `P` prime, `e ≥ 1`, `P ∤ lc a`, `a` squarefree modulo
`P`, every `G ∈ L` monic with irreducible reduction, `lc(a)·∏ L ≡ a (mod P^e)` -/
structure Lifted (P e : ℕ) (a : ℤ[X]) (L : List ℤ[X]) : Prop where
  prime : P.Prime
  epos : 1 ≤ e
  lc : ¬ (P : ℤ) ∣ a.leadingCoeff
  sqf : Squarefree (rd P a)
  monic : ∀ G ∈ L, G.Monic
  irr : ∀ G ∈ L, Irreducible (rd P G)
  prod : PCong ((P : ℤ) ^ e) (C a.leadingCoeff * L.prod) a

theorem lc_factor {a h h' : ℤ[X]} (hfac : a = h * h') (hlc : ¬ (P : ℤ) ∣ a.leadingCoeff) :
    ¬ (P : ℤ) ∣ h.leadingCoeff ∧ ¬ (P : ℤ) ∣ h'.leadingCoeff := by
  rw [hfac, leadingCoeff_mul] at hlc
  exact ⟨fun h1 => hlc (Dvd.dvd.mul_right h1 _), fun h1 => hlc (Dvd.dvd.mul_left h1 _)⟩

theorem not_dvd_both {a h h' G : ℤ[X]} (hfac : a = h * h') (hsq : Squarefree (rd P a))
    (hG : Irreducible (rd P G)) (h1 : rd P G ∣ rd P h) (h2 : rd P G ∣ rd P h') : False := by
  have : rd P G * rd P G ∣ rd P a := by
    rw [hfac]; simp only [rd, Polynomial.map_mul]; exact mul_dvd_mul h1 h2
  exact hG.not_isUnit (hsq _ this)

theorem isCoprime_rd_prod [Fact P.Prime] {S : List ℤ[X]} {x : ℤ[X]}
    (hS : ∀ G ∈ S, Irreducible (rd P G) ∧ ¬ rd P G ∣ rd P x) : IsCoprime (rd P S.prod) (rd P x) := by
  rw [rd, Polynomial.map_list_prod]
  refine isCoprime_list_prod_left _ _ fun y hy => ?_
  obtain ⟨G, hG, rfl⟩ := List.mem_map.mp hy
  exact (hS G hG).1.coprime_iff_not_dvd.mpr (hS G hG).2

open Classical in
/-- **Z2 (Hensel uniqueness).** If `a = h·h'` then `h ≡ lc(h)·∏ {G ∈ L | rd P G ∣ rd P h}` and
`h' ≡ lc(h')·∏ {G ∈ L | rd P G ∤ rd P h}` modulo `P^e`. -/
theorem hensel_subset {a : ℤ[X]} {L : List ℤ[X]} (H : Lifted P e a L) {h h' : ℤ[X]} (hfac : a = h * h') :
    PCong ((P : ℤ) ^ e) (C h.leadingCoeff * (L.filter (fun G => rd P G ∣ rd P h)).prod) h ∧
    PCong ((P : ℤ) ^ e) (C h'.leadingCoeff * (L.filter (fun G => !decide (rd P G ∣ rd P h))).prod) h' := by
  have _ : Fact P.Prime := ⟨H.prime⟩
  have _ : Fact (1 < P ^ e) := ⟨one_lt_pow' H.prime H.epos⟩
  set S := L.filter (fun G => rd P G ∣ rd P h) with hS
  set S' := L.filter (fun G => !decide (rd P G ∣ rd P h)) with hS'
  obtain ⟨l1, l2⟩ := lc_factor hfac H.lc
  have hSmem : ∀ G ∈ S, G ∈ L ∧ rd P G ∣ rd P h := fun G hG => by
    rw [hS, List.mem_filter, decide_eq_true_eq] at hG; exact hG
  have hS'mem : ∀ G ∈ S', G ∈ L ∧ ¬ rd P G ∣ rd P h := fun G hG => by
    rw [hS', List.mem_filter, Bool.not_eq_true', decide_eq_false_iff_not] at hG; exact hG
  have hmS : S.prod.Monic := monic_list_prod' S fun G hG => H.monic G (hSmem G hG).1
  have hmS' : S'.prod.Monic := monic_list_prod' S' fun G hG => H.monic G (hS'mem G hG).1
  have hLprod : S.prod * S'.prod = L.prod := prod_filter_mul _ L
  have c1 : IsCoprime (rd P S.prod) (rd P h') := isCoprime_rd_prod fun G hG =>
    ⟨H.irr G (hSmem G hG).1, not_dvd_both hfac H.sqf (H.irr G (hSmem G hG).1) (hSmem G hG).2⟩
  have c2 : IsCoprime (rd P S'.prod) (rd P h) := isCoprime_rd_prod fun G hG =>
    ⟨H.irr G (hS'mem G hG).1, (hS'mem G hG).2⟩
  have c1' := isCoprime_lift P e _ _ c1
  have c2' := isCoprime_lift P e _ _ c2
  have hp := (pcong_pow_iff P e _ _).mp H.prod
  have hp' : C (Int.castRingHom (ZMod (P ^ e)) a.leadingCoeff) * (rd (P ^ e) S.prod * rd (P ^ e) S'.prod)
      = rd (P ^ e) h * rd (P ^ e) h' := by
    calc C (Int.castRingHom (ZMod (P ^ e)) a.leadingCoeff) * (rd (P ^ e) S.prod * rd (P ^ e) S'.prod)
        = rd (P ^ e) (C a.leadingCoeff * (S.prod * S'.prod)) := by
          simp only [rd, Polynomial.map_mul, Polynomial.map_C]
      _ = rd (P ^ e) a := by rw [hLprod]; exact hp
      _ = rd (P ^ e) h * rd (P ^ e) h' := by rw [hfac]; simp only [rd, Polynomial.map_mul]
  obtain ⟨u1, u2, u3⟩ := rd_lc H.prime H.epos l1
  obtain ⟨v1, v2, v3⟩ := rd_lc H.prime H.epos l2
  obtain ⟨r1, r2⟩ := monic_split_unique (hmS.map _) (hmS'.map _) hp' u3 v3 c1' c2'
  constructor
  · rw [pcong_pow_iff]; simp only [rd, Polynomial.map_mul, Polynomial.map_C]; rw [← u1]; exact r1.symm
  · rw [pcong_pow_iff]; simp only [rd, Polynomial.map_mul, Polynomial.map_C]; rw [← v1]; exact r2.symm

end subset

end NTV.Zas
