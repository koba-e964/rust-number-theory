import NTV.Proofs.Lemmas.ZassenhausCombine
import NTV.Proofs.Lemmas.ZassenhausPrimes
import NTV.Proofs.Lemmas.ZassenhausMignotte
import NTV.Proofs.C08
import NTV.Proofs.C11
import Mathlib.FieldTheory.Separable
/-! # Berlekamp–Zassenhaus, part 5: `get_factors_of_squarefree` returns irreducible polynomials -/
open Polynomial
namespace NTV.PolyZ
open NTV.PolyG NTV.PolyMod NTV.Hensel NTV.Zas

theorem powerAbove_spec (p bound : Int) : ∀ (fuel e0 : Nat) (pe0 : Int) (e : Nat) (pe : Int),
    powerAbove p bound fuel e0 pe0 = .ok (e, pe) →
    e0 ≤ e ∧ pe = pe0 * p ^ (e - e0) ∧ bound < pe ∧ (pe0 ≤ bound → e0 < e) := by
  intro fuel
  induction fuel with
  | zero => intro e0 pe0 e pe h; simp [powerAbove, throw, throwThe, MonadExceptOf.throw] at h
  | succ fuel ih =>
    intro e0 pe0 e pe h
    simp only [powerAbove] at h
    split at h
    · obtain ⟨h1, h2, h3, _⟩ := ih _ _ _ _ h
      refine ⟨by omega, ?_, h3, fun _ => by omega⟩
      rw [h2, show e - e0 = (e - (e0 + 1)) + 1 by omega, pow_succ]; ring
    · rename_i hgt
      simp only [pure, Except.pure, Except.ok.injEq, Prod.mk.injEq] at h
      obtain ⟨rfl, rfl⟩ := h
      exact ⟨le_refl _, by simp, by omega, fun h => absurd h hgt⟩

theorem squarefree_of_gcd_test (P : ℕ) (hP : P.Prime) (a g : List Int)
    (hg : polyGcd (polyMod a (P : Int)) (differentialMod (polyMod a (P : Int)) (P : Int)) (P : Int) = .ok g)
    (hd : degU g = 0) : Squarefree (rd P (toPoly a)) := by
  have _ : Fact P.Prime := ⟨hP⟩
  obtain ⟨⟨-, -, i3⟩, gg⟩ := polyGcd_isGcd P _ _ g (good_polyMod P hP.pos a) (good_differentialMod P hP.pos _) hg
  rw [mp_differentialMod, mp_polyMod] at i3
  -- the gcd is a non-zero constant, so `a mod P` and its derivative are coprime
  have hu : IsUnit (mp P g) := isUnit_mp_of_degU_zero P ⟨gg, fun h0 => degU_nil_pos (h0 ▸ hd)⟩ hd
  refine (separable_def _ |>.mpr ?_).squarefree
  rw [← EuclideanDomain.gcd_isUnit_iff]
  exact isUnit_of_dvd_unit (i3 _ (EuclideanDomain.gcd_dvd_left _ _) (EuclideanDomain.gcd_dvd_right _ _)) hu

theorem factorProduct_all_one : ∀ (fs : Factors), (fs.all fun fe => fe.2 == 1) = true →
    factorProduct fs = ((fs.map (·.1)).map toPoly).prod
  | [], _ => by simp [factorProduct]
  | x :: fs, h => by
    simp only [List.all_cons, Bool.and_eq_true, beq_iff_eq] at h
    have ih := factorProduct_all_one fs h.2
    simp only [factorProduct] at ih ⊢
    simp only [List.map_cons, List.prod_cons, ih, h.1, pow_one]

theorem pairwise_coprime_of_nodup (P : ℕ) (hP : P.Prime) (F : List Poly) (hnd : F.Nodup)
    (hmon : ∀ f ∈ F, lc f = 1) (hgood : ∀ f ∈ F, Reduced (P : ℤ) f ∧ Canon f)
    (hirr : ∀ f ∈ F, Irreducible ((toPoly f).map (Int.castRingHom (ZMod P)))) :
    F.Pairwise (fun f g => ∃ U V : ℤ[X], PCong (P : ℤ) (toPoly f * U + toPoly g * V) 1) := by
  have _ : Fact P.Prime := ⟨hP⟩
  refine hnd.imp_of_mem ?_
  intro f g hf hg hne
  rw [coprime_iff_map]
  apply (hirr f hf).coprime_iff_not_dvd.mpr
  intro hdvd
  have hassoc := (hirr f hf).associated_of_dvd (hirr g hg) hdvd
  have m1 := ((monic_toPoly f (hmon f hf)).1).map (Int.castRingHom (ZMod P))
  have m2 := ((monic_toPoly g (hmon g hg)).1).map (Int.castRingHom (ZMod P))
  have := eq_of_monic_of_associated m1 m2 hassoc
  exact hne (mp_inj P f g (hgood f hf) (hgood g hg) this)

theorem all_one_of_squarefree (P : ℕ) (a : List Int) (factors : Factors)
    (hsq : Squarefree (rd P (toPoly a)))
    (c1 : ∀ x ∈ factors, 1 ≤ x.2 ∧ Irreducible ((toPoly x.1).map (Int.castRingHom (ZMod P))))
    (c3 : PCong (P : Int) (C (lc (polyMod a P)) * factorProduct factors) (toPoly a)) :
    (factors.all fun fe => fe.2 == 1) = true := by
  rw [List.all_eq_true]
  intro x hx
  rw [beq_iff_eq]
  by_contra hne
  obtain ⟨h1, hirr⟩ := c1 x hx
  have h2 : 2 ≤ x.2 := by omega
  have hd1 : toPoly x.1 ^ 2 ∣ factorProduct factors := by
    refine (pow_dvd_pow _ h2).trans ?_
    unfold factorProduct
    exact List.dvd_prod (List.mem_map.mpr ⟨x, hx, rfl⟩)
  have hd2 : rd P (toPoly x.1 ^ 2) ∣ rd P (toPoly a) := by
    have := (pcong_iff_map P _ _).mp c3
    unfold rd
    rw [← this]
    exact Polynomial.map_dvd _ (hd1.trans (dvd_mul_left _ _))
  rw [rd, Polynomial.map_pow, pow_two] at hd2
  exact hirr.not_isUnit (hsq _ hd2)

/-- the stages between the prime search and the recombination: the exponent assertion of the Rust code holds
and `lift_factorization` is total -/
theorem hensel_stage (P : ℕ) (hP : P.Prime) (hP64 : P < 2 ^ 64) (e : ℕ) (he : 1 ≤ e) (a : List Int) (ha : a ≠ [])
    (hca : Canon a) (hlen : 2 ≤ a.length) (hlc : ¬ (P : ℤ) ∣ (toPoly a).leadingCoeff)
    (hsq : Squarefree (rd P (toPoly a))) (s : NTV.Draw.Stream) (factors : Factors)
    (hfac : factorizeModP a (P : ℤ) P s = .ok factors) :
    (factors.all fun fe => fe.2 == 1) = true ∧
    ∃ lifted, liftFactorization (P : ℤ) e a (factors.map (·.1)) = .ok lifted ∧
      Lifted P e (toPoly a) (lifted.map toPoly) := by
  obtain ⟨c1, c2, c3⟩ := NTV.C08.factorization_correct P hP a P s factors (fun _ => rfl)
    (fun h => by omega) hfac
  have hall := all_one_of_squarefree P a factors hsq (fun x hx => (c1 x hx).2.2.2.2) c3
  obtain ⟨d1, d2, d3⟩ := natDegree_toPoly a ha hca
  have cF : ∀ f ∈ factors.map (·.1), lc f = 1 ∧ Reduced (P : ℤ) f ∧ Canon f ∧ 2 ≤ f.length ∧ 1 ≤ 1 ∧
      Irreducible ((toPoly f).map (Int.castRingHom (ZMod P))) := fun f hf => by
    obtain ⟨x, hx, rfl⟩ := List.mem_map.mp hf
    obtain ⟨x1, x2, x3, x4, -, x6⟩ := c1 x hx
    exact ⟨x1, x2, x3, x4, le_refl 1, x6⟩
  set F := factors.map (·.1)
  have hM : ((F.map toPoly).prod).Monic := monic_list_prod' _ fun G hG => by
    obtain ⟨f, hf, rfl⟩ := List.mem_map.mp hG
    exact (monic_toPoly f (cF f hf).1).1
  rw [factorProduct_all_one factors hall] at c3
  obtain ⟨n1, n2⟩ := normalise_const hP (le_refl 1) hM hlc (by rw [pow_one]; exact c3)
  rw [pow_one, d2] at n2
  have hne : F ≠ [] := by
    rintro h0
    rw [h0, List.map_nil, List.prod_nil, natDegree_one] at n1
    omega
  have hcop := pairwise_coprime_of_nodup P hP F c2 (fun f hf => (cF f hf).1)
    (fun f hf => ⟨(cF f hf).2.1, (cF f hf).2.2.1⟩) (fun f hf => (cF f hf).2.2.2.2.2)
  rw [d2] at hlc
  obtain ⟨lifted, g1, _, g3, g4⟩ := NTV.C11.lift_factorization_spec P hP e he a hlc F hne
    (fun f hf => (cF f hf).1) (fun f hf => (cF f hf).2.1) hcop n2.symm
  rw [← d2] at hlc g4
  refine ⟨hall, lifted, g1, hP, he, hlc, hsq, ?_, ?_, g4⟩
  · intro G hG
    obtain ⟨g, hg, rfl⟩ := List.mem_map.mp hG
    obtain ⟨f, hf, r1, -⟩ := forall₂_mem_left g3 g hg
    exact (monic_toPoly g r1).1
  · intro G hG
    obtain ⟨g, hg, rfl⟩ := List.mem_map.mp hG
    obtain ⟨f, hf, -, -, -, -, r5⟩ := forall₂_mem_left g3 g hg
    rw [rd, (pcong_iff_map P _ _).mp r5]
    exact (cF f hf).2.2.2.2.2

/-- what the prime search and `powerAbove` hand to the later stages: a prime `pu < 2³¹` not dividing `lc a`, modulo
which `a` is squarefree, and for the modulus `pe = pu^e` above the coefficient bound the `Setup` of the recombination -/
theorem modulus_stage (a : List Int) (ha : a ≠ []) (hca : Canon a) (hlen : 2 ≤ a.length) (p : Int) (pu : Nat)
    (h1 : primeSearch a (degU a) 100000 2 = .ok (p, pu)) :
    pu.Prime ∧ p = pu ∧ pu < 2 ^ 31 ∧ ¬ (pu : ℤ) ∣ (toPoly a).leadingCoeff ∧ Squarefree (rd pu (toPoly a)) ∧
    ∀ fuel e pe, powerAbove p (coeffBound a (degU a)) fuel 0 1 = .ok (e, pe) →
      1 ≤ e ∧ Setup pu e pe (Int.tdiv pe 2) (toPoly a) := by
  obtain ⟨hP, rfl, hP31, hlc, g, hg, hgd⟩ := primeSearch_top a (degU a) p pu h1
  rw [coefAt_degU a ha hca] at hlc
  refine ⟨hP, rfl, hP31, hlc, squarefree_of_gcd_test pu hP a g hg hgd, fun fuel e pe h2 => ?_⟩
  obtain ⟨_, p2, p3, p4⟩ := powerAbove_spec _ _ _ _ _ _ _ h2
  rw [one_mul, Nat.sub_zero] at p2
  have hb : 0 < coeffBound a (degU a) := by
    refine lt_of_le_of_lt ?_ (lt_coeffBound a ha hca hlen)
    positivity
  exact ⟨p4 hb, p2, rfl, fun g h h' hfac j => mignotte_symmetric_range a ha hca hlen g h h' hfac j pe p3⟩

/-- **Z4.** Every polynomial returned by `get_factors_of_squarefree` on a canonical primitive input is
irreducible in ℤ[X] — for every draw stream. (A successful run forces deg a ≥ 1 and `a` squarefree: the prime
search only stops at a prime modulo which `a` is squarefree.) -/
theorem squarefree_factors_irreducible (a : List Int) (s : NTV.Draw.Stream) (out : List Poly) (hca : Canon a)
    (hprim : (toPoly a).IsPrimitive) (h : getFactorsOfSquarefree a s = .ok out) :
    ∀ f ∈ out, Irreducible (toPoly f) := by
  obtain ⟨ha, hd, p, pu, e, pe, factors, lifted, h1, h2, h3, h4, h5, h6⟩ := getFactorsOfSquarefree_inv a s out h
  have hlen : 2 ≤ a.length := by
    rw [degU_eq a ha] at hd
    omega
  obtain ⟨hP, rfl, hP31, hlc, hsq, hpow⟩ := modulus_stage a ha hca hlen p pu h1
  obtain ⟨he, S⟩ := hpow _ e pe h2
  obtain ⟨_, lifted', h5', hL⟩ := hensel_stage pu hP (by omega) e he a ha hca hlen hlc hsq s factors h3
  obtain rfl : lifted' = lifted := Except.ok.inj (h5'.symm.trans h5)
  have hnu : ¬ IsUnit (toPoly a) := fun hu => by
    have := natDegree_eq_zero_of_isUnit hu
    have := (natDegree_toPoly a ha hca).1
    omega
  obtain ⟨new, hout, hall⟩ := combine_irreducible S _ a lifted' 1 [] out ha hca (Inv.init hprim hL hnu) h6
  rw [List.nil_append] at hout
  subst hout
  exact hall

end NTV.PolyZ
