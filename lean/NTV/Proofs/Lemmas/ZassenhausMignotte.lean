import Mathlib.NumberTheory.MahlerMeasure
import Mathlib.Data.Nat.Choose.Bounds
import NTV.Model.PolyZ
import NTV.Proofs.Lemmas.PolyDivZ
/-! The Landau–Mignotte coefficient bound behind `NTV.PolyZ.coeffBound` (Theorem 3.5.1 in [Cohen]), as needed
by the correctness proof of the Berlekamp–Zassenhaus recombination: every coefficient of `lc(h')·h`, for a
factorisation `a = g·h·h'` over ℤ, is smaller in absolute value than half of `coeffBound a (deg a)`, hence lies in
the symmetric residue range of any modulus `pe > coeffBound a (deg a)`. Proved through the Mahler measure. -/
open Polynomial
namespace NTV.PolyZ
open NTV.PolyG

theorem isom_intCast : Isometry (Int.castRingHom ℂ) := by
  refine Isometry.of_dist_eq fun a b => ?_
  rw [dist_eq_norm, dist_eq_norm, ← map_sub, eq_intCast, Complex.norm_intCast, Int.norm_eq_abs]

theorem mignotte_norm (v : ℤ →+* ℂ) (iso : Isometry v) (g h h' : ℤ[X]) (hg : 1 ≤ g.mapMahlerMeasure v) (j : ℕ) :
    ‖h'.leadingCoeff‖ * ‖h.coeff j‖ ≤ h.natDegree.choose j * (g * h * h').sum fun _ a ↦ ‖a‖ :=
  calc ‖h'.leadingCoeff‖ * ‖h.coeff j‖
      ≤ h'.mapMahlerMeasure v * (h.natDegree.choose j * h.mapMahlerMeasure v) :=
        mul_le_mul (leadingCoeff_le_mapMahlerMeasure h' v iso)
          (norm_coeff_le_choose_mul_mapMahlerMeasure v iso j h) (norm_nonneg _) (mapMahlerMeasure_nonneg _ _)
    _ ≤ g.mapMahlerMeasure v * (h'.mapMahlerMeasure v * (h.natDegree.choose j * h.mapMahlerMeasure v)) :=
        le_mul_of_one_le_left (mul_nonneg (mapMahlerMeasure_nonneg _ _)
          (mul_nonneg (Nat.cast_nonneg _) (mapMahlerMeasure_nonneg _ _))) hg
    _ = h.natDegree.choose j * (g * h * h').mapMahlerMeasure v := by
        rw [mapMahlerMeasure_mul, mapMahlerMeasure_mul]; ring
    _ ≤ _ := mul_le_mul_of_nonneg_left (mapMahlerMeasure_le_sum_norm_coeff _ v iso) (Nat.cast_nonneg _)

/-- **Landau–Mignotte**, through the Mahler measure `M` (`M(g) ≥ 1` for a non-zero integer polynomial `g`) -/
theorem mignotte_divisor (A g h h' : ℤ[X]) (hA : A ≠ 0) (hfac : A = g * h * h') (j : ℕ) :
    |(C h'.leadingCoeff * h).coeff j| ≤ (h.natDegree.choose j : ℤ) * ∑ i ∈ Finset.range (A.natDegree + 1), |A.coeff i| := by
  have hg : g ≠ 0 := by rintro rfl; exact hA (by simpa using hfac)
  have key := mignotte_norm _ isom_intCast g h h' (one_le_mahlerMeasure_of_ne_zero hg) j
  rw [← hfac, sum_over_range A (f := fun _ a => ‖a‖) (fun _ => norm_zero)] at key
  simp only [Int.norm_eq_abs] at key
  rw [coeff_C_mul, abs_mul]
  exact_mod_cast key

theorem choose_le_two_pow_pred (m j n : ℕ) (hn : 1 ≤ n) (hm : m ≤ n) : m.choose j ≤ 2 ^ (n - 1) := by
  cases m with
  | zero =>
    calc Nat.choose 0 j ≤ 1 := by cases j <;> simp
      _ ≤ 2 ^ (n - 1) := Nat.one_le_two_pow
  | succ m =>
    calc (m + 1).choose j ≤ 2 ^ m := Nat.choose_succ_le_two_pow m j
      _ ≤ 2 ^ (n - 1) := Nat.pow_le_pow_right (by omega) (by omega)

theorem mignotte_list (a : List Int) (ha : a ≠ []) (hca : Canon a) (hn : 2 ≤ a.length)
    (g h h' : ℤ[X]) (hfac : toPoly a = g * h * h') (j : ℕ) :
    2 * |(C h'.leadingCoeff * h).coeff j| ≤
      2 ^ (a.length - 1) * ∑ i ∈ Finset.range (a.length - 1 + 1), |coefAt a i| := by
  obtain ⟨hdeg, -, hne⟩ := natDegree_toPoly a ha hca
  have hb := mignotte_divisor (toPoly a) g h h' hne hfac j
  simp only [hdeg, coeff_toPoly] at hb
  have hdh : h.natDegree ≤ a.length - 1 := by
    rw [← hdeg]
    refine natDegree_le_of_dvd ?_ hne
    rw [hfac]
    exact (dvd_mul_left h g).mul_right h'
  have hC : (h.natDegree.choose j : ℤ) ≤ 2 ^ (a.length - 1 - 1) := by
    exact_mod_cast choose_le_two_pow_pred h.natDegree j (a.length - 1) (by omega) hdh
  calc 2 * |(C h'.leadingCoeff * h).coeff j|
      ≤ 2 * (2 ^ (a.length - 1 - 1) * ∑ i ∈ Finset.range (a.length - 1 + 1), |coefAt a i|) :=
        Int.mul_le_mul_of_nonneg_left
          (hb.trans (mul_le_mul_of_nonneg_right hC (Finset.sum_nonneg fun i _ => abs_nonneg _))) (by norm_num)
    _ = 2 ^ (a.length - 1) * ∑ i ∈ Finset.range (a.length - 1 + 1), |coefAt a i| := by
        rw [← mul_assoc, ← pow_succ', Nat.sub_add_cancel (by omega)]

theorem foldl_add_range (f : ℕ → ℤ) (init : ℤ) (m : ℕ) :
    (List.range m).foldl (fun s i => s + f i) init = init + ∑ i ∈ Finset.range m, f i := by
  induction m with
  | zero => simp
  | succ m ih => rw [List.range_succ, List.foldl_append, ih, Finset.sum_range_succ]; simp [add_assoc]

theorem foldl_double_range (s : ℤ) (k : ℕ) :
    (List.range k).foldl (fun b _ => b * 2) s = s * 2 ^ k := by
  induction k with
  | zero => simp
  | succ k ih => rw [List.range_succ, List.foldl_append, ih]; simp [pow_succ, mul_assoc]

theorem coeffBound_eq (a : List Int) (n : ℕ) :
    coeffBound a n = (|coefAt a n| + ∑ i ∈ Finset.range (n + 1), |coefAt a i|) * 2 ^ (n - 1) * 2 * |coefAt a n| := by
  unfold coeffBound
  simp only [Int.natCast_natAbs]
  rw [foldl_add_range (fun i => |coefAt a i|), foldl_double_range]

/-- `coeffBound a (deg a) = (L + S)·2^(deg a)·L > 2^(deg a)·S` with `S = ‖a‖₁` and `L = |lc a| ≥ 1` -/
theorem lt_coeffBound (a : List Int) (ha : a ≠ []) (hca : Canon a) (hn : 2 ≤ a.length) :
    2 ^ (a.length - 1) * ∑ i ∈ Finset.range (a.length - 1 + 1), |coefAt a i| < coeffBound a (degU a) := by
  have hdU : degU a = a.length - 1 := by rw [degU, if_neg (by rwa [List.isEmpty_iff])]
  have hL : 1 ≤ |coefAt a (a.length - 1)| := by
    unfold coefAt; rw [lc_eq_getD a ha]
    exact Int.one_le_abs (lc_ne_zero a ha hca)
  have hS : 0 ≤ ∑ i ∈ Finset.range (a.length - 1 + 1), |coefAt a i| :=
    Finset.sum_nonneg fun i _ => abs_nonneg _
  obtain ⟨n, hn'⟩ : ∃ n, a.length - 1 = n + 1 := ⟨a.length - 2, by omega⟩
  rw [coeffBound_eq, hdU]
  rw [hn'] at hL hS ⊢
  rw [Nat.add_sub_cancel, pow_succ]
  have hP : (0 : ℤ) < 2 ^ n * 2 := by positivity
  calc 2 ^ n * 2 * ∑ i ∈ Finset.range (n + 1 + 1), |coefAt a i|
      < 2 ^ n * 2 * (|coefAt a (n + 1)| + ∑ i ∈ Finset.range (n + 1 + 1), |coefAt a i|) :=
        Int.mul_lt_mul_of_pos_left (by omega) hP
    _ ≤ 2 ^ n * 2 * (|coefAt a (n + 1)| + ∑ i ∈ Finset.range (n + 1 + 1), |coefAt a i|) * |coefAt a (n + 1)| :=
        le_mul_of_one_le_right (mul_nonneg hP.le (by omega)) hL
    _ = _ := by ring

/-- **Mignotte bound for `coeffBound`** (Z1) -/
theorem mignotte_for_coeffBound (a : List Int) (ha : a ≠ []) (hca : Canon a) (hn : 2 ≤ a.length)
    (g h h' : ℤ[X]) (hfac : toPoly a = g * h * h') (j : ℕ) :
    2 * |(C h'.leadingCoeff * h).coeff j| < coeffBound a (degU a) :=
  (mignotte_list a ha hca hn g h h' hfac j).trans_lt (lt_coeffBound a ha hca hn)

theorem symmetric_range_of_lt (c B pe : ℤ) (hc : 2 * |c| < B) (hpe : B < pe) :
    -(Int.tdiv pe 2) ≤ c ∧ c < pe - Int.tdiv pe 2 := by
  have h0 := abs_nonneg c
  have h := abs_le.mp (le_refl |c|)
  rw [Int.tdiv_eq_ediv_of_nonneg (by omega)]
  omega

/-- the shape used by the recombination (`Setup.bound`) -/
theorem mignotte_symmetric_range (a : List Int) (ha : a ≠ []) (hca : Canon a) (hn : 2 ≤ a.length)
    (g h h' : ℤ[X]) (hfac : toPoly a = g * h * h') (j : ℕ) (pe : ℤ) (hpe : coeffBound a (degU a) < pe) :
    -(Int.tdiv pe 2) ≤ (C h'.leadingCoeff * h).coeff j ∧ (C h'.leadingCoeff * h).coeff j < pe - Int.tdiv pe 2 :=
  symmetric_range_of_lt _ _ pe (mignotte_for_coeffBound a ha hca hn g h h' hfac j) hpe

theorem toPoly_X_sq_sub_one : toPoly ([-1, 0, 1] : List Int) = 1 * (X - 1) * (X + 1) := by
  simp only [toPoly, C_0, C_1, C_neg]; ring

example : 2 * |(C (X + 1 : ℤ[X]).leadingCoeff * (X - 1)).coeff 0| < coeffBound [-1, 0, 1] (degU [-1, 0, 1]) :=
  mignotte_for_coeffBound [-1, 0, 1] (by simp) (by intro _; simp) (by simp) 1 (X - 1) (X + 1)
    toPoly_X_sq_sub_one 0

/-- `coeffBound [-1,0,1] 2 = 12`; with `pe = 13` the coefficient `-1` of `X - 1` lies in `[-6, 7)` -/
example : -(Int.tdiv 13 2) ≤ (C (X + 1 : ℤ[X]).leadingCoeff * (X - 1)).coeff 0 ∧
    (C (X + 1 : ℤ[X]).leadingCoeff * (X - 1)).coeff 0 < 13 - Int.tdiv 13 2 :=
  mignotte_symmetric_range [-1, 0, 1] (by simp) (by intro _; simp) (by simp) 1 (X - 1) (X + 1)
    toPoly_X_sq_sub_one 0 13 (by decide)

example : |(C (X + 1 : ℤ[X]).leadingCoeff * (X - 1)).coeff 0| ≤
    (((X - 1 : ℤ[X]).natDegree.choose 0 : ℕ) : ℤ) * ∑ i ∈ Finset.range ((X ^ 2 - 1 : ℤ[X]).natDegree + 1), |(X ^ 2 - 1 : ℤ[X]).coeff i| :=
  mignotte_divisor (X ^ 2 - 1) 1 (X - 1) (X + 1) (by simpa using X_pow_sub_C_ne_zero (R := ℤ) (n := 2) (by norm_num) 1) (by ring) 0

end NTV.PolyZ
