import NTV.Model.PolyZ
import NTV.Proofs.Lemmas.PolyZProofs1
import NTV.Proofs.Lemmas.ZassenhausRecomb
/-! # Berlekamp–Zassenhaus, part 3: the subset enumeration of the model
bit masks and sub-lists, the product of a subset modulo p^e, the range of the symmetric residue. (What a run of
`subsetLoop` establishes is in `PolyZProofs1`: `subsetLoop_run`.) -/
open Polynomial
namespace NTV.PolyZ
open NTV.PolyG NTV.PolyMod NTV.Hensel

/-- the entries selected by a bit mask (bit i ↔ entry i) -/
def selBits {α : Type} : List α → Nat → List α
  | [], _ => []
  | f :: fs, bits => if bits % 2 = 1 then f :: selBits fs (bits / 2) else selBits fs (bits / 2)

/-- the mask of the entries satisfying `p` -/
def maskOf {α : Type} (p : α → Bool) : List α → Nat
  | [] => 0
  | f :: fs => (if p f then 1 else 0) + 2 * maskOf p fs

theorem selBits_perm : ∀ (L : List Poly) (bits : Nat), L.Perm (selBits L bits ++ removeBits L bits)
  | [], _ => by simp [selBits, removeBits]
  | f :: fs, bits => by
    simp only [selBits, removeBits]
    split
    · simpa using selBits_perm fs (bits / 2)
    · exact ((selBits_perm fs (bits / 2)).cons f).trans List.perm_middle.symm

theorem selBits_zero {α : Type} : ∀ (L : List α), selBits L 0 = []
  | [] => rfl
  | f :: fs => by simp [selBits, selBits_zero fs]

theorem countOnes_eq {α : Type} : ∀ (L : List α) (fuel bits : Nat), bits < 2 ^ L.length → L.length ≤ fuel →
    countOnes fuel bits = (selBits L bits).length
  | [], fuel, bits, hb, _ => by
    have : bits = 0 := by simpa using hb
    subst this
    cases fuel <;> simp [countOnes, selBits]
  | f :: fs, 0, bits, _, hf => by simp at hf
  | f :: fs, fuel + 1, bits, hb, hf => by
    simp only [countOnes]
    by_cases h0 : bits = 0
    · subst h0; simp [selBits_zero]
    · simp only [h0, ↓reduceIte, selBits]
      have hb' : bits / 2 < 2 ^ fs.length := by
        rw [List.length_cons, pow_succ] at hb; omega
      rw [countOnes_eq fs fuel (bits / 2) hb' (Nat.le_of_succ_le_succ hf)]
      rcases Nat.mod_two_eq_zero_or_one bits with h | h
      · rw [h, if_neg (by decide), Nat.zero_add]
      · rw [h, if_pos rfl, List.length_cons, Nat.add_comm]

theorem selBits_maskOf {α : Type} (p : α → Bool) : ∀ (L : List α), selBits L (maskOf p L) = L.filter p
  | [] => rfl
  | f :: fs => by
    have h : ∀ b, b < 2 → (b + 2 * maskOf p fs) % 2 = b ∧ (b + 2 * maskOf p fs) / 2 = maskOf p fs := by
      intro b hb; omega
    simp only [maskOf, selBits, List.filter_cons]
    by_cases hp : p f
    · simp only [hp, ↓reduceIte, h 1 (by decide), selBits_maskOf p fs]
    · simp only [hp, Bool.false_eq_true, ↓reduceIte, h 0 (by decide), selBits_maskOf p fs, Nat.zero_ne_one]

theorem maskOf_lt {α : Type} (p : α → Bool) : ∀ (L : List α), maskOf p L < 2 ^ L.length
  | [] => by simp [maskOf]
  | f :: fs => by
    have := maskOf_lt p fs
    simp only [maskOf, List.length_cons, pow_succ]
    split <;> omega

theorem subsetProd_cong (pe : Int) : ∀ (L : List Poly) (bits : Nat) (prod : Poly),
    PCong pe (toPoly (subsetProd pe L bits prod)) (toPoly prod * ((selBits L bits).map toPoly).prod)
  | [], _, prod => by simpa [subsetProd, selBits] using PCong.refl pe (toPoly prod)
  | f :: fs, bits, prod => by
    simp only [subsetProd, selBits]
    split
    · refine (subsetProd_cong pe fs (bits / 2) _).trans ?_
      have h1 : PCong pe (toPoly (polyMod (mul prod f) pe)) (toPoly prod * toPoly f) := by
        have := polyMod_cong (mul prod f) pe
        rwa [toPoly_mul] at this
      have := PCong.mul h1 (PCong.refl pe ((selBits fs (bits / 2)).map toPoly).prod)
      simpa [mul_assoc] using this
    · exact subsetProd_cong pe fs (bits / 2) prod

theorem symres_cong (pe pe2 : Int) (prod : Poly) : PCong pe (toPoly (symres pe pe2 prod)) (toPoly prod) := by
  unfold symres
  rw [toPoly_sub]
  have h1 := polyMod_cong (add prod (fromRaw (List.replicate (degU prod + 1) pe2))) pe
  rw [toPoly_add] at h1
  have := PCong.sub h1 (PCong.refl pe (toPoly (fromRaw (List.replicate (degU prod + 1) pe2))))
  simpa using this

theorem getD_replicate (n : Nat) (x : Int) (j : Nat) : (List.replicate n x).getD j 0 = if j < n then x else 0 := by
  simp only [List.getD_eq_getElem?_getD, List.getElem?_replicate]
  split <;> simp

theorem coeff_polyMod (f : Poly) (p : Int) (j : Nat) : (toPoly (polyMod f p)).coeff j = Int.fmod (f.getD j 0) p := by
  unfold polyMod
  rw [toPoly_fromRaw, coeff_toPoly]
  simp only [List.getD_eq_getElem?_getD, List.getElem?_map]
  cases f[j]? <;> simp

theorem symres_range (pe pe2 : Int) (hpe : 0 < pe) (h0 : 0 ≤ pe2) (h1 : pe2 < pe) (prod : Poly) (hne : prod ≠ [])
    (j : Nat) : -pe2 ≤ (toPoly (symres pe pe2 prod)).coeff j ∧ (toPoly (symres pe pe2 prod)).coeff j < pe - pe2 := by
  unfold symres
  have hd : degU prod + 1 = prod.length := by
    rw [degU, if_neg (by rwa [List.isEmpty_iff])]
    exact Nat.sub_add_cancel (List.length_pos_of_ne_nil hne)
  rw [hd, toPoly_sub, coeff_sub, coeff_polyMod, toPoly_fromRaw, coeff_toPoly, getD_replicate,
    ← coeff_toPoly, toPoly_add, coeff_add, toPoly_fromRaw, coeff_toPoly, coeff_toPoly, getD_replicate]
  by_cases hj : j < prod.length
  · simp only [hj, ↓reduceIte]
    have := Int.fmod_nonneg_of_pos (prod.getD j 0 + pe2) hpe
    have := Int.fmod_lt_of_pos (prod.getD j 0 + pe2) hpe
    omega
  · simp only [hj, ↓reduceIte, add_zero, sub_zero]
    rw [getD_of_length_le prod j (by omega)]
    simp; omega

theorem eq_of_cong_of_range (pe lo hi : Int) (F G : ℤ[X]) (hc : PCong pe F G) (hw : hi - lo ≤ pe)
    (hF : ∀ j, lo ≤ F.coeff j ∧ F.coeff j < hi) (hG : ∀ j, lo ≤ G.coeff j ∧ G.coeff j < hi) : F = G := by
  ext j
  have hd := (pcong_iff pe F G).mp hc j
  rw [coeff_sub] at hd
  have := hF j
  have := hG j
  exact sub_eq_zero.mp (Int.eq_zero_of_abs_lt_dvd hd (by rw [abs_lt]; constructor <;> omega))

end NTV.PolyZ
