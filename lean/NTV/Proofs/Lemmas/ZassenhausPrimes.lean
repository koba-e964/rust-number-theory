import NTV.Model.PolyZ
import NTV.Proofs.Lemmas.PrimesIter
import Mathlib.NumberTheory.Bertrand
import Mathlib.Data.Nat.Choose.Factorization
import Mathlib.Data.Nat.Choose.Central
import Mathlib.Data.Nat.Count
import Mathlib.Tactic

/-! The prime search of `get_factors_of_squarefree` (`NTV.PolyZ.primeSearch`) returns a genuine prime with
no i32 wrap-around: the search sees at most 100000 primes and (Chebyshev/Erdős, via the central binomial
coefficient) there are more than 100000 primes below 2^31. -/
namespace NTV.PolyZ

/-- `C(2n, n) ≤ (2n)^π(2n)`: each prime power in the central binomial coefficient is at most `2n` -/
theorem centralBinom_le_pow_count (n : Nat) (hn : 0 < n) :
    Nat.centralBinom n ≤ (2 * n) ^ Nat.count Nat.Prime (2 * n + 1) := by
  classical
  rw [← Nat.prod_pow_factorization_centralBinom n, Nat.count_eq_card_filter_range,
    ← Finset.prod_const, Finset.prod_filter]
  apply Finset.prod_le_prod'
  intro p _
  split
  · rename_i hp
    exact Nat.pow_factorization_choose_le (by omega)
  · rename_i hp
    rw [Nat.factorization_eq_zero_of_not_prime _ hp, pow_zero]

theorem chebyshev_pow_two (k : Nat) :
    2 ^ (k + 1) ≤ (k + 1) * (Nat.count Nat.Prime (2 ^ (k + 1) + 1) + 1) := by
  have hn : 0 < 2 ^ k := Nat.pow_pos (by norm_num)
  have h1 := Nat.four_pow_le_two_mul_self_mul_centralBinom (2 ^ k) hn
  have h2 := centralBinom_le_pow_count (2 ^ k) hn
  have e : 2 * 2 ^ k = 2 ^ (k + 1) := (pow_succ' 2 k).symm
  rw [e] at h1 h2
  have h3 : (4 : Nat) ^ (2 ^ k) = 2 ^ (2 ^ (k + 1)) := by
    rw [show (4 : Nat) = 2 ^ 2 by norm_num, ← pow_mul, pow_succ 2 k, mul_comm]
  rw [h3] at h1
  have h4 : 2 ^ (2 ^ (k + 1)) ≤ 2 ^ ((k + 1) * (Nat.count Nat.Prime (2 ^ (k + 1) + 1) + 1)) := by
    calc 2 ^ (2 ^ (k + 1)) ≤ 2 ^ (k + 1) * Nat.centralBinom (2 ^ k) := h1
      _ ≤ 2 ^ (k + 1) * (2 ^ (k + 1)) ^ Nat.count Nat.Prime (2 ^ (k + 1) + 1) :=
          Nat.mul_le_mul_left _ h2
      _ = 2 ^ ((k + 1) * (Nat.count Nat.Prime (2 ^ (k + 1) + 1) + 1)) := by
          rw [← pow_succ', ← pow_mul]
  exact (Nat.pow_le_pow_iff_right (by norm_num)).mp h4

/-- (`Nat.count p n` counts the `k < n` with `p k`) -/
theorem count_primes_lower : 100000 ≤ Nat.count Nat.Prime (2 ^ 31) := by
  have h := chebyshev_pow_two 21
  have hm : Nat.count Nat.Prime (2 ^ (21 + 1) + 1) ≤ Nat.count Nat.Prime (2 ^ 31) :=
    Nat.count_monotone _ (by norm_num)
  generalize Nat.count Nat.Prime (2 ^ (21 + 1) + 1) = x at h hm
  generalize Nat.count Nat.Prime (2 ^ 31) = y at hm ⊢
  norm_num at h
  omega


/-- soundness of `Primes::next`: a returned value is the least prime ≥ the state -/
theorem nextPrime_sound : ∀ (fuel s q : Nat), NTV.Elem.nextPrime fuel s = some q →
    q.Prime ∧ s ≤ q ∧ ∀ k, s ≤ k → k < q → ¬ k.Prime := by
  intro fuel
  induction fuel with
  | zero => intro s q h; simp [NTV.Elem.nextPrime] at h
  | succ fuel ih =>
    intro s q h
    simp only [NTV.Elem.nextPrime] at h
    by_cases hs : NTV.Elem.isPrimeTD s = true
    · simp only [hs, ↓reduceIte, Option.some.injEq] at h
      subst h
      exact ⟨(NTV.Elem.isPrimeTD_iff s).mp hs, le_refl _, fun k h1 h2 => by omega⟩
    · simp only [hs, Bool.false_eq_true, ↓reduceIte] at h
      obtain ⟨hq, hle, hno⟩ := ih (s + 1) q h
      refine ⟨hq, by omega, fun k h1 h2 => ?_⟩
      by_cases e : k = s
      · subst e; exact fun hp => hs ((NTV.Elem.isPrimeTD_iff k).mpr hp)
      · exact hno k (by omega) h2

theorem count_prime_eq_of_gap (s q : Nat) (hle : s ≤ q) (hno : ∀ k, s ≤ k → k < q → ¬ k.Prime) :
    Nat.count Nat.Prime q = Nat.count Nat.Prime s := by
  induction q, hle using Nat.le_induction with
  | base => rfl
  | succ q hsq ih =>
    rw [Nat.count_succ, if_neg (hno q hsq (by omega)), add_zero]
    exact ih (fun k h1 h2 => hno k h1 (by omega))

theorem asI32_of_lt (now : Nat) (h : now < 2 ^ 31) : asI32 now = (now : Int) := by
  unfold asI32
  have : now % 2 ^ 32 = now := Nat.mod_eq_of_lt (by omega)
  simp only [this, h, ↓reduceIte]

theorem lt_of_count_lt (now : Nat) (h : Nat.count Nat.Prime now < 100000) : now < 2 ^ 31 := by
  by_contra hc
  have := Nat.count_monotone Nat.Prime (not_lt.mp hc)
  have := count_primes_lower
  omega

/-- one round of `primeSearch` within the budget (primes below the state + primes still to be tried ≤ 100000): the
prime yielded has index below 100000, hence is below 2³¹, so `now as i32` is `now` and the `% 0` guard is passed -/
theorem primeSearch_succ (a : List Int) (n fuel state : Nat)
    (hinv : Nat.count Nat.Prime state + (fuel + 1) ≤ 100000) :
    primeSearch a n (fuel + 1) state = .error "inconclusive fuel" ∨
    ∃ now : Nat, now.Prime ∧ now < 2 ^ 31 ∧ Nat.count Nat.Prime (now + 1) + fuel ≤ 100000 ∧
      primeSearch a n (fuel + 1) state =
        if Int.tmod (NTV.PolyG.coefAt a n) now = 0 then primeSearch a n fuel (now + 1)
        else NTV.PolyMod.polyGcd (NTV.PolyMod.polyMod a now)
            (NTV.PolyMod.differentialMod (NTV.PolyMod.polyMod a now) now) now >>= fun g =>
          if NTV.PolyG.degU g = 0 then pure ((now : Int), now) else primeSearch a n fuel (now + 1) := by
  rw [primeSearch]
  split
  · exact Or.inl rfl
  · rename_i now hnow
    obtain ⟨hprime, hle, hno⟩ := nextPrime_sound _ _ _ hnow
    have hc := count_prime_eq_of_gap state now hle hno
    have hc1 : Nat.count Nat.Prime (now + 1) = Nat.count Nat.Prime state + 1 := by
      rw [Nat.count_succ, if_pos hprime, hc]
    have hlt : now < 2 ^ 31 := lt_of_count_lt now (by omega)
    refine Or.inr ⟨now, hprime, hlt, by omega, ?_⟩
    simp only [asI32_of_lt now hlt]
    rw [if_neg (by have := hprime.two_le; omega)]

theorem primeSearch_spec (a : List Int) (n : Nat) : ∀ (fuel state : Nat) (p : Int) (pu : Nat),
    Nat.count Nat.Prime state + fuel ≤ 100000 →
    primeSearch a n fuel state = .ok (p, pu) →
    pu.Prime ∧ p = (pu : Int) ∧ pu < 2 ^ 31 ∧ ¬ ((pu : Int) ∣ NTV.PolyG.coefAt a n) ∧
    ∃ g, NTV.PolyMod.polyGcd (NTV.PolyMod.polyMod a p)
        (NTV.PolyMod.differentialMod (NTV.PolyMod.polyMod a p) p) p = .ok g ∧
      NTV.PolyG.degU g = 0 := by
  intro fuel
  induction fuel with
  | zero => intro state p pu _ h; cases h
  | succ fuel ih =>
    intro state p pu hinv h
    rcases primeSearch_succ a n fuel state hinv with he | ⟨now, hprime, hlt, hrec, he⟩
    · rw [he] at h; cases h
    rw [he] at h
    split at h
    · exact ih (now + 1) p pu hrec h
    · rename_i hnd
      cases hg : NTV.PolyMod.polyGcd (NTV.PolyMod.polyMod a (now : Int))
          (NTV.PolyMod.differentialMod (NTV.PolyMod.polyMod a (now : Int)) (now : Int)) (now : Int) with
      | error e => rw [hg] at h; cases h
      | ok g =>
        rw [hg] at h
        simp only [bind, Except.bind] at h
        split at h
        · rename_i hdeg
          obtain ⟨rfl, rfl⟩ := Prod.mk.inj (Except.ok.inj h)
          exact ⟨hprime, rfl, hlt, fun hd => hnd (Int.tmod_eq_zero_of_dvd hd), g, hg, hdeg⟩
        · exact ih (now + 1) p pu hrec h

/-- the call actually made by `getFactorsOfSquarefree`: fuel 100000 from state 2 -/
theorem primeSearch_top (a : List Int) (n : Nat) (p : Int) (pu : Nat) :
    primeSearch a n 100000 2 = .ok (p, pu) →
    pu.Prime ∧ p = (pu : Int) ∧ pu < 2 ^ 31 ∧ ¬ ((pu : Int) ∣ NTV.PolyG.coefAt a n) ∧
    ∃ g, NTV.PolyMod.polyGcd (NTV.PolyMod.polyMod a p)
        (NTV.PolyMod.differentialMod (NTV.PolyMod.polyMod a p) p) p = .ok g ∧
      NTV.PolyG.degU g = 0 := by
  apply primeSearch_spec a n 100000 2 p pu
  have : Nat.count Nat.Prime 2 = 0 := by decide
  omega

/-- the hypothesis is satisfiable: x^4 + 1 is squarefree modulo 3 (and not modulo 2) -/
example : primeSearch [1, 0, 0, 0, 1] 4 100000 2 = .ok (3, 3) := by decide +kernel

/-- 2, 3, 5 divide the leading coefficient of 30x^4 + x^2 + 6; the search returns 7 -/
example : primeSearch [6, 0, 1, 0, 30] 4 100000 2 = .ok (7, 7) := by decide +kernel

example : Nat.Prime 7 ∧ ¬ ((7 : Int) ∣ NTV.PolyG.coefAt [6, 0, 1, 0, 30] 4) :=
  have h := primeSearch_top [6, 0, 1, 0, 30] 4 7 7 (by decide +kernel)
  ⟨h.1, h.2.2.2.1⟩

end NTV.PolyZ
