import NTV.Proofs.Lemmas.ZassenhausHensel
import NTV.Proofs.Lemmas.PolyZProofs3
/-! Berlekamp–Zassenhaus, part 2: the recombination invariant (no model here).
`cnt P L h` = number of lifted factors `G ∈ L` whose reduction modulo `P` divides that of `h`.
`Inv P e A a L d`: the state of the recombination loop: `a ∣ A` is what is left, `L` are the lifted factors
that belong to it, and every non-unit divisor of `a` owns at least `d` of them. -/
open Polynomial
namespace NTV.Zas
open NTV.Hensel NTV.PolyMod

theorem countP_add_le {α : Type*} (p1 p2 p : α → Bool) : ∀ (L : List α),
    (∀ x ∈ L, (p1 x = true → p x = true) ∧ (p2 x = true → p x = true) ∧ ¬ (p1 x = true ∧ p2 x = true)) →
    L.countP p1 + L.countP p2 ≤ L.countP p
  | [], _ => by simp
  | x :: L, h => by
    have ih := countP_add_le p1 p2 p L (fun y hy => h y (List.mem_cons_of_mem _ hy))
    obtain ⟨h1, h2, h3⟩ := h x List.mem_cons_self
    have hx : (if p1 x = true then 1 else 0) + (if p2 x = true then 1 else 0) ≤ (if p x = true then 1 else 0) := by
      by_cases a1 : p1 x = true
      · rw [if_pos a1, if_pos (h1 a1), if_neg fun a2 => h3 ⟨a1, a2⟩]
      · rw [if_neg a1, Nat.zero_add]
        by_cases a2 : p2 x = true
        · rw [if_pos a2, if_pos (h2 a2)]
        · rw [if_neg a2]
          exact Nat.zero_le _
    simp only [List.countP_cons]
    omega

open Classical in
/-- number of lifted factors whose reduction divides the reduction of `h` -/
noncomputable def cnt (P : ℕ) (L : List ℤ[X]) (h : ℤ[X]) : ℕ := L.countP (fun G => rd P G ∣ rd P h)

theorem cnt_le_length (P : ℕ) (L : List ℤ[X]) (h : ℤ[X]) : cnt P L h ≤ L.length := List.countP_le_length

open Classical in
theorem cnt_eq_zero (P : ℕ) (L : List ℤ[X]) (h : ℤ[X]) (hz : ∀ G ∈ L, ¬ rd P G ∣ rd P h) : cnt P L h = 0 := by
  refine List.countP_eq_zero.mpr fun G hG => ?_
  rw [decide_eq_true_eq]
  exact hz G hG

open Classical in
theorem cnt_pos (P : ℕ) (L : List ℤ[X]) (h : ℤ[X]) (G : ℤ[X]) (hG : G ∈ L) (hd : rd P G ∣ rd P h) :
    1 ≤ cnt P L h := by
  unfold cnt
  exact List.countP_pos_iff.mpr ⟨G, hG, decide_eq_true hd⟩

open Classical in
theorem cnt_filter (P : ℕ) (L : List ℤ[X]) (h : ℤ[X]) :
    (L.filter (fun G => rd P G ∣ rd P h)).length = cnt P L h := by
  unfold cnt; rw [List.countP_eq_length_filter]

section lifted
variable {P e : ℕ} {a : ℤ[X]} {L : List ℤ[X]}

theorem Lifted.fact (H : Lifted P e a L) : Fact P.Prime := ⟨H.prime⟩

theorem Lifted.prodP (H : Lifted P e a L) :
    rd P a = C (Int.castRingHom (ZMod P) a.leadingCoeff) * (L.map (rd P)).prod := by
  have h1 : PCong (P : ℤ) (C a.leadingCoeff * L.prod) a :=
    PCong.of_dvd (dvd_pow_self _ (by have := H.epos; omega)) H.prod
  have : rd P (C a.leadingCoeff * L.prod) = rd P a := (pcong_iff_map P _ _).mp h1
  rw [← this]
  simp only [rd, Polynomial.map_mul, Polynomial.map_C, Polynomial.map_list_prod]

theorem Lifted.dvd_a (H : Lifted P e a L) {G : ℤ[X]} (hG : G ∈ L) : rd P G ∣ rd P a := by
  rw [H.prodP]
  exact Dvd.dvd.mul_left (List.dvd_prod (List.mem_map_of_mem hG)) _

theorem Lifted.lc_ne (H : Lifted P e a L) : Int.castRingHom (ZMod P) a.leadingCoeff ≠ 0 := by
  have := H.fact
  rw [eq_intCast, Ne, ZMod.intCast_zmod_eq_zero_iff_dvd]
  exact H.lc

theorem Lifted.exists_factor (H : Lifted P e a L) {h : ℤ[X]} (hd : h ∣ a) (hnu : ¬ IsUnit (rd P h)) :
    ∃ G ∈ L, rd P G ∣ rd P h := by
  have := H.fact
  have ha0 : rd P a ≠ 0 := by
    rw [H.prodP]
    apply mul_ne_zero (by rw [Ne, C_eq_zero]; exact H.lc_ne)
    have : (L.map (rd P)).prod.Monic := by
      apply monic_list_prod'
      intro y hy
      obtain ⟨G, hG, rfl⟩ := List.mem_map.mp hy
      exact (H.monic G hG).map _
    exact this.ne_zero
  have hda : rd P h ∣ rd P a := Polynomial.map_dvd _ hd
  have hh0 : rd P h ≠ 0 := ne_zero_of_dvd_ne_zero ha0 hda
  obtain ⟨π, hπ, hπh⟩ := WfDvdMonoid.exists_irreducible_factor hnu hh0
  have hπa : π ∣ C (Int.castRingHom (ZMod P) a.leadingCoeff) * (L.map (rd P)).prod := by
    rw [← H.prodP]; exact hπh.trans hda
  have hπp : Prime π := hπ.prime
  rcases hπp.dvd_or_dvd hπa with h1 | h1
  · exfalso
    exact hπ.not_isUnit (isUnit_of_dvd_unit h1 (isUnit_C.mpr (IsUnit.mk0 _ H.lc_ne)))
  · obtain ⟨y, hy, hπy⟩ := hπp.dvd_prod_iff.mp h1
    obtain ⟨G, hG, rfl⟩ := List.mem_map.mp hy
    refine ⟨G, hG, ?_⟩
    exact ((hπ.associated_of_dvd (H.irr G hG) hπy).symm.dvd).trans hπh

theorem Lifted.cnt_add (H : Lifted P e a L) {h1 h2 : ℤ[X]} (hd : h1 * h2 ∣ a) :
    cnt P L h1 + cnt P L h2 ≤ cnt P L (h1 * h2) := by
  classical
  unfold cnt
  apply countP_add_le
  intro G hG
  simp only [decide_eq_true_eq]
  refine ⟨fun h => ?_, fun h => ?_, fun ⟨a1, a2⟩ => ?_⟩
  · simp only [rd, Polynomial.map_mul]; exact Dvd.dvd.mul_right h _
  · simp only [rd, Polynomial.map_mul]; exact Dvd.dvd.mul_left h _
  · have hsq : Squarefree (rd P (h1 * h2)) := H.sqf.squarefree_of_dvd (Polynomial.map_dvd _ hd)
    exact not_dvd_both rfl hsq (H.irr G hG) a1 a2

theorem normalise_const {P e : ℕ} (hP : P.Prime) (he : 1 ≤ e) {a M : ℤ[X]} {c : ℤ} (hM : M.Monic)
    (hlc : ¬ (P : ℤ) ∣ a.leadingCoeff) (h : PCong ((P : ℤ) ^ e) (C c * M) a) :
    a.natDegree = M.natDegree ∧ PCong ((P : ℤ) ^ e) (C a.leadingCoeff * M) a := by
  have _ : Fact (1 < P ^ e) := ⟨one_lt_pow' hP he⟩
  obtain ⟨u1, u2, u3⟩ := rd_lc hP he hlc
  have h1 := (pcong_pow_iff P e _ _).mp h
  have h2 : C (Int.castRingHom (ZMod (P ^ e)) c) * rd (P ^ e) M = rd (P ^ e) a := by
    rw [← h1]; simp only [rd, Polynomial.map_mul, Polynomial.map_C]
  have hMm : (rd (P ^ e) M).Monic := hM.map _
  have hc0 : Int.castRingHom (ZMod (P ^ e)) c ≠ 0 := by
    intro h0
    rw [h0, C_0, zero_mul] at h2
    rw [← h2, leadingCoeff_zero] at u3
    exact not_isUnit_zero u3
  have hlc' : (rd (P ^ e) a).leadingCoeff = Int.castRingHom (ZMod (P ^ e)) c := by
    rw [← h2, leadingCoeff_mul_monic hMm, leadingCoeff_C]
  have hdeg : (rd (P ^ e) a).natDegree = M.natDegree := by
    rw [← h2, natDegree_C_mul_of_mul_ne_zero (by rw [hMm.leadingCoeff, mul_one]; exact hc0),
      hM.natDegree_map]
  refine ⟨by rw [← u2, hdeg], ?_⟩
  rw [pcong_pow_iff, ← h2]
  simp only [rd, Polynomial.map_mul, Polynomial.map_C]
  rw [← u1, hlc']

theorem Lifted.natDegree_eq (H : Lifted P e a L) : a.natDegree = L.prod.natDegree :=
  (normalise_const H.prime H.epos (monic_list_prod' L H.monic) H.lc H.prod).1

end lifted

/-- the state of the recombination loop (see the file head); `A`, primitive, is the polynomial handed to the
recombination and stays fixed -/
structure Inv (P e : ℕ) (A a : ℤ[X]) (L : List ℤ[X]) (d : ℕ) : Prop where
  prim : A.IsPrimitive
  dvd : a ∣ A
  lifted : Lifted P e a L
  nonunit : ¬ IsUnit a
  dpos : 1 ≤ d
  big : ∀ h, h ∣ a → ¬ IsUnit h → d ≤ cnt P L h

section inv
variable {P e : ℕ} {A a : ℤ[X]} {L : List ℤ[X]} {d : ℕ}

theorem rd_not_isUnit (hP : P.Prime) {A h : ℤ[X]} (hprim : A.IsPrimitive) (hd : h ∣ A)
    (hlc : ¬ (P : ℤ) ∣ A.leadingCoeff) (hnu : ¬ IsUnit h) : ¬ IsUnit (rd P h) := by
  have _ : Fact P.Prime := ⟨hP⟩
  have hdeg := NTV.PolyZ.Alg.natDegree_pos_of_dvd_primitive hprim hd hnu
  obtain ⟨k, hk⟩ := hd
  have hl := (lc_factor hk hlc).1
  have := (rd_lc_one hP hl).1
  intro hu
  have := natDegree_eq_zero_of_isUnit hu
  omega

theorem Inv.init (hprim : A.IsPrimitive) (H : Lifted P e A L) (hnu : ¬ IsUnit A) : Inv P e A A L 1 := by
  refine ⟨hprim, dvd_refl _, H, hnu, le_refl _, ?_⟩
  intro h hd hnu'
  obtain ⟨G, hG, hGd⟩ := H.exists_factor hd (rd_not_isUnit H.prime hprim hd H.lc hnu')
  exact cnt_pos P L h G hG hGd

theorem Inv.next (I : Inv P e A a L d) (hno : ∀ h, h ∣ a → ¬ IsUnit h → cnt P L h ≠ d) :
    Inv P e A a L (d + 1) := by
  refine ⟨I.prim, I.dvd, I.lifted, I.nonunit, by omega, ?_⟩
  intro h hd hnu
  have := I.big h hd hnu
  have := hno h hd hnu
  omega

theorem Inv.exit (I : Inv P e A a L d) (hlen : L.length < 2 * d) : Irreducible a := by
  rw [irreducible_iff]
  refine ⟨I.nonunit, ?_⟩
  intro h1 h2 hfac
  by_contra hcon
  rw [not_or] at hcon
  have c1 := I.big h1 ⟨h2, hfac⟩ hcon.1
  have c2 := I.big h2 ⟨h1, by rw [hfac]; ring⟩ hcon.2
  have c3 := I.lifted.cnt_add (h1 := h1) (h2 := h2) (by rw [hfac])
  have c4 := cnt_le_length P L (h1 * h2)
  -- h1 and h2 own ≥ d lifted factors each, disjointly (c3), out of |L| < 2d
  omega

/-- scaling `h ≡ lc(h)·F` by the leading coefficient of the cofactor: `lc(h')·h ≡ lc(a)·F` -/
theorem pcong_scale {m : ℤ} {a h h' F : ℤ[X]} (hfac : a = h * h') (hc : PCong m (C h.leadingCoeff * F) h) :
    PCong m (C h'.leadingCoeff * h) (C a.leadingCoeff * F) := by
  have := (PCong.mul (PCong.refl m (C h'.leadingCoeff)) hc).symm
  rwa [← mul_assoc, ← C_mul, mul_comm h'.leadingCoeff, ← leadingCoeff_mul, ← hfac] at this

/-- the candidate that the enumeration meets for a true divisor `h` (with cofactor `h'`) is `lc(h')·h` -/
theorem Lifted.candidate (H : Lifted P e a L) {h h' : ℤ[X]} (hfac : a = h * h') :
    (open Classical in
      PCong ((P : ℤ) ^ e) (C h'.leadingCoeff * h)
        (C a.leadingCoeff * (L.filter (fun G => rd P G ∣ rd P h)).prod)) ∧
    C h'.leadingCoeff * h ∣ C a.leadingCoeff * a := by
  classical
  constructor
  · exact pcong_scale hfac (hensel_subset H hfac).1
  · refine ⟨C h.leadingCoeff * h', ?_⟩
    rw [hfac, leadingCoeff_mul, C_mul]; ring

theorem isUnit_rd (m : ℕ) {F : ℤ[X]} (h : IsUnit F) : IsUnit (rd m F) :=
  h.map (mapRingHom (Int.castRingHom (ZMod m)))

theorem cancel_of_map {R S : Type*} [CommRing R] [CommRing S] (φ : R →+* S) {u t t' c p x y : R}
    (hreg : IsLeftRegular (φ (u * t))) (h1 : φ (c * p) = φ (u * t)) (h3 : φ (u * (t * t')) = φ x)
    (h4 : x = y * p) : φ (c * t') = φ y := by
  apply hreg
  calc φ (u * t) * φ (c * t') = φ c * φ (u * (t * t')) := by
        rw [← φ.map_mul, ← φ.map_mul]; congr 1; ring
    _ = φ (c * p) * φ y := by
        rw [h3, h4, ← φ.map_mul, ← φ.map_mul]; congr 1; ring
    _ = φ (u * t) * φ y := by rw [h1]

/-- an accepted candidate `prod' = c·pp ≡ lc(a)·∏ T` with `a = a'·pp`: cancelling `lc(a)·∏ T` modulo `P^e` leaves
`a' ≡ c·∏ T'`, so `T'` are the lifted factors of `a'`; modulo `P` every `G ∈ T` divides `pp` -/
theorem Lifted.step (H : Lifted P e a L) {T T' : List ℤ[X]} (hperm : L.Perm (T ++ T'))
    {prod' pp a' : ℤ[X]} {c : ℤ} (hcong : PCong ((P : ℤ) ^ e) prod' (C a.leadingCoeff * T.prod))
    (hpp : prod' = C c * pp) (hfac : a = a' * pp) :
    Lifted P e a' T' ∧ ∀ G ∈ T, rd P G ∣ rd P pp := by
  have hF := H.fact
  have _ : Fact (1 < P ^ e) := ⟨one_lt_pow' H.prime H.epos⟩
  have memT : ∀ G ∈ T, G ∈ L := fun G hG => hperm.mem_iff.mpr (List.mem_append_left _ hG)
  have memT' : ∀ G ∈ T', G ∈ L := fun G hG => hperm.mem_iff.mpr (List.mem_append_right _ hG)
  have hmT : T.prod.Monic := monic_list_prod' T fun G hG => H.monic G (memT G hG)
  have hmT' : T'.prod.Monic := monic_list_prod' T' fun G hG => H.monic G (memT' G hG)
  obtain ⟨l1, l2⟩ := lc_factor hfac H.lc
  subst hpp
  constructor
  · -- modulo P^e: cancel `lc(a)·∏ T` (a unit times a monic polynomial) from `a ≡ lc(a)·∏ T·∏ T'`, `a = a'·pp`
    have hreg : IsLeftRegular (rd (P ^ e) (C a.leadingCoeff * T.prod)) := by
      rw [rd, Polynomial.map_mul, Polynomial.map_C]
      exact (isUnit_C.mpr (isUnit_cast H.prime e H.lc)).isRegular.left.mul (hmT.map _).isRegular.left
    have h3 := (pcong_pow_iff P e _ _).mp H.prod
    rw [hperm.prod_eq, List.prod_append] at h3
    have x6 : PCong ((P : ℤ) ^ e) (C c * T'.prod) a' :=
      (pcong_pow_iff P e _ _).mpr
        (cancel_of_map (mapRingHom (Int.castRingHom (ZMod (P ^ e)))) hreg ((pcong_pow_iff P e _ _).mp hcong) h3 hfac)
    exact ⟨H.prime, H.epos, l1, H.sqf.squarefree_of_dvd (Polynomial.map_dvd _ ⟨pp, hfac⟩),
      fun G hG => H.monic G (memT' G hG), fun G hG => H.irr G (memT' G hG),
      (normalise_const H.prime H.epos hmT' l1 x6).2⟩
  · -- modulo P: `c̄·pp = lc(a)·∏ T ≠ 0`, so `c̄` is a unit and `∏ T ∣ pp`
    have e1 : C (Int.castRingHom (ZMod P) c) * rd P pp
        = C (Int.castRingHom (ZMod P) a.leadingCoeff) * rd P T.prod := by
      have := (pcong_iff_map P _ _).mp (PCong.of_dvd (dvd_pow_self _ (by have := H.epos; omega)) hcong)
      simpa only [rd, Polynomial.map_mul, Polynomial.map_C] using this
    have hc0 : Int.castRingHom (ZMod P) c ≠ 0 := by
      intro h0
      rw [h0, C_0, zero_mul] at e1
      exact mul_ne_zero (by rw [Ne, C_eq_zero]; exact H.lc_ne) (hmT.map _).ne_zero e1.symm
    have hTpp : rd P T.prod ∣ rd P pp :=
      (IsUnit.dvd_mul_left (isUnit_C.mpr (IsUnit.mk0 _ hc0))).mp (by rw [e1]; exact dvd_mul_left _ _)
    intro G hG
    exact (Polynomial.map_dvd (Int.castRingHom (ZMod P)) (List.dvd_prod hG)).trans hTpp

/-- **Z3, the step.** An accepted candidate — a sub-list `T` of `d` lifted factors (`L ~ T ++ T'`), a
polynomial `prod' ≡ lc(a)·∏ T (mod P^e)` whose primitive part `pp` (`prod' = c·pp`) divides `a` exactly
(`a = a'·pp`) — is irreducible, and the invariant holds for the cofactor with the remaining factors. -/
theorem Inv.step (I : Inv P e A a L d) {T T' : List ℤ[X]} (hperm : L.Perm (T ++ T')) (hT : T.length = d)
    (hlen : 2 * d ≤ L.length) {prod' pp a' : ℤ[X]} {c : ℤ}
    (hcong : PCong ((P : ℤ) ^ e) prod' (C a.leadingCoeff * T.prod))
    (hpp : prod' = C c * pp) (hfac : a = a' * pp) :
    Irreducible pp ∧ Inv P e A a' T' d := by
  have H := I.lifted
  have hF := H.fact
  obtain ⟨H', dvdT⟩ := H.step hperm hcong hpp hfac
  have memT : ∀ G ∈ T, G ∈ L := fun G hG => hperm.mem_iff.mpr (List.mem_append_left _ hG)
  have memT' : ∀ G ∈ T', G ∈ L := fun G hG => hperm.mem_iff.mpr (List.mem_append_right _ hG)
  have hlenL : L.length = T.length + T'.length := by rw [hperm.length_eq, List.length_append]
  have hdpos := I.dpos
  have sepT : ∀ G ∈ T, ¬ rd P G ∣ rd P a' := fun G hG hd =>
    not_dvd_both hfac H.sqf (H.irr G (memT G hG)) hd (dvdT G hG)
  have sepT' : ∀ G ∈ T', ¬ rd P G ∣ rd P pp := fun G hG hd =>
    not_dvd_both hfac H.sqf (H.irr G (memT' G hG)) (H'.dvd_a hG) hd
  have cntL : ∀ h, cnt P L h = cnt P T h + cnt P T' h := fun h => by
    exact (hperm.countP_eq _).trans List.countP_append
  constructor
  · rw [irreducible_iff]
    constructor
    · intro hu
      obtain ⟨G, hG⟩ := List.exists_mem_of_length_pos (l := T) (by omega)
      exact (H.irr G (memT G hG)).not_isUnit (isUnit_of_dvd_unit (dvdT G hG) (isUnit_rd P hu))
    · intro h1 h2 hf
      by_contra hcon
      rw [not_or] at hcon
      have hd12 : h1 * h2 ∣ a := ⟨a', by rw [hfac, hf, mul_comm]⟩
      have c1 := I.big h1 ((dvd_mul_right h1 h2).trans hd12) hcon.1
      have c2 := I.big h2 ((dvd_mul_left h2 h1).trans hd12) hcon.2
      have c3 := H.cnt_add hd12
      have c4 : cnt P T' (h1 * h2) = 0 := cnt_eq_zero P T' _ (by rw [← hf]; exact sepT')
      have c5 := cnt_le_length P T (h1 * h2)
      have c6 := cntL (h1 * h2)
      -- h1 and h2 own ≥ d lifted factors each, disjointly (c3); h1·h2 = pp owns none of T' and at most |T| = d of T
      omega
  · refine ⟨I.prim, Dvd.dvd.trans ⟨pp, hfac⟩ I.dvd, H', ?_, I.dpos, ?_⟩
    · intro hu
      obtain ⟨G, hG⟩ := List.exists_mem_of_length_pos (l := T') (by omega)
      exact (H.irr G (memT' G hG)).not_isUnit (isUnit_of_dvd_unit (H'.dvd_a hG) (isUnit_rd P hu))
    · intro h hd hnu
      have c1 := I.big h (Dvd.dvd.trans hd ⟨pp, hfac⟩) hnu
      have c2 : cnt P T h = 0 := cnt_eq_zero P T _ fun G hG hGd =>
        sepT G hG (hGd.trans (Polynomial.map_dvd _ hd))
      have := cntL h
      omega

end inv
end NTV.Zas
